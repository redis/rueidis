/-
`atPos` and `pos` are inverse to each other on stored calls.
-/
import Rv.Lemmas.RingInvB
namespace Rv.Ring

def InvP (σ : State) : Prop := ∀ c, σ.pos c ≠ 0 → σ.atPos (σ.pos c) = c

theorem InvP.init (k : Nat) : InvP (init k) := by intro c h; simp [Ring.init] at h

section
variable {k : Nat} {σ : State}

theorem pos_ne_free (hi : Inv k σ) {s : Nat} (hsN : s < 2 ^ k)
    (hm : (σ.slot s).mark = 0) (c : Nat) (hne : σ.pos c ≠ 0) :
    σ.pos c ≠ (σ.slot s).gen := by
  have hgt : σ.read1 < (σ.slot s).gen := by have := hi.a.mark2 s hsN; omega
  have hlo := hi.a.genlo s hsN
  have hr := hi.a.r21
  have live : ∀ s', (σ.pc c = .filled s' ∨ σ.pc c = .bcast s') → σ.pos c ≠ (σ.slot s).gen := by
    intro s' hpc
    obtain ⟨hs', l2⟩ := hi.b.live c s' hpc
    rcases l2 with l2 | l2
    · obtain ⟨c'', h1, _, _, h4⟩ := hi.b.occ s' hs' l2.1
      rw [l2.2] at h1; injection h1 with h1; subst h1
      rw [h4]
      exact gen_ne_of_slot_ne hi.a hsN hs' (by rintro rfl; exact l2.1 hm)
    · have := (hi.b.hold s' c l2).2.2.1
      omega
  cases hpc : σ.pc c with
  | idle => exact absurd (hi.b.idl c hpc) hne
  | ready s' => exact absurd (hi.b.rdy c s' hpc).2 hne
  | waiting s' => exact absurd (hi.b.wtg c s' hpc).2 hne
  | done r =>
    have := (hi.b.dne c r hpc).2.2
    have := ndeliv_le σ
    omega
  | filled s' => exact live s' (.inl hpc)
  | bcast s' => exact live s' (.inr hpc)

theorem InvP.step (hi : Inv k σ) (h : InvP σ) (l : Label)
    (he : enabled k l σ = true) : InvP (apply k l σ) := by
  apply step_cases (motive := fun _ τ => InvP τ) l he
  case fill =>
    intro c s hpc _ hm c'
    dsimp only; rw [upd_apply (j := c')]; split
    · subst_vars; exact fun _ => upd_same ..
    · intro hne
      rw [upd_other _ _ _ _ (pos_ne_free hi (hi.b.rdy c s hpc).1 hm c' hne)]
      exact h c' hne
  all_goals intros; exact h

theorem InvP.of_reachable (hk : k ≤ 32) (h : Reachable k σ) : InvP σ := by
  induction h with
  | init => exact InvP.init k
  | step l hr he ih => exact ih.step (Inv.of_reachable hk hr) l he

end

end Rv.Ring
