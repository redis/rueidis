/-
Ticket order is hand-off order as long as no more callers are in flight than there are slots
(`Bounded`): a caller's ticket is then still inside the reader's window when the caller fills its
slot, so the position it fills is its ticket.
-/
import Rv.Lemmas.RingLive
import Rv.Lemmas.RingLogs
namespace Rv.Ring

/-- at most N tickets beyond the completed positions: never more callers in flight than slots -/
def Bounded (k : Nat) (σ : State) : Prop := σ.write ≤ σ.read2 + 2 ^ k

instance (k : Nat) (σ : State) : Decidable (Bounded k σ) := by unfold Bounded; infer_instance

/-- runs in which the number of callers in flight never exceeds the number of slots -/
inductive ReachableB (k : Nat) : State → Prop
  | init : ReachableB k (init k)
  | step {σ : State} (l : Label) : ReachableB k σ → enabled k l σ = true →
      Bounded k (apply k l σ) → ReachableB k (apply k l σ)

theorem ReachableB.reachable {k : Nat} {σ : State} (h : ReachableB k σ) : Reachable k σ := by
  induction h with
  | init => exact Reachable.init
  | step l _ he _ ih => exact Reachable.step l ih he

theorem ReachableB.bounded {k : Nat} {σ : State} (h : ReachableB k σ) : Bounded k σ := by
  cases h with
  | init => simp [Bounded, Ring.init]
  | step l _ _ hb => exact hb

def runB (k : Nat) : State → List Label → Option State
  | σ, [] => some σ
  | σ, l :: ls =>
    if enabled k l σ ∧ Bounded k (apply k l σ) then runB k (apply k l σ) ls else none

theorem runB_reachable (k : Nat) : ∀ (ls : List Label) (σ σ' : State),
    ReachableB k σ → runB k σ ls = some σ' → ReachableB k σ' := by
  intro ls
  induction ls with
  | nil => intro σ σ' h r; simp [runB] at r; exact r ▸ h
  | cons l ls ih =>
    intro σ σ' h r
    simp only [runB] at r
    split at r
    · rename_i he; exact ih _ _ (ReachableB.step l h he.1 he.2) r
    · cases r

/-- while callers ≤ slots: every caller still holding a ticket holds the ticket of a position
    that is not completed yet, and every stored command sits at the position of its ticket -/
structure InvJ (k : Nat) (σ : State) : Prop where
  j1 : ∀ c s, (σ.pc c = .ready s ∨ σ.pc c = .waiting s) → s = (c + 1) % 2 ^ k ∧ σ.read2 < c + 1
  j2 : ∀ c, σ.pos c ≠ 0 → σ.pos c = c + 1
  j3 : σ.read1 ≤ σ.write

section
variable {k : Nat} {σ : State}

theorem InvJ.step (hk : k ≤ 32) (f : Full k σ) (hb : Bounded k σ) (h : InvJ k σ)
    (l : Label) (he : enabled k l σ = true) : InvJ k (apply k l σ) := by
  have ha := f.i.a
  have hB := f.i.b
  -- a caller that ends up neither `ready` nor `waiting` leaves the ticket holders alone
  have pc : ∀ {c v} c' s', upd σ.pc c v c' = .ready s' ∨ upd σ.pc c v c' = .waiting s' →
      v ≠ .ready s' → v ≠ .waiting s' → s' = (c' + 1) % 2 ^ k ∧ σ.read2 < c' + 1 :=
    fun c' s' hh h1 h2 => h.j1 c' s' (hh.imp (fun hh => (upd_eq_old hh h1).2) fun hh => (upd_eq_old hh h2).2)
  -- a caller that keeps its ticket
  have keep : ∀ {c s v}, (σ.pc c = .ready s ∨ σ.pc c = .waiting s) → (v = .ready s ∨ v = .waiting s) →
      ∀ c' s', upd σ.pc c v c' = .ready s' ∨ upd σ.pc c v c' = .waiting s' →
        s' = (c' + 1) % 2 ^ k ∧ σ.read2 < c' + 1 := by
    intro c s v hu hv c' s' hh
    rw [upd_apply] at hh; split at hh
    · subst_vars
      have : s' = s := by rcases hv with rfl | rfl <;> rcases hh with hh | hh <;> cases hh <;> rfl
      exact this ▸ h.j1 _ s hu
    · exact h.j1 c' s' hh
  apply step_cases (motive := fun _ τ => InvJ k τ) l he
  case arrive =>
    intro s hs
    refine ⟨fun c s' hh => ?_, h.j2, Nat.le_succ_of_le h.j3⟩
    dsimp only at hh; rw [upd_apply] at hh; split at hh
    · subst_vars
      have : s' = slotOf k (σ.write + 1) := by rcases hh with hh | hh <;> cases hh; rfl
      rw [this, slotOf_eq k _ hk, hB.wn]
      have := h.j3; have := ha.r21; have := hB.wn
      exact ⟨rfl, by dsimp only; omega⟩
    · exact h.j1 c s' hh
  case fill =>
    intro c s hpc _ hm
    obtain ⟨hs, hlt⟩ := h.j1 c s (Or.inl hpc)
    -- the position filled is the caller's ticket: the ticket is still inside the reader's window
    have hgen : (σ.slot s).gen = c + 1 := by
      have hcl : c < σ.ncalls := lt_ncalls f.i c (by rw [hpc]; nofun)
      have hw := hB.wn
      unfold Bounded at hb
      exact hs ▸ ha.gen_of_window (c + 1) hlt (by omega)
    refine ⟨fun c' s' hh => pc c' s' hh (by split <;> nofun) (by split <;> nofun), ?_, h.j3⟩
    intro c'; dsimp only; rw [upd_apply]; split
    · subst_vars; exact fun _ => hgen
    · exact h.j2 c'
  case park => exact fun c s hpc _ => ⟨keep (.inl hpc) (.inr rfl), h.j2, h.j3⟩
  case wake => exact fun c s _ hpc => ⟨keep (.inr hpc) (.inl rfl), h.j2, h.j3⟩
  case bcast => exact fun c s _ => ⟨fun c' s' hh => pc c' s' hh nofun nofun, h.j2, h.j3⟩
  case deliver => exact fun c s r _ _ => ⟨fun c' s' hh => pc c' s' hh nofun nofun, h.j2, h.j3⟩
  case take =>
    intro _ s b hw _ hm
    obtain ⟨hsN, hgen⟩ := ha.gen_write (ha.wslot hk hw) hm
    have := filled_le_write f.t hsN (by omega)
    exact ⟨h.j1, h.j2, by simp only [Ring.take]; omega⟩
  case rTake =>
    intro s hs _ hm
    rw [slotOf_eq k _ hk] at hs
    obtain ⟨hsN, hgen⟩ := ha.gen_read hs
    obtain ⟨c0, _, hpc0, _, hpos0⟩ := hB.occ _ hsN (by omega)
    have hc0 : c0 = σ.read2 := by
      have := h.j2 c0 (by rw [hpos0, hgen]; omega)
      rw [hpos0, hgen] at this; omega
    refine ⟨fun c s' hh => ?_, h.j2, h.j3⟩
    obtain ⟨a, b⟩ := h.j1 c s' hh
    have : c ≠ c0 := by
      rintro rfl
      rcases hh with hh | hh <;> rcases hpc0 with p | p <;> rw [p] at hh <;> cases hh
    exact ⟨a, by dsimp only; omega⟩
  all_goals intros; exact ⟨h.j1, h.j2, h.j3⟩

theorem InvJ.of_reachableB (hk : k ≤ 32) (h : ReachableB k σ) : InvJ k σ := by
  induction h with
  | init => exact ⟨by simp [Ring.init], by simp [Ring.init], by simp [Ring.init]⟩
  | step l hr he _ ih =>
    exact ih.step hk (Full.of_reachable hk hr.reachable) hr.bounded l he

theorem wlog_ticket_order (hk : k ≤ 32) (h : ReachableB k σ) :
    σ.wlog = List.range σ.read1 := by
  have j := InvJ.of_reachableB hk h
  have i := Inv.of_reachable hk h.reachable
  rw [i.b.wlog_eq, posList_congr (· - 1) σ.atPos σ.read1 fun p h1 h2 => by
    have a := i.b.atpos p h1 h2
    have b := j.j2 (σ.atPos p) (by omega)
    omega]
  simp [posList]

end

end Rv.Ring
