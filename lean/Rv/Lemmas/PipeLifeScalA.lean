/-
Pipe life model: the scalar invariant `InvA` under the updates the steps are built from. Each lemma
changes one group of fields and asks only for the clauses of `InvA` that mention it.
-/
import Rv.Lemmas.PipeLifeBasic
namespace Rv.PipeLife

theorem A_same {s s' : St} (h : scal s' = scal s) (ha : InvA (scal s)) : InvA (scal s') := h ▸ ha

/-- The error latch, the dead connection and `state` 1 → 2 (with the error latched) only go one way, and
    `InvA` mentions `connUp = false` and `err ≠ none` only as conclusions. -/
theorem InvA.mono {v v' : Scal} (ha : InvA v) (htd : v'.td = v.td) (hwr : v'.writer = v.writer)
    (hcl : v'.close = v.close) (hst : v'.state = v.state ∨ v.state = 1 ∧ v'.state = 2 ∧ v'.err ≠ none)
    (hc : v.connUp = false → v'.connUp = false) (he : v.err ≠ none → v'.err ≠ none) : InvA v' := by
  have h10 := ha.a10
  refine ⟨fun h => ?_, fun h => ?_, by rw [htd, hwr]; exact ha.a3, fun h => ?_, fun h => ?_, ?_, fun h => ?_,
    fun h => ?_, fun h => ?_, by omega, by rw [htd, hwr]; exact ha.a11, fun h => ?_, fun h1 h2 => ?_⟩
  · rcases hst with h1 | ⟨_, _, h3⟩
    · exact he (ha.a1 (by omega))
    · exact h3
  · rw [htd] at h
    have := ha.a2 h
    exact ⟨by omega, hc this.2.1, he this.2.2⟩
  · rw [htd]; exact ha.a4 (by omega)
  · rw [hcl] at h; exact hc (ha.a5 h)
  · rw [htd, ← ha.a6]; omega
  · rw [hcl] at h; exact he (ha.a7 h)
  · rw [hcl] at h; have := ha.a8 h; omega
  · rw [hwr] at h; exact ⟨hc (ha.a9 h).1, he (ha.a9 h).2⟩
  · rw [htd] at h; have := ha.a12 h; omega
  · rw [htd] at h1; rw [hcl] at h2; have := ha.a13 h1 h2; omega

/-- `exitConn` on the scalars -/
theorem InvA.exit {v : Scal} (ha : InvA v) (w : Why) :
    InvA { v with err := latch w v.err, state := if v.state = 1 then 2 else v.state, connUp := false } :=
  ha.mono rfl rfl rfl
    (if h : v.state = 1 then Or.inr ⟨h, if_pos h, latch_ne _ _⟩ else Or.inl (if_neg h))
    (fun _ => rfl) (fun _ => latch_ne _ _)

theorem InvA.setTd {v : Scal} (ha : InvA v) {cur : Td} (hcur : v.td = cur) (t : Td)
    (hne : cur ≠ .off ∧ cur ≠ .finished ∧ t ≠ .off ∧ t ≠ .finished)
    (h2 : tdPast t = true → 2 ≤ v.state ∧ v.connUp = false ∧ v.err ≠ none) : InvA { v with td := t } :=
  have h0 : v.td ≠ .off := hcur ▸ hne.1
  have hf : v.td ≠ .finished := hcur ▸ hne.2.1
  ⟨ha.a1, h2, ⟨fun h => absurd h hne.2.2.1, fun h => absurd (ha.a3.mpr h) h0⟩, fun _ => hne.2.2.1, ha.a5,
    ⟨fun h => absurd (ha.a6.mp h) hf, fun h => absurd h hne.2.2.2⟩, ha.a7, ha.a8, ha.a9, ha.a10,
    fun h => absurd h hne.2.2.2, fun _ => ha.a12 h0, fun h => absurd h hne.2.2.1⟩

theorem InvA.past {v : Scal} (ha : InvA v) {cur : Td} (hcur : v.td = cur) (hp : tdPast cur = true) :
    2 ≤ v.state ∧ v.connUp = false ∧ v.err ≠ none := ha.a2 (hcur ▸ hp)

theorem InvA.setWriter {v : Scal} (ha : InvA v) {d : Bool} (hw : v.writer = .run d) (w : Wr) (w0 : w ≠ .off)
    (h9 : w = .exited → v.connUp = false ∧ v.err ≠ none) : InvA { v with writer := w } :=
  ⟨ha.a1, ha.a2, ⟨fun h => (nomatch hw ▸ ha.a3.mp h), fun h => absurd h w0⟩, ha.a4, ha.a5,
    ha.a6, ha.a7, ha.a8, h9, ha.a10, fun h => (nomatch hw ▸ ha.a11 h), ha.a12, ha.a13⟩

/-- only Close's program counter changes -/
theorem InvA.setClose {v : Scal} (ha : InvA v) (c : ClosePc) (h5 : c = .done → v.connUp = false)
    (h7 : c ≠ .idle → v.err ≠ none)
    (h8 : (∃ b, c = .casDone b) ∨ c = .pingWait ∨ c = .tail ∨ c = .done → 2 ≤ v.state)
    (h13 : v.td = .off → (c = .idle ∨ ∃ w, c = .entered w) → v.state = 0) : InvA { v with close := c } :=
  ⟨ha.a1, ha.a2, ha.a3, ha.a4, h5, ha.a6, h7, h8, ha.a9, ha.a10, ha.a11, ha.a12, h13⟩

/-- Close's program counter moves on after the CAS: `state ≥ 2` and the error are there already -/
theorem InvA.closeLate {v : Scal} (ha : InvA v) (hl : (∃ b, v.close = .casDone b) ∨ v.close = .pingWait ∨ v.close = .tail)
    (c : ClosePc) (hc : c = .pingWait ∨ c = .tail ∨ c = .done ∧ v.connUp = false) : InvA { v with close := c } := by
  have h2 : 2 ≤ v.state := ha.a8 (by rcases hl with h | h | h <;> simp [h])
  have herr : v.err ≠ none := ha.a7 (by rcases hl with ⟨b, h⟩ | h | h <;> rw [h] <;> nofun)
  refine ha.setClose c (fun h => ?_) (fun _ => herr) (fun _ => h2) (fun _ h => ?_)
  · rcases hc with h1 | h1 | h1
    · rw [h1] at h; cases h
    · rw [h1] at h; cases h
    · exact h1.2
  · rcases hc with h1 | h1 | ⟨h1, _⟩ <;> rw [h1] at h <;> rcases h with h | ⟨w, h⟩ <;> cases h

theorem InvA.cas {s : St} {w : Nat} (hc : s.close = .entered w) (ha : InvA (scal s)) : InvA (scal (casSt s)) := by
  have herr : s.err ≠ none := ha.a7 (by show s.close ≠ .idle; rw [hc]; nofun)
  have h10 : s.state = 0 ∨ s.state = 1 ∨ s.state = 2 ∨ s.state = 4 := ha.a10
  by_cases hst : isStopping s.state = true
  · -- state 0 or 1 becomes 2
    have hs : s.state = 0 ∨ s.state = 1 := by simpa [isStopping] using hst
    have e : scal (casSt s) = { scal s with state := 2, close := .casDone true } := by simp [scal, casSt, hst]
    rw [e]
    refine ⟨fun _ => herr, fun h => ?_, ha.a3, nofun, nofun, ⟨nofun, fun h => ?_⟩, fun _ => herr,
      fun _ => Nat.le_refl 2, ha.a9, Or.inr (Or.inr (Or.inl rfl)), ha.a11, fun _ => nofun, fun _ h => ?_⟩
    · have := ha.a2 h; exact ⟨Nat.le_refl 2, this.2.1, this.2.2⟩
    · have : s.state = 4 := ha.a6.mpr h; omega
    · rcases h with h | ⟨w, h⟩ <;> cases h
  · have hs : ¬ (s.state = 0 ∨ s.state = 1) := by simpa [isStopping] using hst
    have e : scal (casSt s) = { scal s with close := .casDone false } := by simp [scal, casSt, hst]
    rw [e]
    exact ha.setClose _ nofun (fun _ => herr) (fun _ => by show 2 ≤ s.state; omega)
      (fun _ h => by rcases h with h | ⟨w, h⟩ <;> cases h)

end Rv.PipeLife
