/-
Pipe life model: the step function as a relation. `Step fix s l s'` has one constructor for every
enabled branch of every label, with the branch's guards as hypotheses and the new state written as
in `Rv/Model/PipeLife.lean`. The proofs that every step preserves an invariant, or leaves some
field alone, are case analyses on `Step`.
-/
import Rv.Lemmas.PipeLifeBasic
namespace Rv.PipeLife

inductive Step (fix : Bool) (s : St) : Label → St → Prop where
  | enterDone (i : Nat) : stOf s i = some .idle → ctxDoneOf s i = true →
      Step fix s (.enter i) { (setSt i .done s) with log := s.log ++ [(i, .ctx)] }
  | enter (i : Nat) : stOf s i = some .idle → ¬ ctxDoneOf s i = true →
      Step fix s (.enter i) { (setSt i (.counted (s.waits + 1)) s) with waits := s.waits + 1 }
  | toQueue (i w : Nat) : stOf s i = some (.counted w) → s.state = 1 ∨ s.state = 0 ∧ w ≠ 1 →
      Step fix s (.decide i) (setSt i .toQueue s)
  | toQueueBg (i w : Nat) : stOf s i = some (.counted w) → s.state = 0 → w = 1 → needBgOf s i = true →
      Step fix s (.decide i) (setSt i .toQueue (startBg s))
  | sync (i w : Nat) : stOf s i = some (.counted w) → s.state = 0 → w = 1 → ¬ needBgOf s i = true →
      Step fix s (.decide i) { (setSt i .syncing s) with wire := s.wire ++ [i] }
  | reject (i w : Nat) : stOf s i = some (.counted w) → ¬ s.state = 1 → ¬ s.state = 0 →
      Step fix s (.decide i) (setSt i (.got (latched s.err) (fix && w == 1)) s)
  | put (i : Nat) : stOf s i = some .toQueue →
      Step fix s (.put i) { (setSt i .waiting s) with queue := s.queue ++ [{ owner := .call i }] }
  | putFail (i : Nat) : stOf s i = some .toQueue → ctxDoneOf s i = true →
      Step fix s (.putFail i) { (setSt i .done s) with waits := s.waits - 1, log := s.log ++ [(i, .ctx)] }
  | syncOk (i : Nat) : stOf s i = some .syncing → s.connUp = true →
      Step fix s (.syncOk i) (setSt i (.got .reply true) s)
  | syncErr (i : Nat) : stOf s i = some .syncing → (!s.connUp || ctxDoneOf s i) = true →
      Step fix s (.syncErr i) (setSt i (.got (if s.connUp then .ctx else .transport) true)
        (startBg { s with err := latch .broken s.err, connUp := false }))
  | leaveBg (i : Nat) (r : Res) (sb : Bool) : stOf s i = some (.got r sb) → (sb && s.waits - 1 != 0) = true →
      Step fix s (.leave i) (startBg (leaveSt i r s))
  | leave (i : Nat) (r : Res) (sb : Bool) : stOf s i = some (.got r sb) → ¬ (sb && s.waits - 1 != 0) = true →
      Step fix s (.leave i) (leaveSt i r s)
  | abort (i : Nat) : stOf s i = some .waiting → ctxDoneOf s i = true →
      Step fix s (.abort i) { (setSt i .aborted s) with log := s.log ++ [(i, .ctx)] }
  | cancel (i : Nat) : (canDoneOf s i && !ctxDoneOf s i) = true →
      Step fix s (.cancel i) { s with calls := s.calls.modify i setDone }
  | connBreak : s.connUp = true → Step fix s .connBreak { s with connUp := false }
  | pingFail : s.err = none → Step fix s .pingFail (exitConn .broken s)
  | wTake (d : Bool) (o : Owner) (q : List Entry) : s.writer = .run d → takeFirst s.queue = some (o, q) →
      Step fix s .wTake { s with queue := q, wcnt := s.wcnt + 1, writer := .run true, wire := wireAdd o s.wire }
  | flush : s.writer = .run true → takeFirst s.queue = none → s.connUp = true →
      Step fix s .wFlush { s with writer := .run false }
  | flushErr : s.writer = .run true → takeFirst s.queue = none → ¬ s.connUp = true →
      Step fix s .wFlush { (exitConn .broken s) with writer := .exited }
  | rFetch (e : Entry) (es : List Entry) : s.td = .reading → s.inflight = none → s.queue = e :: es →
      (e.taken && s.connUp) = true →
      Step fix s .rFetch { s with queue := es, inflight := some e.owner, rcnt := s.rcnt + 1 }
  | rDeliver (o : Owner) : s.td = .reading → s.inflight = some o → s.connUp = true →
      Step fix s .rDeliver (deliver o .reply { s with inflight := none })
  | rErr : s.td = .reading → ¬ s.connUp = true →
      Step fix s .rErr { (exitConn .broken (deferDeliver s)) with td := .exited }
  | noSpawn : s.td = .exited → s.writer = .exited → Step fix s .tdSpawn { s with td := .draining false }
  | spawn : s.td = .exited → ¬ s.writer = .exited →
      Step fix s .tdSpawn { s with td := .draining false, waits := s.waits + 1, bgPing := .toPut }
  | bgPingPut : s.bgPing = .toPut →
      Step fix s .bgPingPut { s with bgPing := .waiting, queue := s.queue ++ [{ owner := .bgPing }] }
  | loopDone (c : Bool) : s.td = .draining c → s.waits = 0 → Step fix s .tdIter { s with td := .loopDone }
  | drain (c : Bool) (e : Entry) (es : List Entry) : s.td = .draining c → ¬ s.waits = 0 →
      drainQueue (seenClosed c s) s.queue = e :: es → e.taken = true →
      Step fix s .tdIter (deliver e.owner (drainRes (seenClosed c s) s)
        { s with td := .draining (seenClosed c s), queue := es, rcnt := s.rcnt + 1 })
  | seeClosed (c : Bool) : s.td = .draining c → ¬ s.waits = 0 → drainQueue (seenClosed c s) s.queue = [] →
      (seenClosed c s != c) = true → Step fix s .tdIter { s with td := .draining (seenClosed c s) }
  | tdClose : s.td = .loopDone → s.writer = .exited → Step fix s .tdClose { s with td := .finished, state := 4 }
  | closeEnter (w : Why) : s.close = .idle →
      Step fix s (.closeEnter w) { s with err := latch w s.err, waits := s.waits + 1, close := .entered (s.waits + 1) }
  | casBg (w : Nat) : s.close = .entered w → (s.state == 0 && w == 1) = true →
      Step fix s .closeCas (startBg (casSt s))
  | cas (w : Nat) : s.close = .entered w → ¬ (s.state == 0 && w == 1) = true → Step fix s .closeCas (casSt s)
  | ping (b : Bool) : s.close = .casDone b → (s.blockFree && b) = true →
      Step fix s .closePing
        { s with waits := s.waits + 1, queue := s.queue ++ [{ owner := .closePing }], cpOwed := true, close := .pingWait }
  | noPing (b : Bool) : s.close = .casDone b → ¬ (s.blockFree && b) = true →
      Step fix s .closePing { s with close := .tail }
  | closeGot : s.close = .pingWait → ¬ s.cpOwed = true → Step fix s .closeGot { s with close := .tail }
  | closeGrace : s.close = .pingWait → Step fix s .closeGrace { s with close := .tail }
  | closeTail : s.close = .tail →
      Step fix s .closeTail { s with waits := s.waits - 1, connUp := false, close := .done }

theorem step_sound {fix : Bool} {s s' : St} {l : Label} (h : step fix s l = some s') : Step fix s l s' := by
  cases l <;> simp only [step] at h
  case enter i => unfold enter at h; crunch h; exact .enterDone i ‹_› ‹_›; exact .enter i ‹_› ‹_›
  case decide i =>
    unfold decide at h; crunch h
    · exact .toQueue i _ ‹_› (Or.inl ‹_›)
    · exact .toQueue i _ ‹_› (Or.inr ⟨‹_›, ‹_›⟩)
    · exact .toQueueBg i _ ‹_› ‹_› (Decidable.of_not_not ‹_›) ‹_›
    · exact .sync i _ ‹_› ‹_› (Decidable.of_not_not ‹_›) ‹_›
    · exact .reject i _ ‹_› ‹_› ‹_›
  case put i => unfold put at h; crunch h; exact .put i ‹_›
  case putFail i => unfold putFail at h; crunch h; exact .putFail i ‹_› ‹_›
  case syncOk i => unfold syncOk at h; crunch h; exact .syncOk i ‹_› ‹_›
  case syncErr i =>
    unfold syncErr at h; split at h
    · split at h
      · injection h with h; subst h; exact .syncErr i ‹_› ‹_›
      · cases h
    · cases h
  case leave i => unfold leave at h; crunch h; exact .leaveBg i _ _ ‹_› ‹_›; exact .leave i _ _ ‹_› ‹_›
  case abort i => unfold abort at h; crunch h; exact .abort i ‹_› ‹_›
  case cancel i => unfold cancel at h; crunch h; exact .cancel i ‹_›
  case connBreak => unfold connBreak at h; crunch h; exact .connBreak ‹_›
  case pingFail => unfold pingFail at h; crunch h; exact .pingFail ‹_›
  case wTake => unfold wTake at h; crunch h; exact .wTake _ _ _ ‹_› ‹_›
  case wFlush => unfold wFlush at h; crunch h; exact .flush ‹_› ‹_› ‹_›; exact .flushErr ‹_› ‹_› ‹_›
  case rFetch => unfold rFetch at h; crunch h; exact .rFetch _ _ ‹_› ‹_› ‹_› ‹_›
  case rDeliver => unfold rDeliver at h; crunch h; exact .rDeliver _ ‹_› ‹_› ‹_›
  case rErr => unfold rErr at h; crunch h; exact .rErr ‹_› ‹_›
  case tdSpawn => unfold tdSpawn at h; crunch h; exact .noSpawn ‹_› ‹_›; exact .spawn ‹_› ‹_›
  case bgPingPut => unfold bgPingPut at h; crunch h; exact .bgPingPut ‹_›
  case tdIter =>
    unfold tdIter at h; crunch h
    · exact .loopDone _ ‹_› ‹_›
    · exact .drain _ _ _ ‹_› ‹_› ‹_› ‹_›
    · exact .seeClosed _ ‹_› ‹_› ‹_› ‹_›
  case tdClose => unfold tdClose at h; crunch h; exact .tdClose ‹_› ‹_›
  case closeEnter w => unfold closeEnter at h; crunch h; exact .closeEnter w ‹_›
  case closeCas => unfold closeCas at h; crunch h; exact .casBg _ ‹_› ‹_›; exact .cas _ ‹_› ‹_›
  case closePing => unfold closePing at h; crunch h; exact .ping _ ‹_› ‹_›; exact .noPing _ ‹_› ‹_›
  case closeGot => unfold closeGot at h; crunch h; exact .closeGot ‹_› ‹_›
  case closeGrace => unfold closeGrace at h; crunch h; exact .closeGrace ‹_›
  case closeTail => unfold closeTail at h; crunch h; exact .closeTail ‹_›

end Rv.PipeLife
