/-
Lemmas about the stride walks of `DoMultiCache` (Rv/Model/MGetCache.lean): EXEC decoding, the lazy
stride-5 refill, and what the reference server answers to the wire built for the missed commands.
-/
import Rv.Model.MGetCache
namespace Rv.MGetCache
open Rv.MGetCache.Spec

theorem decode5_nonempty {pre ex r : Res} (h : decode5 pre ex = some r) : r.isEmpty = false := by
  unfold decode5 at h
  split at h
  · split at h
    · cases h; rfl
    · cases h
  · split at h
    · split at h <;> (cases h; rfl)
    · cases h; rfl

theorem refill5_eq (res : List Res) (prs : List (Res × Res)) (h : ∀ p ∈ prs, (decode5 p.1 p.2).isSome) :
    refill5 res prs = some (refill Res.isEmpty res (prs.filterMap fun p => decode5 p.1 p.2)) := by
  fun_induction refill5 res prs with
  | case1 => simp [refill]
  | case2 => simp [refill]
  | case3 s ss pre ex rs hs ih =>
    obtain ⟨r, hr⟩ := Option.isSome_iff_exists.1 (h (pre, ex) List.mem_cons_self)
    simp only at hr
    rw [hr]
    simp only [Option.bind_some, List.filterMap_cons, hr]
    rw [ih r (fun p hp => h p (by simp [hp]))]
    simp [refill, hs]
  | case4 s ss pre ex rs hs ih =>
    obtain ⟨r, hr⟩ := Option.isSome_iff_exists.1 (h (pre, ex) List.mem_cons_self)
    simp only at hr
    rw [ih h]
    simp only [List.filterMap_cons, hr, Option.map_some]
    simp [refill, hs]

variable {C : Type}

theorem serve_missing5 (reply : C → Atom) (abort : C → Bool) (missed : List C) :
    (pick5 (serveStd reply abort none (missing false missed))).filterMap (fun p => decode5 p.1 p.2)
      = missed.map (outStd false reply abort) ∧
    ∀ p ∈ pick5 (serveStd reply abort none (missing false missed)), (decode5 p.1 p.2).isSome := by
  induction missed with
  | nil => simp [missing, serveStd, pick5]
  | cons c rest ih =>
    have hm : missing false (c :: rest) = .optin :: .multi :: .pttl c :: .cmd c :: .exec :: missing false rest := rfl
    rw [hm]
    simp only [serveStd, pick5, List.nil_append, List.any_cons, List.any_nil, Bool.or_false,
      List.flatMap_cons, List.flatMap_nil, List.append_nil]
    have hdec : decode5 okMsg (if abort c = true then Res.ofMsg (Msg.atom execAbort)
        else Res.ofMsg (Msg.arr [Atom.int (-1), reply c])) = some (outStd false reply abort c) := by
      unfold outStd
      cases abort c <;> rfl
    constructor
    · simp only [List.filterMap_cons, hdec, List.map_cons, ih.1]
    · intro p hp
      simp only [List.mem_cons] at hp
      rcases hp with rfl | hp
      · simp [hdec]
      · exact ih.2 p hp

theorem serve_missing2 (reply : C → Atom) (abort : C → Bool) (missed : List C) :
    pick2 (serveStd reply abort none (missing true missed)) = missed.map (outStd true reply abort) := by
  induction missed with
  | nil => simp [missing, serveStd, pick2]
  | cons c rest ih =>
    have hm : missing true (c :: rest) = .optin :: .cmd c :: missing true rest := rfl
    rw [hm]
    simp only [serveStd, pick2, List.map_cons, ih]
    simp [outStd]

end Rv.MGetCache
