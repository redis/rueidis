/-
What a successful call, run and build of the builder interpreter (Rv.Model.Builder) did, for
any table, and the lookup of a root constructor of the regenerated table by command name.
-/
import Rv.Model.Builder
import Rv.Gen.Builders
namespace Rv.Bld
open Rv.Gen.Builders

section
variable {bt : Nat} {ms : List Method} {s s' : St}

theorem apply_ok {m : Method} {args : List Val} (h : apply bt m s args = .ok s') :
    ∃ ks out, keyUpds args s.ks m.keys = .ok ks ∧ callOut m args = some out ∧
      s' = ⟨m.result, s.argv ++ out, ks, if m.block then s.cf ||| bt else s.cf⟩ := by
  unfold apply at h
  split at h
  · cases h
  · split at h
    · cases h
    · split at h
      · cases h
      · cases h; exact ⟨_, _, ‹_›, ‹_›, rfl⟩

theorem step_ok {call : Call} (h : step bt ms s call = .ok s') :
    ∃ m, findMethod ms s.ty call.name = some m ∧ apply bt m s call.args = .ok s' := by
  unfold step at h
  split at h
  · cases h
  · exact ⟨_, ‹_›, h⟩

theorem run_cons_ok {call : Call} {rest : List Call}
    (h : run bt ms s (call :: rest) = .ok s') :
    ∃ m ks out, findMethod ms s.ty call.name = some m ∧ callOut m call.args = some out ∧
      run bt ms ⟨m.result, s.argv ++ out, ks, if m.block then s.cf ||| bt else s.cf⟩ rest = .ok s' := by
  simp only [run] at h
  split at h
  · obtain ⟨m, hm, ha⟩ := step_ok ‹_›
    obtain ⟨ks, out, _, ho, rfl⟩ := apply_ok ha
    exact ⟨m, ks, out, hm, ho, h⟩
  · cases h

theorem run_append {p q : List Call}
    (h : run bt ms s (p ++ q) = .ok s') : ∃ s1, run bt ms s p = .ok s1 ∧ run bt ms s1 q = .ok s' := by
  induction p generalizing s with
  | nil => exact ⟨s, rfl, h⟩
  | cons call rest ih =>
    simp only [List.cons_append, run] at h ⊢
    split at h
    · exact ih h
    · cases h

theorem build_ok {c : Cmd} {ks0 : Nat} {path : List Call} {cache : Bool}
    (h : build bt c ks0 path cache = .ok s) :
    run bt c.methods (start c ks0) path = .ok s ∧
      (if cache = true then c.caches else c.builds).contains s.ty = true := by
  unfold build at h
  split at h
  · rename_i s1 h1
    unfold finish at h
    by_cases hm : (if cache = true then c.caches else c.builds).contains s1.ty = true
    · rw [if_pos hm] at h; cases h; exact ⟨h1, hm⟩
    · rw [if_neg hm] at h; cases h
  · cases h

end

/-- the root constructor of a command name is looked up once (instead of trying the statement on
    every record) -/
theorem exists_named {n : Nat} {Q : Cmd → Prop} (h : ∃ c ∈ allCmds.find? (·.nm == n), Q c) :
    ∃ c ∈ allCmds, c.nm = n ∧ Q c := by
  obtain ⟨c, hc, hq⟩ := h
  exact ⟨c, List.mem_of_find?_eq_some hc, by simpa using List.find?_some hc, hq⟩

end Rv.Bld
