/-
Pipe life model (Rv/Model/PipeLife.lean): projections of the primitive updates, and the
invariant over the scalar fields (state, error latch, connection, goroutine program counters).
-/
import Rv.Model.PipeLife
namespace Rv.PipeLife

structure Scal where
  state : Nat
  err : Option Why
  connUp : Bool
  td : Td
  writer : Wr
  close : ClosePc

def scal (s : St) : Scal := ⟨s.state, s.err, s.connUp, s.td, s.writer, s.close⟩

/-- `_background` is past `_backgroundRead` -/
def tdPast : Td → Bool
  | .off | .reading => false
  | _ => true

/-- the drain loop has observed `waits == 0` -/
def tdSettled : Td → Bool
  | .loopDone | .finished => true
  | _ => false

@[simp] theorem latch_ne (w : Why) (e : Option Why) : latch w e ≠ none := by cases e <;> simp [latch]
theorem latch_some (w : Why) (e : Option Why) (h : e ≠ none) : latch w e = e := by
  cases e <;> simp_all [latch]

@[simp] theorem scal_setSt (i : Nat) (cs : CS) (s : St) : scal (setSt i cs s) = scal s := rfl
@[simp] theorem scal_deliver (o : Owner) (r : Res) (s : St) : scal (deliver o r s) = scal s := by
  cases o <;> simp only [deliver]
  · split <;> rfl
  · rfl
  · rfl
@[simp] theorem scal_leaveSt (i : Nat) (r : Res) (s : St) : scal (leaveSt i r s) = scal s := rfl

theorem scal_deferDeliver (s : St) : scal (deferDeliver s) = scal s := by
  unfold deferDeliver; split
  · rw [scal_deliver]; rfl
  · rfl

/-- what `background()` does to the scalars -/
def Scal.startBg (v : Scal) : Scal :=
  match v.td with
  | .off => { v with state := bgState v.state, td := .reading, writer := .run false }
  | _ => { v with state := bgState v.state }

theorem scal_startBg (s : St) : scal (startBg s) = (scal s).startBg := by
  unfold startBg Scal.startBg
  cases h : s.td <;> simp [scal, h]

/-- `state` is `p.state` of pipe.go: 0 synchronous, 1 background started, 2 closing (`_exit` or Close),
    4 closed (the last store of `_background`). -/
structure InvA (v : Scal) : Prop where
  -- `_exit` and Close latch the error before they store 2
  a1 : 2 ≤ v.state → v.err ≠ none
  -- `_background` is past the reader only after `_exit(rerr)`
  a2 : tdPast v.td = true → 2 ≤ v.state ∧ v.connUp = false ∧ v.err ≠ none
  -- `background()` starts `_background` and the writer together
  a3 : v.td = .off ↔ v.writer = .off
  -- state 1 is stored by `background()` only
  a4 : v.state = 1 → v.td ≠ .off
  -- Close ends with `conn.Close()`
  a5 : v.close = .done → v.connUp = false
  -- 4 is stored by the last statement of `_background` only
  a6 : v.state = 4 ↔ v.td = .finished
  -- Close latches its error first
  a7 : v.close ≠ .idle → v.err ≠ none
  -- after Close's two CAS the state is 2 or more
  a8 : (∃ b, v.close = .casDone b) ∨ v.close = .pingWait ∨ v.close = .tail ∨ v.close = .done → 2 ≤ v.state
  -- the writer exits only on a failed flush, through `_exit`
  a9 : v.writer = .exited → v.connUp = false ∧ v.err ≠ none
  -- 3 is only the static dead pipe
  a10 : v.state = 0 ∨ v.state = 1 ∨ v.state = 2 ∨ v.state = 4
  -- `<-p.close` before the final store
  a11 : v.td = .finished → v.writer = .exited
  -- `background()` moves the state off 0
  a12 : v.td ≠ .off → v.state ≠ 0
  -- without `_background`, only Close's CAS moves the state off 0
  a13 : v.td = .off → (v.close = .idle ∨ ∃ w, v.close = .entered w) → v.state = 0

theorem InvA.startBg {v : Scal} (ha : InvA v) : InvA v.startBg := by
  unfold Scal.startBg
  split
  · -- `_background` does not exist yet: `state` is 0 or at least 2, and not 4
    rename_i htd
    have hb : v.state = 0 ∧ bgState v.state = 1 ∨ v.state ≠ 0 ∧ bgState v.state = v.state := by
      unfold bgState; split <;> omega
    have h10 := ha.a10
    have h4 : v.state ≠ 4 := fun h => by have := ha.a6.mp h; rw [htd] at this; cases this
    exact ⟨fun (h : 2 ≤ bgState v.state) => ha.a1 (by omega), nofun, ⟨nofun, nofun⟩, fun _ => nofun, ha.a5,
      ⟨fun (h : bgState v.state = 4) => by omega, nofun⟩, ha.a7,
      fun h => show 2 ≤ bgState v.state by have := ha.a8 h; omega, nofun,
      show bgState v.state = 0 ∨ bgState v.state = 1 ∨ bgState v.state = 2 ∨ bgState v.state = 4 by omega, nofun,
      fun _ => show bgState v.state ≠ 0 by omega, nofun⟩
  · rename_i htd
    have : bgState v.state = v.state := if_neg (ha.a12 (by simpa using htd))
    rw [this]; exact ha

/-- split a step hypothesis `h : <step> = some s'` into its enabled branches -/
macro "crunch" h:ident : tactic =>
  `(tactic| ((repeat' split at $h:ident) <;>
      (first | (cases $h:ident; done) | (injection $h:ident with $h:ident; subst $h:ident))))

end Rv.PipeLife
