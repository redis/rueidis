/-
Lemmas for C17: word arithmetic of the 8-byte length field, the header reader, and the main
structural induction (Msg.rec with a list motive): `unView` inverts `serialize` and fails
with ErrCacheUnmarshal on every proper prefix.
-/
import Rv.Model.CacheMarshal
namespace Rv.CodecL
open Rv Rv.CacheMarshal

theorem be8_length (n : Nat) : (be8 n).length = 8 := rfl

/-- the bytes `n / d % 256`, `n / (d * 256) % 256`, … (`k` of them): what `packTTL` writes from
    the low end and `be8` from the high end -/
def leBytes (n : Nat) : Nat → Nat → List UInt8
  | 0, _ => []
  | k + 1, d => UInt8.ofNat (n / d) :: leBytes n k (d * 256)

theorem unpackTTL_leBytes (n : Nat) : ∀ k d, unpackTTL (leBytes n k d) = n / d % 256 ^ k := by
  intro k
  induction k with
  | zero => intro d; simp [leBytes, unpackTTL, Nat.mod_one]
  | succ k ih =>
    intro d
    have := ih (d * 256)
    simp only [unpackTTL] at this ⊢
    rw [leBytes, List.foldr_cons, this, UInt8.toNat_ofNat', ← Nat.div_div_eq_div_mul,
      @Nat.pow_succ 256 k, Nat.mul_comm (256 ^ k), Nat.mod_mul]

theorem rd8_reverse (l : List UInt8) : rd8 l.reverse = unpackTTL l := by
  unfold rd8 unpackTTL
  rw [List.foldl_reverse]
  congr; funext b a; omega

theorem be8_eq (n : Nat) : be8 n = (leBytes n 8 1).reverse := by
  simp [be8, leBytes]

theorem packTTL_eq (v : Int) : packTTL v = leBytes (u64 v) 7 1 := by
  simp [packTTL, leBytes]

theorem rd8_be8 (n : Nat) (h : n < 18446744073709551616) : rd8 (be8 n) = n := by
  rw [be8_eq, rd8_reverse, unpackTTL_leBytes, Nat.div_one]
  exact Nat.mod_eq_of_lt h

theorem i64_nat (n : Nat) (h : n < 9223372036854775808) : i64 n = n := by
  unfold i64; rw [if_pos h]

theorem i64_u64 (v : Int) (h1 : -9223372036854775808 ≤ v) (h2 : v < 9223372036854775808) : i64 (u64 v) = v := by
  unfold i64 u64; split <;> omega

theorem u64_lt (v : Int) : u64 v < 18446744073709551616 := by unfold u64; omega

theorem hdr_short (bs : List UInt8) (h : bs.length < 9) : hdr bs = none := by
  cases bs with
  | nil => rfl
  | cons t r =>
    have : r.length < 8 := by simp at h; omega
    simp [hdr, this]

theorem hdr_frame (t : UInt8) (n : Nat) (hn : n < 18446744073709551616) (rest : List UInt8) :
    hdr (t :: (be8 n ++ rest)) = some (t, i64 n, rest) := by
  have h1 : ¬ (be8 n ++ rest).length < 8 := by simp [be8_length]
  have h2 : (be8 n ++ rest).take 8 = be8 n := List.take_left' (be8_length n)
  have h3 : (be8 n ++ rest).drop 8 = rest := List.drop_left' (be8_length n)
  simp only [hdr, h1, if_false, h2, h3, rd8_be8 n hn]

theorem allocMsgs_ok (L n : Nat) (hL : L ≤ maxAlloc) (h : n * msgBytes ≤ L) : allocMsgs L (n : Int) = .ok () := by
  unfold allocMsgs
  have h1 : ¬ ((n : Int) < 0) := by omega
  have h2 : ¬ ((n : Int).toNat * msgBytes > maxAlloc) := by simp; omega
  have h3 : ¬ ((n : Int).toNat * msgBytes > L) := by simp; omega
  rw [if_neg h1, if_neg h2, if_neg h3]

theorem strCase_ok (c : Nat) (t : UInt8) (s rest : List UInt8) (hc : c < 4611686018427387904)
    (hs : s.length < 4611686018427387904) :
    strCase c t (s.length : Int) (s ++ rest) = .ok (Msg.mk t s s.length [] [], rest) := by
  unfold strCase
  have h1 : ¬ ((s.length : Int) < 0) := by omega
  have h2 : ¬ ((c : Int) + (s.length : Int) ≥ 9223372036854775808) := by omega
  have h3 : ¬ ((s ++ rest).length < (s.length : Int).toNat) := by simp
  rw [if_neg h1, if_neg h2, if_neg h3]
  simp

theorem strCase_short (c : Nat) (t : UInt8) (n : Nat) (r : List UInt8) (hc : c < 4611686018427387904)
    (hs : n < 4611686018427387904) (hr : r.length < n) :
    strCase c t (n : Int) r = .err errUnmarshal := by
  unfold strCase
  have h1 : ¬ ((n : Int) < 0) := by omega
  have h2 : ¬ ((c : Int) + (n : Int) ≥ 9223372036854775808) := by omega
  have h3 : r.length < (n : Int).toNat := by simpa using hr
  rw [if_neg h1, if_neg h2, if_pos h3]

theorem take_frame (k : Nat) (hk : 9 ≤ k) (t : UInt8) (n : Nat) (X : List UInt8) :
    (t :: (be8 n ++ X)).take k = t :: (be8 n ++ X.take (k - 9)) := by
  obtain ⟨j, rfl⟩ : ∃ j, k = j + 9 := ⟨k - 9, by omega⟩
  rw [show j + 9 = (j + 8) + 1 from rfl, List.take_succ_cons, List.take_append]
  rw [List.take_of_length_le (by simp [be8_length])]
  simp [be8_length]

theorem unView_agg (L tot f : Nat) (t : UInt8) (n : Nat) (Y : List UInt8) (hk : kindOf t = .agg) (hL : L ≤ maxAlloc)
    (hfit : n * msgBytes ≤ L) :
    unView L tot (f + 1) (t :: (be8 n ++ Y)) = aggCase t n (.ok ()) (loopN (unView L tot f) n Y) := by
  have h40 : n * 40 ≤ L := hfit
  have hL' : L ≤ 281474976710656 := hL
  rw [unView, hdr_frame t n (by omega)]
  simp only [hk]
  rw [i64_nat _ (by omega), allocMsgs_ok L _ hL hfit, Int.toNat_natCast]

theorem unView_str (L tot f : Nat) (t : UInt8) (n : Nat) (Y : List UInt8) (hk : kindOf t = .str)
    (hn : n < 4611686018427387904) :
    unView L tot (f + 1) (t :: (be8 n ++ Y)) = strCase (tot - Y.length) t n Y := by
  rw [unView, hdr_frame t n (by omega)]
  simp only [hk]
  rw [i64_nat _ (by omega)]

mutual
/-- nesting depth of what `serialize` writes (children of non-aggregates are not written) -/
def depth : Msg → Nat
  | .mk t _ _ xs _ => match kindOf t with
    | .agg => 1 + depthL xs
    | _ => 1
def depthL : List Msg → Nat
  | [] => 0
  | x :: xs => max (depth x) (depthL xs)
end

/-- per-node size conditions: integers are int64, strings are shorter than 2^62 bytes,
    an element slice fits in one allocation of `L` bytes -/
def FitsNode (L : Nat) (k : Kind) (s : List UInt8) (i : Int) (n : Nat) : Prop :=
  match k with
  | .int => -9223372036854775808 ≤ i ∧ i < 9223372036854775808
  | .agg => n * msgBytes ≤ L
  | .str => s.length < 4611686018427387904

mutual
def Fits (L : Nat) : Msg → Prop
  | .mk t s i xs _ => FitsNode L (kindOf t) s i xs.length ∧ FitsL L xs
def FitsL (L : Nat) : List Msg → Prop
  | [] => True
  | x :: xs => Fits L x ∧ FitsL L xs
end

theorem serialize_length : ∀ m : Msg, (serialize m).length = cachesize m := by
  intro m
  refine Msg.rec (motive_1 := fun m => (serialize m).length = cachesize m)
    (motive_2 := fun xs => (serializeL xs).length = cachesizeL xs) ?_ ?_ ?_ m
  · intro t s i xs ats ih _
    simp only [serialize, cachesize, List.length_cons]
    cases kindOf t <;> simp [frame, frameSize, be8_length, ih] <;> omega
  · rfl
  · intro x xs ihx ihxs
    simp [serializeL, cachesizeL, ihx, ihxs]

theorem depth_le : ∀ m : Msg, 9 * depth m ≤ (serialize m).length := by
  intro m
  refine Msg.rec (motive_1 := fun m => 9 * depth m ≤ (serialize m).length)
    (motive_2 := fun xs => 9 * depthL xs ≤ (serializeL xs).length) ?_ ?_ ?_ m
  · intro t s i xs ats ih _
    simp only [serialize, depth, List.length_cons]
    cases kindOf t <;> simp [frame, be8_length] <;> omega
  · simp [depthL]
  · intro x xs ihx ihxs
    simp only [serializeL, depthL, List.length_append]
    omega

/-- round trip and truncation for one message -/
def MsgOK (L : Nat) (m : Msg) : Prop :=
  Fits L m →
  (∀ tot f rest, tot < 4611686018427387904 → depth m ≤ f →
      unView L tot f (serialize m ++ rest) = .ok (norm m, rest)) ∧
  (∀ tot f k, tot < 4611686018427387904 → k < (serialize m).length → k < 9 * f →
      unView L tot f ((serialize m).take k) = .err errUnmarshal)

def ListOK (L : Nat) (xs : List Msg) : Prop :=
  FitsL L xs →
  (∀ tot f rest, tot < 4611686018427387904 → depthL xs ≤ f →
      loopN (unView L tot f) xs.length (serializeL xs ++ rest) = .ok (normL xs, rest)) ∧
  (∀ tot f k, tot < 4611686018427387904 → k < (serializeL xs).length → k < 9 * f →
      loopN (unView L tot f) xs.length ((serializeL xs).take k) = .err errUnmarshal)

theorem list_nil (L : Nat) : ListOK L [] := by
  intro _
  refine ⟨?_, ?_⟩
  · intro tot f rest _ _; simp [loopN, serializeL, normL]
  · intro tot f k _ hk _; simp [serializeL] at hk

theorem list_cons (L : Nat) (x : Msg) (xs : List Msg) (hx : MsgOK L x) (hxs : ListOK L xs) : ListOK L (x :: xs) := by
  intro hf
  obtain ⟨hfx, hfxs⟩ := hf
  obtain ⟨rx, tx⟩ := hx hfx
  obtain ⟨rxs, txs⟩ := hxs hfxs
  refine ⟨?_, ?_⟩
  · intro tot f rest ht hd
    simp only [depthL] at hd
    simp only [serializeL, List.length_cons, loopN, List.append_assoc, normL]
    rw [rx tot f _ ht (by omega)]
    simp only []
    rw [rxs tot f rest ht (by omega)]
  · intro tot f k ht hk hkf
    simp only [serializeL, List.length_append] at hk
    simp only [serializeL, List.length_cons, loopN]
    by_cases hlt : k < (serialize x).length
    · rw [List.take_append_of_le_length (by omega), tx tot f k ht hlt hkf]
    · have hd := depth_le x
      rw [List.take_append, List.take_of_length_le (by omega)]
      rw [rx tot f _ ht (by omega)]
      simp only []
      rw [txs tot f _ ht (by omega) (by omega)]

theorem msg_ok (L : Nat) (hL : L ≤ maxAlloc) (t : UInt8) (s : List UInt8) (i : Int) (xs ats : List Msg)
    (hxs : ListOK L xs) : MsgOK L (.mk t s i xs ats) := by
  intro hf
  obtain ⟨hnode, hkids⟩ := hf
  have hlen := serialize_length (.mk t s i xs ats)
  refine ⟨?_, ?_⟩
  · intro tot f rest ht hd
    cases f with
    | zero => simp only [depth] at hd; cases hk : kindOf t <;> simp [hk] at hd
    | succ f =>
      simp only [serialize, norm, depth] at *
      cases hk : kindOf t
      · -- int
        simp only [hk, FitsNode] at hnode
        simp only [frame, unView, List.cons_append]
        rw [hdr_frame t _ (u64_lt i)]
        simp only [hk]
        rw [i64_u64 i hnode.1 hnode.2]
      · -- agg
        simp only [hk, FitsNode] at hnode
        simp only [hk] at hd
        simp only [frame, List.cons_append, List.append_assoc]
        rw [unView_agg L tot f t _ _ hk hL hnode, (hxs hkids).1 tot f rest ht (by omega)]
        rfl
      · -- str
        simp only [hk, FitsNode] at hnode
        simp only [frame, List.cons_append, List.append_assoc]
        rw [unView_str L tot f t _ _ hk hnode]
        exact strCase_ok _ t s rest (by omega) hnode
  · intro tot f k ht hk hkf
    cases f with
    | zero => omega
    | succ f =>
      by_cases h9 : k < 9
      · simp only [unView]
        rw [hdr_short _ (by simp; omega)]
      · simp only [serialize] at hk ⊢
        cases hkind : kindOf t
        · simp [hkind, frame, be8_length] at hk; omega
        · -- agg
          simp only [hkind, FitsNode] at hnode
          simp only [hkind, frame, List.length_cons, List.length_append, be8_length] at hk
          simp only [frame]
          rw [take_frame k (by omega), unView_agg L tot f t _ _ hkind hL hnode,
            (hxs hkids).2 tot f (k - 9) ht (by omega) (by omega)]
          rfl
        · -- str
          simp only [hkind, FitsNode] at hnode
          simp only [hkind, frame, List.length_cons, List.length_append, be8_length] at hk
          simp only [frame]
          rw [take_frame k (by omega), unView_str L tot f t _ _ hkind hnode]
          exact strCase_short _ t _ _ (by omega) hnode (by simp; omega)

theorem all_ok (L : Nat) (hL : L ≤ maxAlloc) (m : Msg) : MsgOK L m :=
  Msg.rec (motive_1 := MsgOK L) (motive_2 := ListOK L)
    (fun t s i xs ats ihxs _ => msg_ok L hL t s i xs ats ihxs) (list_nil L) (list_cons L) m

end Rv.CodecL
