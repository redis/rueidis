/-
C12 round trip, part 1: the fuel a frame needs (`need`), the two induction motives (`WireOK`, `ListOK`:
the model reader decodes a well-formed wire form to the value it denotes and leaves the rest of the
stream untouched) and the cases without sub-frames.
-/
import Rv.Lemmas.RespBasics
namespace Rv.RespL
open Rv Rv.Resp Rv.Spec

mutual
/-- fuel that suffices to read a frame: the reader spends one unit per nested call, not per byte; the element
    loops recurse once per element and hand the same remaining fuel to the element and to the rest of the list,
    hence `1 + max`; `needE [] = 2` is the loop's call plus the `readNext` that reads the `.` terminator -/
def need : Wire → Nat
  | .arr _ xs => 2 + needL xs
  | .map _ xs => 2 + needL xs
  | .stream _ xs => 2 + needE xs
  | .attr a w => 1 + max (need a) (need w)
  | .nullArr _ => 2
  | _ => 1
def needL : List Wire → Nat
  | [] => 0
  | x :: xs => 1 + max (need x) (needL xs)
def needE : List Wire → Nat
  | [] => 2
  | x :: xs => 1 + max (need x) (needE xs)
end

theorem readerOf_blob {t : UInt8} (h : isBlobT t = true) : readerOf t = some .blob ∧ t ≠ 124 ∧ t ≠ 46 := by
  simp only [isBlobT, Bool.or_eq_true, beq_iff_eq] at h
  rcases h with (h | h) | h <;> subst h <;> decide
theorem readerOf_line {t : UInt8} (h : isLineT t = true) : readerOf t = some .simple ∧ t ≠ 124 ∧ t ≠ 46 := by
  simp only [isLineT, Bool.or_eq_true, beq_iff_eq] at h
  rcases h with ((h | h) | h) | h <;> subst h <;> decide
theorem readerOf_arr {t : UInt8} (h : isArrT t = true) : readerOf t = some .array ∧ t ≠ 124 ∧ t ≠ 46 := by
  simp only [isArrT, Bool.or_eq_true, beq_iff_eq] at h
  rcases h with (h | h) | h <;> subst h <;> decide

/-- what the two list loops do on the encodings of a list of wire forms -/
def ListOK (B : Nat) (xs : List Wire) : Prop :=
  (∀ f rest, needL xs ≤ f → readArr B f xs.length (bytesL xs ++ rest) = .ok (valueL xs, rest)) ∧
  (∀ f acc rest, needE xs ≤ f →
      readEnd B f acc (bytesL xs ++ 46 :: 13 :: 10 :: rest) = .ok (acc.reverse ++ valueL xs, rest))

/-- what `readNextMessage` does on the encoding of one wire form -/
def WireOK (B : Nat) (w : Wire) : Prop :=
  (WF w = true → ∀ f ats rest, need w ≤ f → readNext B f ats (bytes w ++ rest) = .ok (value w ats, rest)) ∧
  (WF w = true → ∀ ats, (value w ats).typ ≠ 46) ∧
  (attrOK w = true → ∃ tl, bytes w = 124 :: tl ∧
      ∀ f rest, need w ≤ f + 1 → readBody B f 124 .map (tl ++ rest) = .ok (some (value w []), rest))


theorem digits_one : digits 1 = [49] := by rw [digits]; simp

theorem readB_q (B : Nat) (hb : 32 ≤ B) (r0 : List UInt8) : readB B (63 :: 13 :: 10 :: r0) = .chunked r0 := by
  unfold readB; rw [readI_q B hb]

theorem readI_m1 (B : Nat) (hb : 32 ≤ B) (rest : List UInt8) : readI B (45 :: 49 :: 13 :: 10 :: rest) = .num (-1) rest := by
  have := readI_neg B 1 hb (by omega) rest
  rw [digits_one] at this
  simpa [crlf] using this

theorem valueL_length (xs : List Wire) : (valueL xs).length = xs.length := by
  induction xs with
  | nil => simp [valueL]
  | cons x xs ih => simp [valueL, ih]

section
variable (B : Nat) (hb : 32 ≤ B)
include hb

theorem ok_blob (t : UInt8) (s : List UInt8) : WireOK B (.blob t s) := by
  refine ⟨?_, ?_, ?_⟩
  · intro hwf f ats rest hf
    simp only [WF, Bool.and_eq_true, lim] at hwf
    obtain ⟨ht, hs⟩ := hwf
    obtain ⟨hr, h124, _⟩ := readerOf_blob ht
    cases f with
    | zero => simp [need] at hf
    | succ f =>
      simp only [bytes, List.cons_append, List.append_assoc, readNext, hr, readBody]
      have hB := readB_blob B hb s rest (of_decide_eq_true hs)
      simp only [List.append_assoc] at hB
      rw [hB]
      simp [h124, value, Msg.leafStr, Msg.withAttr]
  · intro hwf ats
    simp only [WF, Bool.and_eq_true] at hwf
    simp only [value, Msg.typ]
    exact (readerOf_blob hwf.1).2.2
  · intro h; simp [attrOK] at h

theorem ok_chunked (t : UInt8) (cs : List (List UInt8)) : WireOK B (.chunked t cs) := by
  refine ⟨?_, ?_, ?_⟩
  · intro hwf f ats rest hf
    have hcs' := chunks_wf hwf
    simp only [WF, Bool.and_eq_true] at hwf
    obtain ⟨hr, h124, _⟩ := readerOf_blob hwf.1
    cases f with
    | zero => simp [need] at hf
    | succ f =>
      have hshape : bytes (.chunked t cs) ++ rest =
          t :: 63 :: 13 :: 10 :: ((cs.map chunkBytes).flatten ++ (59 :: 48 :: 13 :: 10 :: rest)) := by
        simp [bytes, crlf, List.append_assoc]
      rw [hshape]
      simp only [readNext, hr, readBody, readB_q B hb]
      rw [readChunks_ok B hb cs hcs' _ (by have := chunks_len cs; rw [List.length_append]; omega)]
      simp [h124, value, Msg.leafStr, Msg.withAttr]
  · intro hwf ats
    simp only [WF, Bool.and_eq_true] at hwf
    simp only [value, Msg.typ]
    exact (readerOf_blob hwf.1).2.2
  · intro h; simp [attrOK] at h

theorem ok_nullBlob (t : UInt8) : WireOK B (.nullBlob t) := by
  refine ⟨?_, ?_, ?_⟩
  · intro hwf f ats rest hf
    simp only [WF] at hwf
    obtain ⟨hr, h124, _⟩ := readerOf_blob hwf
    cases f with
    | zero => simp [need] at hf
    | succ f =>
      simp only [bytes, List.cons_append, List.nil_append, readNext, hr, readBody, readB, readI_m1 B hb]
      simp [value]
  · intro _ ats; simp [value, Msg.null, Msg.typ]
  · intro h; simp [attrOK] at h

omit hb in
theorem ok_line (t : UInt8) (s : List UInt8) : WireOK B (.line t s) := by
  refine ⟨?_, ?_, ?_⟩
  · intro hwf f ats rest hf
    simp only [WF, Bool.and_eq_true, Bool.not_eq_true'] at hwf
    obtain ⟨ht, hs⟩ := hwf
    obtain ⟨hr, h124, _⟩ := readerOf_line ht
    have hs' : ∀ c ∈ s, c ≠ 10 := by
      intro c hc e; subst e; simp_all
    cases f with
    | zero => simp [need] at hf
    | succ f =>
      simp only [bytes, List.cons_append, List.append_assoc, readNext, hr, readBody]
      have := readS_line s rest hs'
      simp only [List.append_assoc] at this
      rw [this]
      simp [h124, value, Msg.leafStr, Msg.withAttr]
  · intro hwf ats
    simp only [WF, Bool.and_eq_true] at hwf
    simp only [value, Msg.typ]
    exact (readerOf_line hwf.1).2.2
  · intro h; simp [attrOK] at h

theorem ok_int (v : Int) : WireOK B (.int v) := by
  refine ⟨?_, ?_, ?_⟩
  · intro hwf f ats rest hf
    simp only [WF, Bool.and_eq_true] at hwf
    have h1 := of_decide_eq_true hwf.1
    have h2 := of_decide_eq_true hwf.2
    simp only [lim] at h1 h2
    cases f with
    | zero => simp [need] at hf
    | succ f =>
      have hr : readerOf 58 = some .integer := by decide
      simp only [bytes, List.cons_append, List.append_assoc, readNext, hr, readBody]
      by_cases hv : v < 0
      · have hI := readI_neg B (-v).toNat hb (by omega) rest
        have hcast : -(((-v).toNat : Nat) : Int) = v := by omega
        simp only [decI, hv, if_true, List.cons_append]
        simp only [List.append_assoc, List.cons_append] at hI
        rw [hI, hcast]
        simp [value, Msg.leafInt, Msg.withAttr]
      · have hI := readI_digits B v.toNat hb (by omega) rest
        have hcast : ((v.toNat : Nat) : Int) = v := by omega
        simp only [decI, hv, if_false]
        simp only [List.append_assoc] at hI
        rw [hI, hcast]
        simp [value, Msg.leafInt, Msg.withAttr]
  · intro _ ats; simp [value, Msg.typ]
  · intro h; simp [attrOK] at h

omit hb in
theorem ok_null : WireOK B .null := by
  refine ⟨?_, ?_, ?_⟩
  · intro _ f ats rest hf
    cases f with
    | zero => simp [need] at hf
    | succ f =>
      have hr : readerOf 95 = some .null := by decide
      have hlen : ¬ (rest.length + 1 + 1 < 2) := by omega
      simp [bytes, readNext, hr, readBody, discard2, value, Msg.leafInt, Msg.withAttr, hlen]
  · intro _ ats; simp [value, Msg.typ]
  · intro h; simp [attrOK] at h

omit hb in
theorem ok_bool (b : Bool) : WireOK B (.bool b) := by
  refine ⟨?_, ?_, ?_⟩
  · intro _ f ats rest hf
    cases f with
    | zero => simp [need] at hf
    | succ f =>
      have hr : readerOf 35 = some .bool := by decide
      have hlen : ¬ (rest.length + 1 + 1 < 2) := by omega
      cases b <;> simp [bytes, readNext, hr, readBody, discard2, value, Msg.leafInt, Msg.withAttr, hlen]
  · intro _ ats; simp [value, Msg.typ]
  · intro h; simp [attrOK] at h

theorem ok_nullArr (t : UInt8) : WireOK B (.nullArr t) := by
  refine ⟨?_, ?_, ?_⟩
  · intro hwf f ats rest hf
    simp only [WF] at hwf
    obtain ⟨hr, h124, _⟩ := readerOf_arr hwf
    cases f with
    | zero => simp [need] at hf
    | succ f =>
      cases f with
      | zero => simp [need] at hf
      | succ f =>
        simp only [bytes, List.cons_append, List.nil_append, readNext, hr, readBody, readI_m1 B hb]
        simp [value, arrCase]
  · intro _ ats; simp [value, Msg.null, Msg.typ]
  · intro h; simp [attrOK] at h

end
end Rv.RespL
