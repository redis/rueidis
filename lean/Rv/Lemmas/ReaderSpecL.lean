/-
C01 helper lemmas about the answer-discipline specification alone (Rv/Spec/ReaderSpec.lean):
what one accepted frame does, conservation / matching for whole histories, a write may be
moved earlier, and the block grammar is accepted by `onMsg`.
-/
import Rv.Spec.ReaderSpec
namespace Rv.ReaderL
open Rv.Reader Rv.Spec.Reader

theorem mark_cons (c : Cmd) (l : Batch) : mark (c :: l) = (c, l.isEmpty) :: mark l := by
  cases l <;> rfl

theorem mark_fst (b : Batch) : (mark b).map Prod.fst = b := by
  induction b with
  | nil => rfl
  | cons c l ih => rw [mark_cons, List.map_cons, ih]

theorem marks_fst (bs : List Batch) : (bs.flatMap mark).map Prod.fst = bs.flatten := by
  induction bs with
  | nil => rfl
  | cons b bs ih => simp [mark_fst, ih]

/-- the ways `onMsg` accepts a frame -/
inductive Acc : SpecSt → In → SpecSt → Out → Prop
  | data (t mid) : Acc t (.push mid .data) t .skipped
  | unsub (t mid) : t.more = 0 → Acc t (.push mid .unsub) t .skipped
  | conf (t mid) : t.more ≠ 0 → Acc t (.push mid .sub) { t with more := t.more - 1 } .skipped
  | sub {t c d r} (mid) : t.more = 0 → t.eat = false → t.pend = (c, d) :: r → kind c = .sub →
      Acc t (.push mid .sub) ⟨r, c.nargs - 2, false⟩ (.deliver c.id none d)
  | pong (t mid) : t.more = 0 → t.eat = true → Acc t (.reply mid true false) { t with eat := false } .skipped
  | reply {t c d r e} (mid p q) : t.more = 0 → t.eat = false → t.pend = (c, d) :: r →
      (kind c = .regular ∨ q = false) → e = (kind c == .unsub && !p) →
      Acc t (.reply mid p q) ⟨r, 0, e⟩ (.deliver c.id (some mid) d)

section
variable {t t' : SpecSt} {i : In} {o : Out}

theorem acc_of_onMsg (h : onMsg t i = some (t', o)) : Acc t i t' o := by
  -- on a state given by its fields `onMsg` computes up to the test of `kind c` and of the QUEUED flag
  obtain ⟨pend, more, eat⟩ := t
  cases i with
  | push mid k =>
    cases k with
    | data => cases h; exact .data ..
    | unsub => cases more <;> cases h; exact .unsub _ _ rfl
    | sub =>
      cases more with
      | succ n => cases h; exact .conf _ _ (Nat.succ_ne_zero n)
      | zero =>
        cases eat with
        | true => cases h
        | false =>
          match pend, h with
          | (c, d) :: r, h =>
            rw [onMsg, onSub, if_neg (· rfl), if_neg Bool.false_ne_true] at h
            by_cases hk : kind c = .sub
            · simp only [if_pos hk] at h; cases h; exact .sub _ rfl rfl rfl hk
            · simp only [if_neg hk] at h; cases h
  | reply mid p q =>
    cases more with
    | succ n => cases h
    | zero =>
      cases eat with
      | true => cases p <;> cases q <;> cases h; exact .pong _ _ rfl rfl
      | false =>
        match pend, h with
        | (c, d) :: r, h =>
          rw [onMsg, onReply, if_neg (· rfl), if_neg Bool.false_ne_true] at h
          cases hk : kind c <;> simp only [hk] at h
          · cases h; exact .reply mid p q rfl rfl rfl (.inl hk) (by rw [hk]; rfl)
          · cases q <;> cases h; exact .reply mid p _ rfl rfl rfl (.inr rfl) (by rw [hk]; rfl)
          · cases q <;> cases h; exact .reply mid p _ rfl rfl rfl (.inr rfl) (by rw [hk]; rfl)

theorem onMsg_of_acc (h : Acc t i t' o) : onMsg t i = some (t', o) := by
  cases h with
  | data => rfl
  | unsub _ hm => simp [onMsg, hm]
  | conf _ hm => simp [onMsg, onSub, hm]
  | sub _ hm he hp hk => simp [onMsg, onSub, hm, he, hp, hk, pop]
  | pong _ hm he => simp [onMsg, onReply, hm, he]
  | @reply c _ _ _ _ _ _ hm he hp hq he' =>
    subst he'
    rcases hq with hq | hq
    · simp [onMsg, onReply, hm, he, hp, hq, pop]
    · cases hk : kind c <;> simp [onMsg, onReply, hm, he, hp, hq, hk, pop]

/-- an accepted frame is either skipped (pending commands untouched) or it is handed, as it is,
    to the oldest pending command, which it answers -/
theorem Acc.cases (h : Acc t i t' o) :
    (o = .skipped ∧ t'.pend = t.pend) ∨
    (∃ c d, t.pend = (c, d) :: t'.pend ∧ o = .deliver c.id (payload i) d ∧ answers c i = true) := by
  cases h with
  | data | unsub | conf | pong => exact .inl ⟨rfl, rfl⟩
  | sub _ _ _ hp hk => exact .inr ⟨_, _, hp, rfl, by simp [answers, hk]⟩
  | @reply c _ _ _ _ _ q _ _ hp hq =>
    refine .inr ⟨_, _, hp, rfl, ?_⟩
    rcases hq with hq | hq
    · simp [answers, hq]
    · cases hk : kind c <;> simp [answers, hk, hq]

theorem Acc.write (h : Acc t i t' o) (b : Batch) :
    Acc (specWrite t b) i (specWrite t' b) o := by
  have hp : ∀ {c d r}, t.pend = (c, d) :: r → (specWrite t b).pend = (c, d) :: (r ++ mark b) :=
    fun hp => by rw [specWrite, hp]; rfl
  cases h with
  | data => exact .data ..
  | unsub _ hm => exact .unsub _ _ hm
  | conf _ hm => exact .conf _ _ hm
  | sub _ hm he hp' hk => exact .sub _ hm he (hp hp') hk
  | pong _ hm he => exact .pong _ _ hm he
  | reply _ _ _ hm he hp' hq he' => exact .reply _ _ _ hm he (hp hp') hq he'

end

/-- `es` follows the discipline from `t` and ends in `t'`: `disc t es = true` and `specEnd t es = t'`
    as one relation, to argue by induction on an accepted history and to compose histories -/
inductive Run : SpecSt → List Ev → SpecSt → Prop
  | nil (t) : Run t [] t
  | write {t b es t'} : wfBatch b = true → Run (specWrite t b) es t' → Run t (.w b :: es) t'
  | msg {t i t₁ o es t'} : Acc t i t₁ o → Run t₁ es t' → Run t (.m i :: es) t'

variable {t t' : SpecSt} {es : List Ev}

theorem Run.of_disc : ∀ {es : List Ev} {t : SpecSt}, disc t es = true → Run t es (specEnd t es)
  | [], t, _ => .nil t
  | .w b :: es, t, h => by
    rw [disc, Bool.and_eq_true] at h
    exact .write h.1 (of_disc h.2)
  | .m i :: es, t, h => by
    rw [disc] at h
    rw [specEnd]
    cases ho : onMsg t i with
    | none => rw [ho] at h; cases h
    | some to => rw [ho] at h; exact .msg (acc_of_onMsg ho) (of_disc h)

theorem Run.disc (h : Run t es t') : disc t es = true ∧ specEnd t es = t' := by
  induction h with
  | nil => exact ⟨rfl, rfl⟩
  | write hb _ ih => simpa only [Spec.Reader.disc, specEnd, hb, Bool.true_and] using ih
  | msg a _ ih => simpa only [Spec.Reader.disc, specEnd, onMsg_of_acc a] using ih

theorem Run.append {t'' : SpecSt} {xs ys : List Ev} (h1 : Run t xs t') (h2 : Run t' ys t'') :
    Run t (xs ++ ys) t'' := by
  induction h1 with
  | nil => exact h2
  | write hb _ ih => exact .write hb (ih h2)
  | msg a _ ih => exact .msg a (ih h2)

theorem specRun_no_panic (hd : Run t es t') (w : String) :
    Out.panic w ∉ specRun t es := by
  induction hd with
  | nil => exact List.not_mem_nil
  | write _ _ ih => exact ih
  | msg a _ ih =>
    simp only [specRun, onMsg_of_acc a, List.mem_cons, not_or]
    refine ⟨?_, ih⟩
    rcases a.cases with ⟨h1, _⟩ | ⟨c, d, _, h1, _⟩ <;> (rw [h1]; exact Out.noConfusion)

theorem spec_conservation (hd : Run t es t') :
    delivered (specRun t es) ++ t'.pend.map key = (t.pend ++ written es).map key := by
  induction hd with
  | nil => simp [specRun, delivered, written]
  | write _ _ ih =>
    simp only [specRun, written, ih]
    simp [specWrite]
  | msg a _ ih =>
    simp only [specRun, written, onMsg_of_acc a]
    rcases a.cases with ⟨h1, h2⟩ | ⟨c, d, h2, h1, _⟩
    · rw [h1, ← h2]; exact ih
    · rw [h1, h2]; exact congrArg ((c.id, d) :: ·) ih

/-- one output per frame; a delivery made on frame `i` hands out `i` itself -/
theorem spec_payload (hd : Run t es t') :
    (specRun t es).length = (frames es).length ∧
    ((frames es).zip (specRun t es)).all (fun p => okPayload p.1 p.2) = true := by
  induction hd with
  | nil => exact ⟨rfl, rfl⟩
  | write _ _ ih => exact ih
  | @msg _ i _ o _ _ a _ ih =>
    have ok : okPayload i o = true := by
      rcases a.cases with ⟨e, _⟩ | ⟨c, d, _, e, _⟩ <;> (rw [e]; simp [okPayload])
    simp only [specRun, frames, onMsg_of_acc a, List.length_cons, ih.1, List.zip_cons_cons, List.all_cons, ok, ih.2,
      Bool.and_self, and_self]

/-- the complete characterisation: the commands pending at the start followed by the written
    ones split into an answered prefix `ds` and the still pending rest; the k-th command of `ds`
    got the k-th delivery, made on a frame that answers it and carrying that very frame -/
theorem spec_matched (hd : Run t es t') :
    ∃ ds, t.pend ++ written es = ds ++ t'.pend ∧
      Matched ds (deliveries (frames es) (specRun t es)) := by
  induction hd with
  | nil => exact ⟨[], by simp [written], .nil⟩
  | write _ _ ih =>
    obtain ⟨ds, h1, h2⟩ := ih
    exact ⟨ds, by rw [← h1]; simp [specWrite, written], h2⟩
  | msg a _ ih =>
    obtain ⟨ds, h1, h2⟩ := ih
    simp only [specRun, written, frames, onMsg_of_acc a]
    rcases a.cases with ⟨e1, e2⟩ | ⟨c, d, e2, e1, ha⟩
    · rw [e1, ← e2]; exact ⟨ds, h1, h2⟩
    · rw [e1, e2]
      exact ⟨(c, d) :: ds, by rw [List.cons_append, h1, List.cons_append], .cons ha h2⟩

theorem Run.write_earlier {pre : List Ev} {i : In} {b : Batch}
    (hd : Run t (pre ++ .m i :: .w b :: es) t') :
    Run t (pre ++ .w b :: .m i :: es) t' ∧
    specRun t (pre ++ .w b :: .m i :: es) = specRun t (pre ++ .m i :: .w b :: es) := by
  induction pre generalizing t with
  | nil =>
    cases hd with
    | msg a hd =>
      cases hd with
      | write hb hd =>
        exact ⟨.write hb (.msg (a.write b) hd),
          by simp only [List.nil_append, specRun, onMsg_of_acc a, onMsg_of_acc (a.write b)]⟩
  | cons e pre ih =>
    cases hd with
    | write hb hd => exact ⟨.write hb (ih hd).1, (ih hd).2⟩
    | msg a hd => exact ⟨.msg a (ih hd).1, by simp only [List.cons_append, specRun, onMsg_of_acc a, (ih hd).2]⟩

theorem run_noise (ns : List In) (t : SpecSt) (hm : t.more = 0) (h : ns.all isNoise = true) :
    Run t (ns.map .m) t := by
  induction ns with
  | nil => exact .nil t
  | cons i ns ih =>
    rw [List.all_cons, Bool.and_eq_true] at h
    have : Acc t i t .skipped := by
      cases i with
      | reply => cases h.1
      | push mid k =>
        cases k with
        | data => exact .data ..
        | sub => cases h.1
        | unsub => exact .unsub _ _ hm
    exact .msg this (ih h.2)

theorem run_confs {n : Nat} {l : List In} (h : Confs n l) (pend : List (Cmd × Bool)) :
    Run ⟨pend, n, false⟩ (l.map .m) ⟨pend, 0, false⟩ := by
  induction h with
  | done => exact .nil _
  | @data n i l hi _ ih =>
    refine .msg (o := .skipped) ?_ ih
    cases i with
    | reply => cases hi
    | push mid k => cases k <;> first | exact .data .. | cases hi
  | @conf n mid l _ ih => exact .msg (.conf _ _ (Nat.succ_ne_zero n)) ih

theorem run_block {c : Cmd} {bl : List In} (h : Block c bl) (d : Bool) (r : List (Cmd × Bool)) :
    Run ⟨(c, d) :: r, 0, false⟩ (bl.map .m) ⟨r, 0, false⟩ := by
  cases h with
  | regular hk => exact .msg (.reply _ _ _ rfl rfl rfl (.inl hk) (by rw [hk]; rfl)) (.nil _)
  | sub hk hc => exact .msg (.sub _ rfl rfl rfl hk) (run_confs hc r)
  | subRefused hk | unsub hk => exact .msg (.reply _ _ _ rfl rfl rfl (.inr rfl) (by rw [hk]; rfl)) (.nil _)
  | @unsubRefused _ _ ns hk hn =>
    rw [List.map_append, List.map_cons, List.cons_append]
    exact .msg (.reply _ _ _ rfl rfl rfl (.inr rfl) (by rw [hk]; rfl))
      ((run_noise ns _ rfl hn).append (.msg (.pong _ _ rfl rfl) (.nil _)))

theorem run_blocks {cs : List Cmd} {fs : List In} (h : Blocks cs fs) :
    ∀ P : List (Cmd × Bool), P.map Prod.fst = cs → Run ⟨P, 0, false⟩ (fs.map .m) ⟨[], 0, false⟩ := by
  induction h with
  | nil => intro P hP; rw [List.map_eq_nil_iff.1 hP]; exact .nil _
  | @noise cs i l hi _ ih =>
    intro P hP
    exact (run_noise [i] _ rfl (by simp [hi])).append (ih P hP)
  | @block c cs bl l hb _ ih =>
    intro P hP
    match P, hP with
    | (c', d) :: P', hP =>
      cases hP
      rw [List.map_append]
      exact (run_block hb d P').append (ih P' rfl)

theorem run_writes (bs : List Batch) (hw : ∀ b, b ∈ bs → wfBatch b = true) :
    ∀ (t : SpecSt), Run t (bs.map .w) { t with pend := t.pend ++ bs.flatMap mark } := by
  induction bs with
  | nil => intro t; rw [List.flatMap_nil, List.append_nil]; exact .nil t
  | cons b bs ih =>
    intro t
    have := ih (fun x hx => hw x (List.mem_cons_of_mem _ hx)) (specWrite t b)
    rw [specWrite, List.append_assoc] at this
    exact .write (hw b List.mem_cons_self) this

theorem blocks_disc (bs : List Batch) (fs : List In) (hw : ∀ b, b ∈ bs → wfBatch b = true)
    (h : Blocks bs.flatten fs) :
    disc {} (bs.map .w ++ fs.map .m) = true ∧ (specEnd {} (bs.map .w ++ fs.map .m)).pend = [] := by
  obtain ⟨hd, he⟩ := ((run_writes bs hw {}).append (run_blocks h _ (marks_fst bs))).disc
  exact ⟨hd, by rw [he]⟩

end Rv.ReaderL
