/-
What an enabled transition of the ring does, label by label, with the guards decoded: the
single case analysis of `enabled`/`apply` on which every preservation proof rests.
-/
import Rv.Model.Ring
namespace Rv.Ring

theorem upd_eq_old {α : Type} {f : Nat → α} {i j : Nat} {v w : α} (h : upd f i v j = w)
    (hv : v ≠ w) : j ≠ i ∧ f j = w := by
  rw [upd_apply] at h; split at h
  · exact absurd h hv
  · exact ⟨‹_›, h⟩

theorem upd_eq_keep {α : Type} {f : Nat → α} {i j : Nat} {w v : α} (ho : f i ≠ w)
    (h : f j = w) : upd f i v j = w := by
  rw [upd_other _ _ _ _ (fun e => ho (by rw [← e]; exact h))]; exact h

theorem upd_keep {β : Sort _} (P : Slot → β) {f : Nat → Slot} {s : Nat} {n : Slot} (s' : Nat)
    (e : P n = P (f s) := by rfl) : P (upd f s n s') = P (f s') := by
  rw [upd_apply]; split
  · subst_vars; exact e
  · rfl

/-- The writer's three polls (`wTry`, `wWait`, `wWake`) are merged: `take` when the slot is
    filled, `sleep` when `wWait`/`wWake` find it unfilled, `skip` when `wTry` does. Of the lock
    guards only that of `fill` is kept (the reader does not hold the slot): no proof reads another. -/
theorem step_cases {k : Nat} {σ : State} {motive : Label → State → Prop} (l : Label)
    (he : enabled k l σ = true)
    (arrive : ∀ s, s = slotOf k (σ.write + 1) →
      motive .arrive { σ with write := σ.write + 1, ncalls := σ.ncalls + 1,
                              pc := upd σ.pc σ.ncalls (.ready s), top := upd σ.top s (σ.top s + 2 ^ k) })
    (fill : ∀ c s, σ.pc c = .ready s → (∀ g, σ.rpc ≠ .holding s g) → (σ.slot s).mark = 0 →
      motive (.enter c) { σ with
        slot := upd σ.slot s { σ.slot s with mark := 1, cmd := some c }
        pc := upd σ.pc c (if (σ.slot s).slept then .bcast s else .filled s)
        atPos := upd σ.atPos (σ.slot s).gen c
        pos := upd σ.pos c (σ.slot s).gen })
    (park : ∀ c s, σ.pc c = .ready s → (σ.slot s).mark ≠ 0 →
      motive (.enter c) { σ with pc := upd σ.pc c (.waiting s) })
    (bcast : ∀ c s, σ.pc c = .bcast s →
      motive (.bcast c) { σ with pc := upd σ.pc c (.filled s),
                                 wpc := if σ.wpc = .sleeping s then .woken s else σ.wpc })
    (take : ∀ l s b, σ.wpc = .idle ∧ s = slotOf k (σ.read1 + 1) ∨ σ.wpc = .woken s →
      b = false ∨ σ.wpc = .idle ∧ b = (σ.slot s).slept → (σ.slot s).mark = 1 →
      motive l (Ring.take σ s b))
    (sleep : ∀ l s, σ.wpc = .idle ∧ s = slotOf k (σ.read1 + 1) ∨ σ.wpc = .woken s →
      l = .wWait ∨ σ.wpc = .woken s → (σ.slot s).mark ≠ 1 →
      motive l { σ with slot := upd σ.slot s { σ.slot s with slept := true }, wpc := .sleeping s })
    (skip : σ.wpc = .idle → (σ.slot (slotOf k (σ.read1 + 1))).mark ≠ 1 → motive .wTry σ)
    (rTake : ∀ s, s = slotOf k (σ.read2 + 1) → σ.rpc = .idle → (σ.slot s).mark = 2 →
      motive .rBegin { σ with
        slot := upd σ.slot s { σ.slot s with mark := 0, cmd := none, gen := (σ.slot s).gen + 2 ^ k }
        read2 := σ.read2 + 1
        rpc := .holding s (σ.slot s).cmd })
    (rMiss : ∀ s, s = slotOf k (σ.read2 + 1) → σ.rpc = .idle → (σ.slot s).mark ≠ 2 →
      motive .rBegin { σ with rpc := .holding s none })
    (deliver : ∀ c s r, σ.rpc = .holding s (some r) → σ.pc c = .filled s →
      motive (.rDeliver c)
        { σ with pc := upd σ.pc c (.done r), rpc := .holding s none, clog := σ.clog ++ [(r, c)] })
    (unlock : ∀ s, σ.rpc = .holding s none → motive .rUnlock { σ with rpc := .signal s })
    (wake : ∀ c s, σ.rpc = .signal s → σ.pc c = .waiting s →
      motive (.rSignal (some c)) { σ with rpc := .idle, pc := upd σ.pc c (.ready s) })
    (noWake : ∀ s, σ.rpc = .signal s → (∀ c, c < σ.ncalls → σ.pc c ≠ .waiting s) →
      motive (.rSignal none) { σ with rpc := .idle }) :
    motive l (apply k l σ) := by
  cases l with
  | arrive => exact arrive _ rfl
  | enter c =>
    simp only [enabled] at he; simp only [apply]
    split at he
    · rename_i s hpc
      split
      · exact fill c s hpc (fun g e => by simp [locked, e] at he) ‹_›
      · exact park c s hpc ‹_›
    · cases he
  | bcast c =>
    simp only [enabled] at he; simp only [apply]
    split at he
    · rename_i s hpc; exact bcast c s hpc
    · cases he
  | wTry =>
    simp only [enabled, Bool.and_eq_true, beq_iff_eq] at he
    simp only [apply]; split
    · exact take _ _ _ (.inl ⟨he.1, rfl⟩) (.inr ⟨he.1, rfl⟩) ‹_›
    · exact skip he.1 ‹_›
  | wWait =>
    simp only [enabled, Bool.and_eq_true, beq_iff_eq] at he
    simp only [apply]; split
    · exact take _ _ _ (.inl ⟨he.1, rfl⟩) (.inr ⟨he.1, rfl⟩) ‹_›
    · exact sleep _ _ (.inl ⟨he.1, rfl⟩) (.inl rfl) ‹_›
  | wWake =>
    simp only [enabled] at he; simp only [apply]
    split at he
    · rename_i s hw
      split
      · exact take _ _ _ (.inr hw) (.inl rfl) ‹_›
      · exact sleep _ _ (.inr hw) (.inr hw) ‹_›
    · cases he
  | rBegin =>
    have hr : σ.rpc = .idle := by simpa [enabled] using he
    simp only [apply]; split
    · exact rTake _ rfl hr ‹_›
    · exact rMiss _ rfl hr ‹_›
  | rDeliver c =>
    simp only [enabled] at he; simp only [apply]
    split at he
    · rename_i s r hr; exact deliver c s r hr (by simpa using he)
    · cases he
  | rUnlock =>
    simp only [enabled] at he; simp only [apply]
    split at he
    · rename_i s hr; simp only [hr]; exact unlock s hr
    · cases he
  | rSignal w =>
    simp only [enabled] at he; simp only [apply]
    split at he
    · rename_i s hr
      cases w with
      | some c => exact wake c s hr (by simpa using he)
      | none =>
        refine noWake s hr fun c hc e => ?_
        have := List.all_eq_true.1 he c (List.mem_range.2 hc)
        simp [e] at this
    · cases he

end Rv.Ring
