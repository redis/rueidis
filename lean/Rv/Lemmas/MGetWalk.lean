/-
Lemmas about the refill specification `fillSpec`, the Go-map writes and the position enumeration of
Rv/Model/MGetCache.lean.
-/
import Rv.Model.MGetCache
namespace Rv.MGetCache
open Rv.MGetCache.Spec

theorem fillSpec_nil {σ} (p : σ → Bool) (ss : List σ) : fillSpec p ss [] = ss := by
  cases ss <;> simp [fillSpec]

theorem mem_enum {α} {l : List α} {i : Nat} {x : α} : (i, x) ∈ enum l ↔ l[i]? = some x := by
  simp only [enum, List.mem_map, Prod.exists, Prod.mk.injEq, List.mem_zipIdx_iff_getElem?]
  constructor
  · rintro ⟨a, b, h, rfl, rfl⟩; exact h
  · intro h; exact ⟨x, i, h, rfl, rfl⟩

theorem setAll_length {σ} (ord : List (Nat × σ)) (vals : List σ) : (setAll ord vals).length = vals.length := by
  induction ord generalizing vals with
  | nil => rfl
  | cons p rest ih => obtain ⟨i, x⟩ := p; simp [setAll, ih]

theorem setAll_other {σ} (ord : List (Nat × σ)) (vals : List σ) (i : Nat) (h : ∀ x, (i, x) ∉ ord) :
    (setAll ord vals)[i]? = vals[i]? := by
  induction ord generalizing vals with
  | nil => rfl
  | cons p rest ih =>
    obtain ⟨j, y⟩ := p
    have hne : j ≠ i := by intro hji; subst hji; exact h y (by simp)
    simp only [setAll]
    rw [ih _ (fun x hx => h x (by simp [hx]))]
    simp [hne]

theorem setAll_mem {σ} (ord : List (Nat × σ)) (vals : List σ) (i : Nat) (x : σ)
    (hfun : ∀ a b, (i, a) ∈ ord → (i, b) ∈ ord → a = b) (hmem : (i, x) ∈ ord) (hi : i < vals.length) :
    (setAll ord vals)[i]? = some x := by
  induction ord generalizing vals with
  | nil => simp at hmem
  | cons p rest ih =>
    obtain ⟨j, y⟩ := p
    simp only [setAll]
    by_cases hr : (i, x) ∈ rest
    · exact ih _ (fun a b ha hb => hfun a b (by simp [ha]) (by simp [hb])) hr (by simpa using hi)
    · have hhead : j = i ∧ y = x := by
        simp at hmem; rcases hmem with h | h
        · exact ⟨h.1.symm, h.2.symm⟩
        · exact absurd h hr
      obtain ⟨rfl, rfl⟩ := hhead
      rw [setAll_other]
      · simp [hi]
      · intro z hz
        have : z = y := hfun z y (by simp [hz]) (by simp)
        subst this; exact hr hz

theorem mem_entries {cls : List Cls} {i : Nat} {w : Res} :
    (i, w) ∈ entries cls ↔ cls[i]? = some (.pending w) := by
  simp only [entries, List.mem_filterMap]
  constructor
  · rintro ⟨⟨j, c⟩, hm, hc⟩
    rw [mem_enum] at hm
    cases c <;> simp at hc
    obtain ⟨rfl, rfl⟩ := hc; exact hm
  · intro h; exact ⟨(i, .pending w), mem_enum.2 h, rfl⟩

/-- what a slot holds after the waits -/
def after : Cls → Res
  | .hit v => .ofMsg v
  | .pending w => w
  | .miss => .empty

/-- `DoMultiCache`: after the waits (any iteration order of the `entries` map) every slot holds its cache value -/
theorem waits_after_multi (cls : List Cls) (ord : List (Nat × Res))
    (hord : ∀ p, p ∈ ord ↔ p ∈ entries cls) :
    setAll ord (cls.map base0) = cls.map after := by
  apply List.ext_getElem?
  intro i
  rw [List.getElem?_map]
  cases hc : cls[i]? with
  | none => exact List.getElem?_eq_none (by simpa [setAll_length] using hc)
  | some c =>
    have key : ∀ x, (i, x) ∈ ord → c = .pending x := fun x hx =>
      Option.some.inj (hc.symm.trans (mem_entries.1 ((hord _).1 hx)))
    cases c with
    | pending w =>
      apply setAll_mem
      · intro a b ha hb
        cases key a ha; cases key b hb; rfl
      · exact (hord _).2 (mem_entries.2 hc)
      · simpa using (List.getElem?_eq_some_iff.1 hc).1
    | hit v | miss =>
      rw [setAll_other _ _ _ (fun x hx => nomatch key x hx), List.getElem?_map, hc]; rfl

theorem setAll_map {σ τ} (f : σ → τ) (ord : List (Nat × σ)) (vals : List σ) :
    setAll (ord.map fun p => (p.1, f p.2)) (vals.map f) = (setAll ord vals).map f := by
  induction ord generalizing vals with
  | nil => rfl
  | cons p rest ih => rw [List.map_cons, setAll, setAll, ← ih, List.map_set]

theorem waitAll_ok (ord : List (Nat × Res)) (vals : List (Option Msg))
    (h : ∀ p ∈ ord, p.2.err = none) :
    waitAll ord vals = .ok (setAll (ord.map fun p => (p.1, p.2.val)) vals) := by
  induction ord generalizing vals with
  | nil => rfl
  | cons p rest ih =>
    obtain ⟨i, v, e⟩ := p
    have : e = none := h (i, ⟨v, e⟩) (by simp)
    subst this
    simp only [waitAll, List.map_cons, setAll]
    exact ih _ (fun p hp => h p (by simp [hp]))

theorem waitAll_error (ord : List (Nat × Res)) (vals : List (Option Msg))
    (h : ∃ p ∈ ord, p.2.err ≠ none) :
    ∃ i v e, (i, (⟨v, some e⟩ : Res)) ∈ ord ∧ waitAll ord vals = .error e := by
  induction ord generalizing vals with
  | nil => simp at h
  | cons p rest ih =>
    obtain ⟨i, v, e⟩ := p
    cases e with
    | some e => exact ⟨i, v, e, by simp, rfl⟩
    | none =>
      have h' : ∃ p ∈ rest, p.2.err ≠ none := by
        obtain ⟨q, hq, hne⟩ := h
        simp at hq; rcases hq with rfl | hq
        · simp at hne
        · exact ⟨q, hq, hne⟩
      obtain ⟨i', v', e', hm, he⟩ := ih (vals.set i v) h'
      exact ⟨i', v', e', by simp [hm], by simpa [waitAll] using he⟩

/-- `doCacheMGet`: the values before and after the waits are the `val`s of the `DoMultiCache` slots -/
theorem waits_after (cls : List Cls) (ord : List (Nat × Res))
    (hord : ∀ p, p ∈ ord ↔ p ∈ entries cls)
    (hok : ∀ (i : Nat) w, cls[i]? = some (Cls.pending w) → w.err = none) :
    waitAll ord (cls.map mBase) = .ok (cls.map fun c => (after c).val) := by
  have hb : cls.map mBase = (cls.map base0).map Res.val :=
    (List.map_map ..).trans (List.map_congr_left fun c _ => by cases c <;> rfl) |>.symm
  rw [waitAll_ok, hb, setAll_map, waits_after_multi cls ord hord, List.map_map]
  · rfl
  · intro p hp
    obtain ⟨i, w⟩ := p
    exact hok i w (mem_entries.1 ((hord _).1 hp))

@[simp] theorem isMiss_hit (v : Msg) : (Cls.hit v).isMiss = false := rfl
@[simp] theorem isMiss_pending (w : Res) : (Cls.pending w).isMiss = false := rfl
@[simp] theorem isMiss_miss : Cls.miss.isMiss = true := rfl

@[simp] theorem after_hit (v : Msg) : after (.hit v) = .ofMsg v := rfl
@[simp] theorem after_pending (w : Res) : after (.pending w) = w := rfl
@[simp] theorem after_miss : after .miss = .empty := rfl

variable (cls : List Cls) (part : List Res)

theorem spec_nil : spec cls [] = cls.map after := by
  induction cls with
  | nil => rfl
  | cons c cs ih => cases c <;> simp [spec, after, ih]

theorem spec_noMiss (h : (cls.filter Cls.isMiss).length = 0) :
    spec cls part = cls.map after := by
  rw [List.length_eq_zero_iff, List.filter_eq_nil_iff] at h
  induction cls with
  | nil => rfl
  | cons c cs ih =>
    have := ih fun a ha => h a (List.mem_cons_of_mem _ ha)
    cases c with
    | miss => exact absurd rfl (h _ List.mem_cons_self)
    | hit v | pending w => simp only [spec, this, List.map_cons, after]

theorem spec_allMiss (h : (cls.filter Cls.isMiss).length = cls.length)
    (hl : part.length = cls.length) : spec cls part = part := by
  rw [List.length_filter_eq_length_iff] at h
  induction cls generalizing part with
  | nil => cases part <;> first | rfl | cases hl
  | cons c cs ih =>
    cases part with
    | nil => cases hl
    | cons p ps =>
      cases c with
      | miss => rw [spec, ih ps (fun a ha => h a (List.mem_cons_of_mem _ ha)) (Nat.succ.inj hl)]
      | hit v | pending w => cases h _ List.mem_cons_self

theorem fillSpec_after (hw : ∀ w, Cls.pending w ∈ cls → w.isEmpty = false) :
    fillSpec Res.isEmpty (cls.map after) part = spec cls part := by
  induction cls generalizing part with
  | nil => simp [fillSpec, spec]
  | cons c cs ih =>
    have ih' := fun part => ih part (fun w hw' => hw w (by simp [hw']))
    cases part with
    | nil => simp [fillSpec_nil, spec_nil]
    | cons p ps =>
      cases c with
      | miss => simp [fillSpec, spec, after, Res.isEmpty, Res.empty, ih']
      | hit v => simp [fillSpec, spec, after, Res.isEmpty, Res.ofMsg, ih']
      | pending w =>
        have := hw w (by simp)
        simp [fillSpec, spec, after, this, ih']

theorem fillSpec_map {σ τ} (f : σ → τ) (p : τ → Bool) (q : σ → Bool) (ss rs : List σ)
    (h : ∀ x ∈ ss, p (f x) = q x) : fillSpec p (ss.map f) (rs.map f) = (fillSpec q ss rs).map f := by
  fun_induction fillSpec q ss rs with
  | case1 => rfl
  | case2 => rfl
  | case3 s ss r rs hs ih =>
    obtain ⟨h1, h2⟩ := List.forall_mem_cons.1 h
    simp only [List.map_cons, fillSpec, h1, hs, if_true, ← ih h2]
  | case4 s ss r rs hs ih =>
    obtain ⟨h1, h2⟩ := List.forall_mem_cons.1 h
    simp only [List.map_cons, fillSpec, h1, hs, Bool.false_eq_true, if_false, ← ih h2]

theorem fillSpec_after_mget (part : List (Option Msg))
    (hw : ∀ w, Cls.pending w ∈ cls → w.val.isSome) :
    fillSpec Option.isNone (cls.map fun c => (after c).val) part
      = (spec cls (part.map fun v => ⟨v, none⟩)).map Res.val := by
  have hw' : ∀ w, Cls.pending w ∈ cls → w.val.isNone = false ∧ w.isEmpty = false := fun w h => by
    have := hw w h
    cases hv : w.val <;> simp_all [Res.isEmpty]
  rw [← fillSpec_after _ _ fun w h => (hw' w h).2, ← fillSpec_map Res.val Option.isNone, List.map_map, List.map_map]
  · congr 1; exact (List.map_id _).symm
  · intro x hx
    obtain ⟨c, hc, rfl⟩ := List.mem_map.1 hx
    cases c with
    | pending w => exact (hw' w hc).1.trans (hw' w hc).2.symm
    | hit v | miss => rfl

end Rv.MGetCache
