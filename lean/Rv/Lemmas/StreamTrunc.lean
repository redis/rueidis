/-
C29 helper: the C12 reader model never succeeds on a *strict prefix* of a well-formed frame
(`trunc_all`), wherever the server stops and with any fuel: by `stable_all` the same read of the
whole frame would leave the missing bytes unread, but the read of a whole frame leaves nothing
(the C12 round trip). Also: header lines that are cut short have no line feed.
-/
import Rv.Lemmas.RespRound2
import Rv.Lemmas.StreamMono
import Rv.Props.C13
namespace Rv.StreamL
open Rv Rv.Resp Rv.Spec Rv.RespL

theorem splitLine_none (l : List UInt8) (h : ∀ c ∈ l, c ≠ 10) : splitLine l = none := by
  induction l with
  | nil => rfl
  | cons x xs ih =>
    have hx : x ≠ 10 := h x (by simp)
    simp [splitLine, hx, ih (fun c hc => h c (by simp [hc]))]

/-- a strict prefix of `x CR LF` (whatever follows) contains no line feed when `x` has none -/
theorem readI_cut (B : Nat) (x tl : List UInt8) (hx : ∀ c ∈ x, c ≠ 10) (k : Nat) (hk : k < x.length + 2) :
    readI B ((x ++ crlf ++ tl).take k) = .fail "io" := by
  have he : x ++ crlf ++ tl = (x ++ [13]) ++ (10 :: tl) := by simp [crlf]
  have hno : ∀ c ∈ (x ++ crlf ++ tl).take k, c ≠ 10 := by
    rw [he, List.take_append_of_le_length (by simp; omega)]
    intro c hc
    rcases List.mem_append.mp (List.mem_of_mem_take hc) with h | h
    · exact hx c h
    · rw [List.mem_singleton.mp h]; decide
  unfold readI; rw [splitLine_none _ hno]

theorem take_append_cases (a b : List UInt8) (k : Nat) (hk : k < (a ++ b).length) :
    (k < a.length ∧ (a ++ b).take k = a.take k) ∨
    (∃ j, j < b.length ∧ (a ++ b).take k = a ++ b.take j) := by
  by_cases h : k < a.length
  · left; exact ⟨h, List.take_append_of_le_length (by omega)⟩
  · right
    refine ⟨k - a.length, by simp at hk; omega, ?_⟩
    rw [List.take_append]
    rw [List.take_of_length_le (by omega)]

theorem take_frame_cases (t : UInt8) (x b : List UInt8) (k : Nat) (hk : k < (t :: (x ++ crlf ++ b)).length) :
    k < x.length + 3 ∨ ∃ j, j < b.length ∧ (t :: (x ++ crlf ++ b)).take k = t :: (x ++ crlf ++ b.take j) := by
  cases k with
  | zero => left; omega
  | succ k =>
    rcases take_append_cases (x ++ crlf) b k (by simpa using hk) with ⟨h, _⟩ | ⟨j, hj, he⟩
    · left; simp [crlf] at h; omega
    · right; exact ⟨j, hj, by rw [List.take_succ_cons, he]⟩

theorem trunc_all (B : Nat) (hb : 32 ≤ B) (w : Wire) (hwf : WF w = true) (k : Nat) (hk : k < (bytes w).length)
    (f : Nat) (ats : List Msg) : ∀ y, readNext B f ats ((bytes w).take k) ≠ .ok y := by
  intro ⟨m, r⟩ h
  have h1 := (stable_all B ((bytes w).drop k) f).1 (max f (need w)) (Nat.le_max_left _ _) ats _ m r h
  have h2 := (wire_ok B hb w).1 hwf (max f (need w)) ats [] (Nat.le_max_right _ _)
  rw [List.take_append_drop] at h1
  rw [List.append_nil, h1] at h2
  have hl := congrArg (fun p => p.2.length) (Res.ok.inj h2)
  simp only [List.length_append, List.length_drop, List.length_nil] at hl
  omega

theorem decode_cut (B : Nat) (hb : 32 ≤ B) (w : Wire) (hwf : WF w = true) (k : Nat) (hk : k < (bytes w).length) :
    ∃ e, decode B ((bytes w).take k) = .err e := by
  rcases Rv.C13.decode_never_panics B ((bytes w).take k) with ⟨m, r, h⟩ | ⟨e, h⟩
  · exact absurd h (trunc_all B hb w hwf k hk _ [] (m, r))
  · exact ⟨e, h⟩

end Rv.StreamL
