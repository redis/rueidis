/-
Pipe life model: safety invariants built on the transition lemma — every return is logged
exactly once, `done` is absorbing, and once the drain loop has observed `waits == 0` no
accepted call is left anywhere.
-/
import Rv.Lemmas.PipeLifeTrans
import Rv.Lemmas.PipeLifeScal
namespace Rv.PipeLife

def retOf : Option CS → Nat
  | some cs => cs.ret
  | none => 0

/-- the log holds one return for every call that is `aborted`/`done`, none for the others -/
def InvL (s : St) : Prop := ∀ j, cnt j s.log = retOf (stOf s j)

theorem Deliv.ret_eq {a b : CS} (h : Deliv a b) : a.ret = b.ret := by cases h <;> rfl

theorem invL_step {fix : Bool} {s s' : St} {l : Label} (h : step fix s l = some s') (hl : InvL s) : InvL s' := by
  intro j
  have hj := hl j
  rcases step_change h j with ⟨h1, h2⟩ | ⟨a, b, ha, hb, _, h3⟩ | ⟨a, b, ha, hb, hd, h3⟩
  · rw [h1, h2]; exact hj
  · rw [ha] at hj; rw [hb]; simp only [retOf] at hj ⊢; omega
  · rw [ha] at hj; rw [hb, h3]; simp only [retOf] at hj ⊢; rw [← hd.ret_eq]; exact hj

theorem startBg_log' (s : St) : (startBg s).log = s.log := startBg_log s

theorem invL_init (calls : List Call) (p b : Bool) (h : ∀ c ∈ calls, c.st = .idle) : InvL (init calls p b) := by
  intro j
  have hlog : (init calls p b).log = [] := by unfold init; split <;> simp
  have hst : stOf (init calls p b) j = (calls[j]?).map (·.st) := by
    unfold init; split <;> simp [stOf]
  rw [hlog, hst]
  cases hc : calls[j]? with
  | none => rfl
  | some c => have := h c (List.mem_of_getElem? hc); simp [cnt, retOf, this, CS.ret]

theorem Reachable.invL {fix : Bool} {s : St} (h : Reachable fix s) : InvL s := by
  induction h with
  | init calls p b hi => exact invL_init calls p b hi
  | step l _ hs ih => exact invL_step hs ih

theorem done_absorbing {fix : Bool} {s s' : St} {l : Label} (h : step fix s l = some s') {j : Nat}
    (hd : stOf s j = some .done) : stOf s' j = some .done := by
  rcases step_change h j with ⟨h1, _⟩ | ⟨a, b, ha, _, ht, _⟩ | ⟨a, b, ha, _, hdl, _⟩
  · rw [h1]; exact hd
  · rw [hd] at ha; injection ha with ha; subst ha; cases ht
  · rw [hd] at ha; injection ha with ha; subst ha; cases hdl

structure Settled (s : St) : Prop where
  p1 : ∀ i cs, stOf s i = some cs → cs.owed = false
  p2 : s.bgPing.weight = 0
  p3 : s.cpOwed = false
  p4 : s.close ≠ .casDone true ∧ s.close ≠ .pingWait

def InvP (s : St) : Prop := tdSettled s.td = true → Settled s

/-- the moment the loop exits -/
theorem settled_of_waits_zero {s : St} (hc : InvC s) (hw : s.waits = 0) : Settled s := by
  have w := hc.w
  rw [hw] at w
  have h1 : wsum s.calls = 0 := by omega
  have h2 : s.bgPing.weight = 0 := by omega
  have h3 : s.close.weight = 0 := by omega
  have h4 : b2n s.cpOwed = 0 := by omega
  refine ⟨?_, h2, ?_, ?_, ?_⟩
  · intro i cs hst
    obtain ⟨c, hc1, hc2⟩ := stOf_some hst
    have hz : cs.weight = 0 := by have := wsum_ge s.calls i c hc1; rw [hc2] at this; omega
    revert hz; cases cs <;> simp [CS.weight, CS.owed]
  · cases hx : s.cpOwed with
    | false => rfl
    | true => rw [hx] at h4; simp [b2n] at h4
  · intro hx; rw [hx] at h3; simp [ClosePc.weight] at h3
  · intro hx; rw [hx] at h3; simp [ClosePc.weight] at h3

theorem trans_owed {l : Label} {i : Nat} {a b : CS} (h : Trans l i a b) (ha : a.owed = false) (hb : b.owed = true) :
    ∃ w, l = .decide i ∧ a = .counted w := by
  cases h <;> simp_all [CS.owed]

theorem deliv_owed {a b : CS} (h : Deliv a b) : a.owed = true := by cases h <;> rfl

theorem tdSettled_past {t : Td} (h : tdSettled t = true) : tdPast t = true := by
  cases t <;> simp_all [tdSettled, tdPast]

theorem tdSettled_startBg (s : St) : tdSettled (startBg s).td = tdSettled s.td := by
  unfold startBg; cases h : s.td <;> simp [tdSettled]

/-- a step that leaves `td` (up to `background()`), `bgPing`, `cpOwed` and `close` alone -/
theorem invP_of {s s' : St} (hp : InvP s) (htd : tdSettled s'.td = tdSettled s.td)
    (hstat : tdSettled s.td = true → ∀ i cs, stOf s' i = some cs → cs.owed = false)
    (hb : s'.bgPing = s.bgPing) (hc : s'.cpOwed = s.cpOwed) (hcl : s'.close = s.close) : InvP s' := by
  intro hset'
  rw [htd] at hset'
  obtain ⟨_, p2, p3, p4⟩ := hp hset'
  exact ⟨hstat hset', by rw [hb]; exact p2, by rw [hc]; exact p3, by rw [hcl]; exact p4⟩

theorem decide_of_closing {fix : Bool} {s : St} {i w : Nat} (hst : stOf s i = some (.counted w)) (h2 : 2 ≤ s.state) :
    step fix s (.decide i) = some (setSt i (.got (latched s.err) (fix && w == 1)) s) := by
  have h1 : ¬ s.state = 1 := by omega
  have h0 : ¬ s.state = 0 := by omega
  simp only [step, decide, hst, h1, h0, if_false]

theorem invP_step {fix : Bool} {s s' : St} {l : Label} (h : step fix s l = some s') (ha : InvA (scal s))
    (hc : InvC s) (hp : InvP s) : InvP s' := by
  -- statuses: a step out of a settled state never creates an owed status
  have hstat : tdSettled s.td = true → ∀ i cs, stOf s' i = some cs → cs.owed = false := by
    intro hset i cs hcs
    have hS := hp hset
    have h2 : 2 ≤ s.state := (ha.a2 (tdSettled_past hset)).1
    rcases step_change h i with ⟨h1, _⟩ | ⟨a, b, ha1, hb1, ht, _⟩ | ⟨a, b, ha1, _, hdl, _⟩
    · rw [h1] at hcs; exact hS.p1 i cs hcs
    · rw [hb1] at hcs; injection hcs with hcs; subst hcs
      have hao := hS.p1 i a ha1
      cases hbo : b.owed with
      | false => rfl
      | true =>
        obtain ⟨w, hl, haw⟩ := trans_owed ht hao hbo
        subst hl; subst haw
        rw [decide_of_closing ha1 h2] at h
        injection h with h
        rw [← h, stOf_modify_self ha1 rfl] at hb1
        injection hb1 with hb1; subst hb1; cases hbo
    · have := hS.p1 i a ha1; rw [deliv_owed hdl] at this; cases this
  have hcas : tdSettled s.td = true → (casSt s).close ≠ .casDone true ∧ (casSt s).close ≠ .pingWait := by
    intro hset
    have h2 : 2 ≤ s.state := (ha.a2 (tdSettled_past hset)).1
    have : isStopping s.state = false := by unfold isStopping; simp; omega
    simp [casSt, this]
  induction step_sound h with
  | toQueueBg | syncErr | leaveBg => exact invP_of hp (tdSettled_startBg _) hstat (startBg_bgPing _) (startBg_cpOwed _) (startBg_close _)
  | rFetch e es htd => intro hset'; change tdSettled s.td = true at hset'; rw [htd] at hset'; cases hset'
  | rDeliver o htd => intro hset'; rw [deliver_td] at hset'; change tdSettled s.td = true at hset'; rw [htd] at hset'; cases hset'
  | rErr | noSpawn | spawn | seeClosed => intro hset'; cases hset'
  | drain => intro hset'; rw [deliver_td] at hset'; cases hset'
  | bgPingPut hb =>
    intro hset'
    have := (hp hset').p2
    rw [hb] at this; cases this
  -- `Settled` does not read `td` or `state`
  | loopDone c _ hw => exact fun _ => have h := settled_of_waits_zero hc hw; ⟨h.p1, h.p2, h.p3, h.p4⟩
  | tdClose htd => exact fun _ => have h := hp (by rw [htd]; rfl); ⟨h.p1, h.p2, h.p3, h.p4⟩
  | closeEnter | noPing | closeTail => exact fun hset' => ⟨hstat hset', (hp hset').p2, (hp hset').p3, ⟨nofun, nofun⟩⟩
  | casBg =>
    intro hset'
    rw [tdSettled_startBg] at hset'
    refine ⟨hstat hset', ?_, ?_, ?_⟩
    · rw [startBg_bgPing]; exact (hp hset').p2
    · rw [startBg_cpOwed]; exact (hp hset').p3
    · rw [startBg_close]; exact hcas hset'
  | cas => exact fun hset' => ⟨hstat hset', (hp hset').p2, (hp hset').p3, hcas hset'⟩
  | ping b hcl hb =>
    intro hset'
    have : b = true := by simp at hb; exact hb.2
    subst this; exact absurd hcl (hp hset').p4.1
  | closeGot hcl | closeGrace hcl => exact fun hset' => absurd hcl (hp hset').p4.2
  | _ => exact invP_of hp rfl hstat rfl rfl rfl

theorem invP_init (calls : List Call) (p b : Bool) : InvP (init calls p b) := by
  intro h
  unfold init at h; split at h
  · rw [tdSettled_startBg] at h; simp [tdSettled] at h
  · simp [tdSettled] at h

theorem Reachable.invP {fix : Bool} {s : St} (h : Reachable fix s) : InvP s := by
  induction h with
  | init calls p b hi => exact invP_init calls p b
  | step l hr hs ih => exact invP_step hs hr.invA hr.invC ih

end Rv.PipeLife
