/-
Lemmas for the connection-level cache protocol model `Rv.CachePipe`: what the lru operations do to
completed entries, the invariant of the connection queue (`QOk`), and the protocol invariant `PInv`.
-/
import Rv.Model.CachePipe
import Rv.Lemmas.LruPending
namespace Rv.Lru

theorem flight_completed_sub (s : State) (k c : Bytes) (ttl now : Int) :
    ∀ x ∈ (flight s k c ttl now).1.list, x.pend = false → x ∈ s.list :=
  fun x hx hp => ((flight_cases s k c ttl now).mem_sub hx).resolve_right fun h => by rw [h] at hp; cases hp

theorem flight_hit_entry (s : State) (k c : Bytes) (ttl now : Int) (v : Nat) (exp : Int)
    (h : (flight s k c ttl now).2 = .hit v exp) :
    ∃ e ∈ s.list, e.key = k ∧ e.cmd = c ∧ e.pend = false ∧ e.val = v := by
  obtain ⟨e, hf, hp, hv, -⟩ := (flight_cases s k c ttl now).of_hit h
  have hf' := find?_some hf
  exact ⟨e, hf'.1, hf'.2.1, hf'.2.2, hp, hv⟩

/-- completed entries after `Update`: old ones, or the one just written for (k, c) with value `v` -/
theorem update_completed (s : State) (hi : Inv s) (k c : Bytes) (v : Nat) (vsz raw : Int) :
    ∀ x ∈ (update s k c v vsz raw).1.list, x.pend = false →
      x ∈ s.list ∨ (x.key = k ∧ x.cmd = c ∧ x.val = v) := by
  intro x hx _
  rcases update_mem hi k c v vsz raw hx with h | ⟨e, hf, rfl⟩
  · exact Or.inl h.1
  · exact Or.inr ⟨(find?_some hf).2.1, (find?_some hf).2.2, rfl⟩

end Rv.Lru
namespace Rv.CachePipe
open Rv.Lru (Bytes FRes Entry)

/-- what must hold of the message `m` at some position of the connection's queue, `rest` being what follows it -/
def HeadOk (f ver : Bytes → Nat) (tr : Bytes → Bool) (m : Msg) (rest : List Msg) : Prop :=
  (∀ k c v vsz raw, m = .reply k c v vsz raw →
      f k ≤ v ∧ v ≤ ver k ∧ (v < ver k → ∃ m' ∈ rest, v < pushVer m' k) ∧ (v = ver k → tr k = true)) ∧
  (∀ k c v vsz raw, Msg.reply k c v vsz raw ∈ rest → pushVer m k ≤ v) ∧
  (∀ k, pushVer m k ≤ ver k)

/-- invariant of the connection's queue: every reply in flight is not older than what has been invalidated so
    far (`f`), is current or followed by an invalidation that covers it, and is at least as new as every
    invalidation queued before it -/
def QOk (f ver : Bytes → Nat) (tr : Bytes → Bool) : List Msg → Prop
  | [] => True
  | m :: rest => HeadOk f ver tr m rest ∧ QOk f ver tr rest

theorem pushVer_reply (k c : Bytes) (v : Nat) (vsz raw : Int) (k' : Bytes) : pushVer (.reply k c v vsz raw) k' = 0 := rfl
theorem pushVer_fail (k c : Bytes) (e : Nat) (k' : Bytes) : pushVer (.fail k c e) k' = 0 := rfl

/-- what `HeadOk` asks of a queued reply and `EOk` of a completed entry, for key `k` and version `v`: not older than
    the processed invalidations, not newer than the server, and current (then the key is tracked) or covered by an
    invalidation in `q` -/
def VOk (f ver : Bytes → Nat) (tr : Bytes → Bool) (q : List Msg) (k : Bytes) (v : Nat) : Prop :=
  f k ≤ v ∧ v ≤ ver k ∧ (v < ver k → ∃ m ∈ q, v < pushVer m k) ∧ (v = ver k → tr k = true)

/-- a bump of the version of a tracked key comes with a new cover (`hnew`), tracking is kept where the version
    stays (`htr`) -/
theorem VOk.change {f f' ver ver' : Bytes → Nat} {tr tr' : Bytes → Bool} {q q' : List Msg} {k : Bytes} {v : Nat}
    (h : VOk f ver tr q k v) (hf : f' k ≤ v) (hver : ver k ≤ ver' k)
    (hq : ∀ m ∈ q, v < pushVer m k → ∃ m' ∈ q', v < pushVer m' k)
    (hnew : ver k < ver' k → tr k = true → ∃ m' ∈ q', ver k < pushVer m' k)
    (htr : ver' k = ver k → tr k = true → tr' k = true) : VOk f' ver' tr' q' k v := by
  obtain ⟨-, b, c, d⟩ := h
  refine ⟨hf, Nat.le_trans b hver, fun hv => ?_, fun hv => htr (by omega) (d (by omega))⟩
  rcases Nat.lt_or_ge v (ver k) with hlt | hge
  · obtain ⟨m, hm, hc⟩ := c hlt; exact hq m hm hc
  · have heq : v = ver k := Nat.le_antisymm b hge
    rw [heq] at hv ⊢; exact hnew hv (d heq)

theorem QOk_extend {f f' ver ver' : Bytes → Nat} {tr tr' : Bytes → Bool} (q x : List Msg) (h : QOk f ver tr q)
    (hV : ∀ rest k c v vsz raw, Msg.reply k c v vsz raw ∈ q → VOk f ver tr rest k v → VOk f' ver' tr' (rest ++ x) k v)
    (hver : ∀ k, ver k ≤ ver' k) (hx : QOk f' ver' tr' x)
    (hge : ∀ k c v vsz raw, Msg.reply k c v vsz raw ∈ x → ∀ m ∈ q, pushVer m k ≤ v) :
    QOk f' ver' tr' (q ++ x) := by
  induction q with
  | nil => exact hx
  | cons m rest ih =>
    obtain ⟨⟨h1, h2, h3⟩, hr⟩ := h
    refine ⟨⟨fun k c v vsz raw hm => hV rest k c v vsz raw (hm ▸ List.mem_cons_self) (h1 k c v vsz raw hm),
      fun k c v vsz raw hmem => ?_, fun k => Nat.le_trans (h3 k) (hver k)⟩,
      ih hr (fun rest' k c v vsz raw hm => hV rest' k c v vsz raw (List.mem_cons_of_mem _ hm))
        fun k c v vsz raw hm m' hm' => hge k c v vsz raw hm m' (List.mem_cons_of_mem _ hm')⟩
    rcases List.mem_append.1 hmem with hmem | hmem
    · exact h2 k c v vsz raw hmem
    · exact hge k c v vsz raw hmem m List.mem_cons_self

theorem cover_append {q : List Msg} (x : List Msg) {k : Bytes} {v : Nat} :
    ∀ m ∈ q, v < pushVer m k → ∃ m' ∈ q ++ x, v < pushVer m' k :=
  fun m hm hc => ⟨m, List.mem_append_left _ hm, hc⟩

theorem cover_tail {m : Msg} {rest : List Msg} {k : Bytes} {v : Nat} (h0 : pushVer m k ≤ v) :
    ∀ m' ∈ m :: rest, v < pushVer m' k → ∃ m'' ∈ rest, v < pushVer m'' k := by
  intro m' hm' hc
  rcases List.mem_cons.1 hm' with rfl | hm'
  · omega
  · exact ⟨m', hm', hc⟩

theorem QOk_push {f f' ver ver' : Bytes → Nat} {tr tr' : Bytes → Bool} {q : List Msg} {x : Msg} (h : QOk f ver tr q)
    (hV : ∀ rest k v, VOk f ver tr rest k v → VOk f' ver' tr' (rest ++ [x]) k v) (hver : ∀ k, ver k ≤ ver' k)
    (hx : ∀ k c v vsz raw, x ≠ .reply k c v vsz raw) (hle : ∀ k, pushVer x k ≤ ver' k) : QOk f' ver' tr' (q ++ [x]) :=
  QOk_extend q _ h (fun rest k _ v _ _ _ => hV rest k v) hver
    ⟨⟨fun k c v vsz raw he => absurd he (hx k c v vsz raw), fun _ _ _ _ _ h => (List.not_mem_nil h).elim, hle⟩, trivial⟩
    fun k c v vsz raw hm => absurd (List.mem_singleton.1 hm).symm (hx k c v vsz raw)

/-- every reply still queued behind an invalidation is at least as new as that invalidation -/
theorem QOk_replies_ge {f ver : Bytes → Nat} {tr : Bytes → Bool} {m : Msg} {rest : List Msg}
    (h : QOk f ver tr (m :: rest)) : ∀ k c v vsz raw, Msg.reply k c v vsz raw ∈ rest → pushVer m k ≤ v := h.1.2.1

theorem QOk_mem {f ver : Bytes → Nat} {tr : Bytes → Bool} {q : List Msg} (h : QOk f ver tr q) :
    ∀ m ∈ q, (∀ k, pushVer m k ≤ ver k) ∧
      ∀ k c v vsz raw, m = .reply k c v vsz raw → f k ≤ v ∧ v ≤ ver k := by
  induction q with
  | nil => intro m hm; cases hm
  | cons a rest ih =>
    intro m hm
    rcases List.mem_cons.1 hm with rfl | hm
    · exact ⟨h.1.2.2, fun k c v vsz raw he => ⟨(h.1.1 k c v vsz raw he).1, (h.1.1 k c v vsz raw he).2.1⟩⟩
    · exact ih h.2 m hm

/-- what must hold of a completed entry of the store -/
def EOk (f ver : Bytes → Nat) (tr : Bytes → Bool) (log : List ((Bytes × Bytes) × Nat)) (q : List Msg) (e : Entry) : Prop :=
  f e.key ≤ e.val ∧ e.val ≤ ver e.key ∧ (e.val < ver e.key → ∃ m ∈ q, e.val < pushVer m e.key) ∧
  (e.val = ver e.key → tr e.key = true) ∧ ((e.key, e.cmd), e.val) ∈ log

theorem EOk.change {f f' ver ver' : Bytes → Nat} {tr tr' : Bytes → Bool} {log log' : List ((Bytes × Bytes) × Nat)}
    {q q' : List Msg} {e : Entry} (h : EOk f ver tr log q e)
    (hV : VOk f ver tr q e.key e.val → VOk f' ver' tr' q' e.key e.val) (hl : ∀ p ∈ log, p ∈ log') :
    EOk f' ver' tr' log' q' e :=
  have v := hV ⟨h.1, h.2.1, h.2.2.1, h.2.2.2.1⟩
  ⟨v.1, v.2.1, v.2.2.1, v.2.2.2, hl _ h.2.2.2.2⟩

structure PInv (st : St) : Prop where
  store : Lru.Inv st.store
  entries : ∀ e ∈ st.store.list, e.pend = false → EOk st.floor st.ver st.tracked st.log st.respQ e
  queue : QOk st.floor st.ver st.tracked st.respQ
  floorLe : ∀ k, st.floor k ≤ st.ver k
  dead : st.store.closed = true → st.respQ = [] ∧ st.reqQ = [] ∧ ∀ k, st.tracked k = false

theorem pinv_init (mx base : Int) : PInv (init mx base) :=
  ⟨Lru.inv_init mx base, by simp [init, Lru.init], trivial, fun _ => Nat.le_refl _, fun _ => ⟨rfl, rfl, fun _ => rfl⟩⟩

theorem upd_same {β : Type} (f : Bytes → β) (k : Bytes) (x : β) : upd f k x k = x := by simp [upd]
theorem upd_other {β : Type} (f : Bytes → β) (k k' : Bytes) (x : β) (h : k' ≠ k) : upd f k x k' = f k' := by simp [upd, h]

theorem handle_floor (st : St) (now : Int) (m : Msg) (k : Bytes) :
    (handle st now m).floor k = max (st.floor k) (pushVer m k) := by
  cases m with
  | reply | fail => exact (Nat.max_zero _).symm
  | push k' n =>
    show upd st.floor k' (max (st.floor k') n) k = max (st.floor k) (if k' = k then n else 0)
    by_cases hkk : k = k'
    · subst hkk; rw [upd_same, if_pos rfl]
    · rw [upd_other _ _ _ _ hkk, if_neg (Ne.symm hkk), Nat.max_zero]
  | pushAll g => rfl

theorem PInv.store_sub {st : St} (h : PInv st) {s' : Lru.State} (hi : Lru.Inv s')
    (hsub : ∀ e ∈ s'.list, e.pend = false → e ∈ st.store.list) (hcl : s'.closed = true → False)
    {reqQ : List (Bytes × Bytes)} : PInv { st with store := s', reqQ := reqQ } :=
  ⟨hi, fun e he hp => h.entries e (hsub e he hp) hp, h.queue, h.floorLe, fun hc => (hcl hc).elim⟩

theorem pinv_step {st : St} (h : PInv st) (ev : Ev) : PInv (step st ev) := by
  cases ev with
  | start k c ttl now =>
    simp only [step]
    split
    · exact h
    · rename_i hopen
      split <;> exact h.store_sub (Lru.inv_flight h.store k c ttl now) (Lru.flight_completed_sub st.store k c ttl now)
        (fun hc => hopen ((Lru.flight_cases st.store k c ttl now).frame.1.symm.trans hc))
  | startDone k c ttl now err =>
    simp only [step]
    split
    · exact h
    · rename_i hopen
      have hi := Lru.inv_flight h.store k c ttl now
      have hsub := Lru.flight_completed_sub st.store k c ttl now
      have hcl : (Lru.flight st.store k c ttl now).1.closed = true → False :=
        fun hc => hopen ((Lru.flight_cases st.store k c ttl now).frame.1.symm.trans hc)
      split
      · exact h.store_sub (Lru.inv_cancel hi k c err) (fun e he => hsub e (Lru.cancel_sub _ k c err e he))
          (fun hc => hcl ((Lru.cancel_conf _ k c err).2.2.symm.trans hc))
      · exact h.store_sub hi hsub hcl
  | exec vsz raw =>
    simp only [step]
    split
    · exact h
    · rename_i k c rest hq
      have hopen : st.store.closed = true → False := by
        intro hc; have := (h.dead hc).2.1; rw [hq] at this; cases this
      have hV : ∀ q k' v, VOk st.floor st.ver st.tracked q k' v →
          VOk st.floor st.ver (upd st.tracked k true) (q ++ [.reply k c (st.ver k) vsz raw]) k' v :=
        fun q k' v hv => hv.change hv.1 (Nat.le_refl _) (cover_append _) (fun hlt => absurd hlt (Nat.lt_irrefl _))
          fun _ ht => by
            by_cases hkk : k' = k
            · rw [hkk, upd_same]
            · rw [upd_other _ _ _ _ hkk]; exact ht
      refine ⟨h.store, fun e he hp => (h.entries e he hp).change (hV _ _ _) fun _ hp => hp, ?_, h.floorLe,
        fun hc => (hopen hc).elim⟩
      refine QOk_extend st.respQ _ h.queue (fun rest k' _ v _ _ _ => hV rest k' v) (fun _ => Nat.le_refl _)
        ⟨⟨fun k' c' v vsz' raw' he => ?_, fun _ _ _ _ _ hm => (List.not_mem_nil hm).elim, fun _ => Nat.zero_le _⟩, trivial⟩ ?_
      · cases he
        exact ⟨h.floorLe k, Nat.le_refl _, fun hv => absurd hv (Nat.lt_irrefl _), fun _ => upd_same _ _ _⟩
      · intro k' c' v vsz' raw' hm m hm'
        cases List.mem_singleton.1 hm
        exact (QOk_mem h.queue m hm').1 k
  | execFail err =>
    simp only [step]
    split
    · exact h
    · rename_i k c rest hq
      have hopen : st.store.closed = true → False := by
        intro hc; have := (h.dead hc).2.1; rw [hq] at this; cases this
      have hV : ∀ q k' v, VOk st.floor st.ver st.tracked q k' v →
          VOk st.floor st.ver st.tracked (q ++ [.fail k c err]) k' v :=
        fun q k' v hv => hv.change hv.1 (Nat.le_refl _) (cover_append _) (fun hlt => absurd hlt (Nat.lt_irrefl _))
          fun _ ht => ht
      exact ⟨h.store, fun e he hp => (h.entries e he hp).change (hV _ _ _) fun _ hp => hp,
        QOk_push h.queue hV (fun _ => Nat.le_refl _) (fun _ _ _ _ _ he => nomatch he) fun _ => Nat.zero_le _,
        h.floorLe, fun hc => (hopen hc).elim⟩
  | write k =>
    simp only [step]
    have hver : ∀ k', st.ver k' ≤ upd st.ver k (st.ver k + 1) k' := by
      intro k'; by_cases hkk : k' = k
      · subst hkk; rw [upd_same]; omega
      · rw [upd_other _ _ _ _ hkk]; exact Nat.le_refl _
    have hfl : ∀ k', st.floor k' ≤ upd st.ver k (st.ver k + 1) k' := fun k' => Nat.le_trans (h.floorLe k') (hver k')
    have hbump : ∀ {k'}, st.ver k' < upd st.ver k (st.ver k + 1) k' → k' = k := fun {k'} hlt => by
      by_cases hkk : k' = k
      · exact hkk
      · rw [upd_other _ _ _ _ hkk] at hlt; exact absurd hlt (Nat.lt_irrefl _)
    split
    · rename_i htk
      have hV : ∀ q k' v, VOk st.floor st.ver st.tracked q k' v →
          VOk st.floor (upd st.ver k (st.ver k + 1)) (upd st.tracked k false) (q ++ [.push k (st.ver k + 1)]) k' v :=
        fun q k' v hv => hv.change hv.1 (hver k') (cover_append _)
          (fun hlt _ => ⟨_, List.mem_append_right _ (List.mem_singleton.2 rfl), by rw [hbump hlt]; simp [pushVer]⟩)
          fun heq ht => by
            by_cases hkk : k' = k
            · rw [hkk, upd_same] at heq; omega
            · rw [upd_other _ _ _ _ hkk]; exact ht
      refine ⟨h.store, fun e he hp => (h.entries e he hp).change (hV _ _ _) fun _ hp => hp,
        QOk_push h.queue hV hver (fun _ _ _ _ _ he => nomatch he) fun k' => ?_,
        hfl, fun hc => by have := (h.dead hc).2.2 k; rw [htk] at this; cases this⟩
      by_cases hkk : k' = k
      · subst hkk; simp [pushVer, upd_same]
      · have : k ≠ k' := fun hh => hkk hh.symm
        simp [pushVer, this]
    · rename_i htk
      have htk : st.tracked k = false := by simpa using htk
      have hV : ∀ q k' v, VOk st.floor st.ver st.tracked q k' v →
          VOk st.floor (upd st.ver k (st.ver k + 1)) st.tracked q k' v :=
        fun q k' v hv => hv.change hv.1 (hver k') (fun m hm hc => ⟨m, hm, hc⟩)
          (fun hlt ht => by rw [hbump hlt, htk] at ht; cases ht) fun _ ht => ht
      refine ⟨h.store, fun e he hp => (h.entries e he hp).change (hV _ _ _) fun _ hp => hp, ?_, hfl, h.dead⟩
      have := QOk_extend st.respQ [] h.queue
        (fun rest k' _ v _ _ _ hv => by rw [List.append_nil]; exact hV rest k' v hv) hver trivial
        (fun _ _ _ _ _ hm => (List.not_mem_nil hm).elim)
      rwa [List.append_nil] at this
  | flushall =>
    simp only [step]
    split
    · rename_i hc
      have hnil := h.store.closedNil hc
      refine ⟨h.store, ?_, ?_, fun k => Nat.le_trans (h.floorLe k) (Nat.le_succ _), h.dead⟩
      · intro e he; have he : e ∈ st.store.list := he; rw [hnil] at he; cases he
      · show QOk _ _ _ st.respQ
        rw [(h.dead hc).1]; trivial
    · rename_i hopen
      have hV : ∀ q k' v, VOk st.floor st.ver st.tracked q k' v →
          VOk st.floor (fun k => st.ver k + 1) (fun _ => false) (q ++ [.pushAll fun k => st.ver k + 1]) k' v :=
        fun q k' v hv => hv.change hv.1 (Nat.le_succ _) (cover_append _)
          (fun _ _ => ⟨_, List.mem_append_right _ (List.mem_singleton.2 rfl), Nat.lt_succ_self _⟩)
          fun heq _ => absurd heq (Nat.succ_ne_self _)
      exact ⟨h.store, fun e he hp => (h.entries e he hp).change (hV _ _ _) fun _ hp => hp,
        QOk_push h.queue hV (fun _ => Nat.le_succ _) (fun _ _ _ _ _ he => nomatch he) fun _ => Nat.le_refl _,
        fun k => Nat.le_trans (h.floorLe k) (Nat.le_succ _), fun hc => absurd hc hopen⟩
  | deliver tnow =>
    simp only [step]
    split
    · exact h
    · rename_i m rest hq
      have hopen : st.store.closed = true → False := by
        intro hc; have := (h.dead hc).1; rw [hq] at this; cases this
      have hqueue := h.queue
      have hent := h.entries
      rw [hq] at hqueue hent
      -- an entry stays good when a head that does not cover it leaves the queue
      have htail : ∀ {e : Entry} {log'}, pushVer m e.key ≤ e.val → (∀ p ∈ st.log, p ∈ log') →
          EOk st.floor st.ver st.tracked st.log (m :: rest) e → EOk st.floor st.ver st.tracked log' rest e :=
        fun h0 hl he => he.change (fun hv => hv.change hv.1 (Nat.le_refl _) (cover_tail h0)
          (fun hlt => absurd hlt (Nat.lt_irrefl _)) fun _ ht => ht) hl
      -- the rest of the queue under a floor raised to what the head invalidates
      have hfloor : QOk (fun k' => max (st.floor k') (pushVer m k')) st.ver st.tracked rest := by
        have := QOk_extend rest [] hqueue.2 (f' := fun k' => max (st.floor k') (pushVer m k'))
          (fun rest' k' c' v vsz raw hm hv => by
            rw [List.append_nil]
            exact hv.change (Nat.max_le.2 ⟨hv.1, QOk_replies_ge hqueue k' c' v vsz raw hm⟩) (Nat.le_refl _)
              (fun m hm hc => ⟨m, hm, hc⟩) (fun hlt => absurd hlt (Nat.lt_irrefl _)) fun _ ht => ht)
          (fun _ => Nat.le_refl _) trivial (fun _ _ _ _ _ hm => (List.not_mem_nil hm).elim)
        rwa [List.append_nil] at this
      have hfloorLe : ∀ k', max (st.floor k') (pushVer m k') ≤ st.ver k' :=
        fun k' => Nat.max_le.2 ⟨h.floorLe k', hqueue.1.2.2 k'⟩
      cases m with
      | reply k c v vsz raw =>
        simp only [handle]
        refine ⟨Lru.inv_update h.store k c v vsz (Lru.serverRaw tnow raw), fun e he hp => ?_, hqueue.2, h.floorLe,
          fun hc => (hopen ((Lru.update_conf _ k c v vsz _).2.2.symm.trans hc)).elim⟩
        rcases Lru.update_completed st.store h.store k c v vsz (Lru.serverRaw tnow raw) e he hp with hold | hnew
        · exact htail (Nat.zero_le _) (fun _ hp => List.mem_append_left _ hp) (hent e hold hp)
        · obtain ⟨h1, h2, h3⟩ := hnew
          obtain ⟨a, b, c', d⟩ := hqueue.1.1 k c v vsz raw rfl
          unfold EOk
          rw [h1, h2, h3]
          exact ⟨a, b, c', d, by simp⟩
      | fail k c err =>
        simp only [handle]
        exact ⟨Lru.inv_cancel h.store k c err,
          fun e he hp => htail (Nat.zero_le _) (fun _ hp => hp) (hent e (Lru.cancel_sub st.store k c err e he) hp),
          hqueue.2, h.floorLe, fun hc => (hopen ((Lru.cancel_conf _ k c err).2.2.symm.trans hc)).elim⟩
      | push k n =>
        simp only [handle]
        refine ⟨Lru.inv_delete h.store (some [k]), fun e he hp => ?_, funext (handle_floor _ tnow (.push k n)) ▸ hfloor,
          fun k' => handle_floor _ tnow (.push k n) k' ▸ hfloorLe k',
          fun hc => (hopen ((Lru.delete_conf _ _).2.2.symm.trans hc)).elim⟩
        have hm := Lru.mem_foldl_purge [k] he
        have hek : k ≠ e.key := fun hh => hm.2 hp (by simp [hh])
        have := htail (by simp [pushVer, hek]) (fun _ hp => hp) (hent e hm.1 hp)
        exact this.change (fun hv => ⟨Nat.le_trans (Nat.le_of_eq (upd_other st.floor k e.key _ (Ne.symm hek))) hv.1, hv.2⟩) fun _ hp => hp
      | pushAll g =>
        simp only [handle]
        refine ⟨Lru.inv_delete h.store none, fun e he hp => ?_, hfloor, hfloorLe,
          fun hc => (hopen ((Lru.delete_conf _ _).2.2.symm.trans hc)).elim⟩
        obtain ⟨ks, hks, -⟩ := (Lru.mem_delete none he).2 hp
        cases hks
  | disconnect err =>
    simp only [step]
    exact ⟨Lru.inv_close _ _, by simp [Lru.close], trivial, h.floorLe, fun _ => ⟨rfl, rfl, fun _ => rfl⟩⟩

theorem pinv_run {st : St} (h : PInv st) (evs : List Ev) : PInv (run st evs) := by
  induction evs generalizing st with
  | nil => exact h
  | cons e rest ih => exact ih (pinv_step h e)

theorem QOk_suffix {f ver : Bytes → Nat} {tr : Bytes → Bool} (pre post : List Msg) (h : QOk f ver tr (pre ++ post)) :
    QOk f ver tr post := by
  induction pre with
  | nil => exact h
  | cons a rest ih => exact ih h.2

/-- the ghost floor never decreases -/
theorem floor_mono_step (st : St) (ev : Ev) (k : Bytes) : st.floor k ≤ (step st ev).floor k := by
  cases ev
  case deliver tnow =>
    simp only [step]
    split
    · exact Nat.le_refl _
    · rw [handle_floor]; exact Nat.le_max_left _ _
  -- no other event writes the floor
  all_goals simp only [step]; repeat' split
  all_goals exact Nat.le_refl _

theorem floor_mono_run (st : St) (evs : List Ev) (k : Bytes) : st.floor k ≤ (run st evs).floor k := by
  induction evs generalizing st with
  | nil => exact Nat.le_refl _
  | cons e rest ih => exact Nat.le_trans (floor_mono_step st e k) (ih _)

end Rv.CachePipe
