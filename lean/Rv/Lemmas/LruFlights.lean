/-
Positional results of `Flights` in the LRU model: every hit written to `results[j]`
(by the read-locked first loop or the write-locked second one) is the specification's value
of the j-th command.
-/
import Rv.Lemmas.LruPending
namespace Rv.Lru
open Rv.Spec.Cache (Spec lookup)

theorem hit_of_resOf {s : State} {sp : Spec} (h : R s sp) {k c : Bytes} {e : Entry} {nowMs : Int}
    (hf : find? s.list k c = some e) (hv : valid e nowMs = true) {v : Nat} {exp : Int} (hr : resOf e = .hit v exp) :
    lookup sp (k, c) nowMs = some (v, exp) := by
  obtain ⟨hp, rfl, rfl, hlt⟩ := resOf_hit hr hv
  exact hit_of_found h hf hp hlt

/-- the slot the read-locked first loop of `Flights` writes for one command: the answer of the valid entry filed
    under its (key, cmd), if there is one -/
def slot1 (s : State) (nowMs : Int) (x : Bytes × Bytes × Int) : Option FRes :=
  match (if s.closed then none else find? s.list x.1 x.2.1) with
  | some e => if e.pend || decide (relativePTTL e.exp nowMs > 0) then some (resOf e) else none
  | none => none

theorem slot1_some {s : State} {nowMs : Int} {k c : Bytes} {ttl : Int} {r : FRes} (h : slot1 s nowMs (k, c, ttl) = some r) :
    ∃ e, find? s.list k c = some e ∧ valid e nowMs = true ∧ r = resOf e := by
  unfold slot1 at h
  split at h
  · rename_i e hf
    split at hf
    · cases hf
    · split at h
      · rename_i hv; cases h; exact ⟨e, hf, hv, rfl⟩
      · cases h
  · cases h

/-- the positional results of the first loop of `Flights`: one slot per command, computed on the (unchanged) list -/
theorem flights1_res (nowMs : Int) (multi : List (Bytes × Bytes × Int)) (i : Nat) (a : P1) :
    (flights1 nowMs multi i a).res = a.res ++ multi.map (slot1 a.s nowMs) := by
  induction multi generalizing i a with
  | nil => exact (List.append_nil _).symm
  | cons x rest ih =>
    obtain ⟨k, c, t⟩ := x
    -- the accumulator handed on has the slot of this command appended; bumping a hit counter does not change slots
    have key : ∀ a' : P1, a'.res = a.res ++ [slot1 a.s nowMs (k, c, t)] → slot1 a'.s nowMs = slot1 a.s nowMs →
        (flights1 nowMs rest (i + 1) a').res = a.res ++ ((k, c, t) :: rest).map (slot1 a.s nowMs) := by
      intro a' hres hs
      rw [ih, hres, hs, List.append_assoc]; rfl
    simp only [flights1]
    split
    · rename_i e hf
      split
      · rename_i hv; exact key _ (by simp only [slot1, hf, hv, if_true]) rfl
      · rename_i hv; exact key _ (by simp only [slot1, hf, hv, Bool.false_eq_true, if_false]) rfl
    · rename_i hf; exact key _ (by simp only [slot1, hf]) rfl

theorem sent_vals (sp : Spec) (kc : Spec.Cache.KC) (e : Int) : (Spec.Cache.sent sp kc e).vals = sp.vals := by
  unfold Spec.Cache.sent; split <;> rfl

theorem specSends_vals (sp : Spec) (now : Int) (multi : List (Bytes × Bytes × Int)) (ms : List Nat) :
    (specSends sp now multi ms).vals = sp.vals := by
  induction ms generalizing sp with
  | nil => rfl
  | cons i rest ih =>
    rw [specSends, List.foldl_cons, ← specSends, ih, sendStep]
    split
    · exact sent_vals _ _ _
    · rfl

theorem lookup_of_vals {sp sp' : Spec} (h : sp'.vals = sp.vals) (kc : Spec.Cache.KC) (t : Int) :
    lookup sp' kc t = lookup sp kc t := by
  simp [lookup, h]

/-- hits written by the second loop of `Flights` are the specification's values as well -/
theorem flights2_hits (multi : List (Bytes × Bytes × Int)) (now : Int) (sp0 : Spec) (ms : List Nat) (s : State)
    (res : List (Option FRes)) (out : List Nat) (hi : Inv s) (sp : Spec) (hR : R s sp) (hvals : sp.vals = sp0.vals)
    (j : Nat) (v : Nat) (exp : Int)
    (h : (flights2 multi now ms s res out).2.1[j]? = some (some (.hit v exp))) :
    res[j]? = some (some (.hit v exp)) ∨
      ∃ k c ttl, multi[j]? = some (k, c, ttl) ∧ lookup sp0 (k, c) (unixMilli now) = some (v, exp) := by
  refine (flights2_slot (Φ := fun s => Inv s ∧ ∃ sp, R s sp ∧ sp.vals = sp0.vals) ?_ multi ms ⟨hi, sp, hR, hvals⟩
    res out h).imp_right ?_
  · rintro s k c ttl ⟨hi, sp, hR, hv⟩
    refine ⟨inv_locked hi k c ttl now, _, R_outcome hR hi (locked_cases s k c ttl now), ?_⟩
    split
    · rw [sent_vals]; exact hv
    · exact hv
  · rintro ⟨s', k, c, ttl, -, -, -, ⟨-, sp', hR', hv'⟩, hm, hr, -⟩
    exact ⟨k, c, ttl, hm, (lookup_of_vals hv' _ _).symm.trans (hit_of_outcome hR' (locked_cases s' k c ttl now) hr.symm)⟩

/-- **Positional hits of `Flights`.** In a state related to the specification, whatever `Flights` puts into
    `results[j]` is the specification's current unexpired value of the j-th command. -/
theorem flights_hits {s : State} {sp : Spec} (hR : R s sp) (hi : Inv s) (now : Int) (multi : List (Bytes × Bytes × Int))
    (j : Nat) (v : Nat) (exp : Int) (h : (flights s now multi).2.1[j]? = some (some (.hit v exp))) :
    ∃ k c ttl, multi[j]? = some (k, c, ttl) ∧ lookup sp (k, c) (unixMilli now) = some (v, exp) := by
  have hspec := flightsMid_spec s now multi
  have t1 := flights1_res (unixMilli now) multi 0 { s := s, res := [], moves := [], missed := [] }
  unfold flights at h
  unfold flightsMid at hspec
  generalize flights1 (unixMilli now) multi 0 { s := s, res := [], moves := [], missed := [] } = a at h t1 hspec
  simp only [List.nil_append] at t1
  obtain ⟨hmem, -, -, hfr, hinv⟩ := hspec
  have hR1 := R_sub hR (fun x hx => (hmem x).1 hx) hfr.1
  have hphase1 : a.res[j]? = some (some (.hit v exp)) →
      ∃ k c ttl, multi[j]? = some (k, c, ttl) ∧ lookup sp (k, c) (unixMilli now) = some (v, exp) := by
    intro hh
    rw [t1, List.getElem?_map] at hh
    obtain ⟨⟨k, c, ttl⟩, g1, hs⟩ := Option.map_eq_some_iff.1 hh
    obtain ⟨e, g3, g4, g5⟩ := slot1_some hs
    exact ⟨k, c, ttl, g1, hit_of_resOf hR g3 g4 g5.symm⟩
  simp only at h
  split at h
  · exact hphase1 h
  · split at h
    · exact hphase1 h
    · rcases flights2_hits multi now sp a.missed _ a.res [] (hinv hi) sp hR1 rfl j v exp h with hh | hh
      · exact hphase1 hh
      · exact hh

end Rv.Lru
