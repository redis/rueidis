/-
Association-list lemmas for the adapter model: `put`/`del` seen through `get`.
-/
import Rv.Model.Adapter
namespace Rv.Adapter

variable {α β : Type} [DecidableEq α]

theorem get_put (m : List (α × β)) (k k' : α) (v : β) :
    get (put m k v) k' = if k' = k then some v else get m k' := by
  induction m with
  | nil =>
    simp only [put, get]
    by_cases h : k' = k
    · simp [h]
    · have : ¬ k = k' := fun hh => h hh.symm
      simp [h, this]
  | cons a m ih =>
    obtain ⟨ak, av⟩ := a
    simp only [put]
    by_cases h1 : ak = k
    · subst h1; simp only [if_true, get]
      by_cases h : k' = ak
      · subst h; simp
      · have : ¬ ak = k' := fun hh => h hh.symm
        simp [h, this]
    · simp only [h1, if_false, get]
      by_cases h2 : ak = k'
      · subst h2; simp [h1]
      · simp only [h2, if_false]; exact ih

theorem get_del (m : List (α × β)) (k k' : α) :
    get (del m k) k' = if k' = k then none else get m k' := by
  induction m with
  | nil => simp [del, get]
  | cons a m ih =>
    obtain ⟨ak, av⟩ := a
    unfold del at ih ⊢
    simp only [List.filter_cons]
    by_cases h1 : ak = k
    · subst h1
      simp only [ne_eq, not_true_eq_false, decide_false, Bool.false_eq_true, if_false]
      rw [ih]
      by_cases h : k' = ak
      · simp [h]
      · have : ¬ ak = k' := fun hh => h hh.symm
        simp [h, get, this]
    · simp only [ne_eq, h1, not_false_eq_true, decide_true, if_true, get]
      by_cases h2 : ak = k'
      · subst h2; simp [h1]
      · simp only [h2, if_false]; exact ih

theorem get_foldl_del (ks : List α) (m : List (α × β)) (k' : α) :
    get (ks.foldl del m) k' = if k' ∈ ks then none else get m k' := by
  induction ks generalizing m with
  | nil => simp
  | cons k rest ih =>
    simp only [List.foldl_cons]
    rw [ih, get_del]
    by_cases h1 : k' ∈ rest
    · simp [h1]
    · by_cases h2 : k' = k
      · simp [h2]
      · simp [h1, h2]

theorem mem_of_get (m : List (α × β)) (k : α) (v : β) (h : get m k = some v) : (k, v) ∈ m := by
  induction m with
  | nil => simp [get] at h
  | cons a m ih =>
    obtain ⟨ak, av⟩ := a
    simp only [get] at h
    by_cases hk : ak = k
    · rw [if_pos hk] at h; cases h; rw [hk]; exact List.mem_cons_self
    · rw [if_neg hk] at h
      exact List.mem_cons_of_mem _ (ih h)

theorem mem_keys_of_get (m : List (α × β)) (k : α) (v : β) (h : get m k = some v) : k ∈ m.map (·.1) :=
  List.mem_map.2 ⟨(k, v), mem_of_get m k v h, rfl⟩

end Rv.Adapter
