/-
Refinement of the specification map by the adapter model (`NewSimpleCacheAdapter`), for
names on which `key ++ cmd` is injective and a clock that does not step back.
-/
import Rv.Lemmas.AdapterMap
import Rv.Lemmas.LruPack
namespace Rv.Adapter
open Rv.Lru (Bytes FRes pack unixMilli relativePTTL)
open Rv.Spec.Cache (Spec)

theorem miss_cases (s : State) (k c : Bytes) (ttl now : Int) :
    (∃ e, slot s k c = some (some e) ∧ miss s k c ttl now = (s, .wait e.id)) ∨
    ((∀ e, slot s k c ≠ some (some e)) ∧ (miss s k c ttl now).2 = .send ∧
      ((s.flights = none ∧ (miss s k c ttl now).1 = s) ∨
       ∃ fl, s.flights = some fl ∧ (miss s k c ttl now).1 =
        { s with flights := some (put fl (k, c) (some { id := s.nextId, xat := unixMilli (now + ttl) })),
                 nextId := s.nextId + 1 })) := by
  unfold miss
  split
  · rename_i e he; exact Or.inl ⟨e, he, rfl⟩
  · rename_i hnp
    refine Or.inr ⟨fun e he => hnp e he, ?_⟩
    split
    · rename_i hfl; exact ⟨rfl, Or.inl ⟨hfl, rfl⟩⟩
    · rename_i fl hfl; exact ⟨rfl, Or.inr ⟨fl, hfl, rfl⟩⟩

theorem flight_cases (s : State) (k c : Bytes) (ttl now : Int) :
    (∃ v exp, get s.store (k ++ c) = some (v, exp) ∧ unixMilli now < exp ∧ flight s k c ttl now = (s, .hit v exp)) ∨
    ((∀ v exp, get s.store (k ++ c) = some (v, exp) → exp ≤ unixMilli now) ∧
      flight s k c ttl now = miss s k c ttl now) := by
  unfold flight
  split
  · rename_i v exp hg
    split
    · rename_i hrel; exact Or.inl ⟨v, exp, hg, by rw [relativePTTL] at hrel; omega, rfl⟩
    · rename_i hrel
      refine Or.inr ⟨fun v' exp' hg' => ?_, rfl⟩
      rw [hg] at hg'; cases hg'
      rw [relativePTTL] at hrel; omega
  · rename_i hg
    exact Or.inr ⟨fun v' exp' hg' => (by rw [hg] at hg'; cases hg'), rfl⟩

theorem of_hit {s : State} {k c : Bytes} {ttl now : Int} {v : Nat} {exp : Int}
    (h : (flight s k c ttl now).2 = .hit v exp) : unixMilli now < exp ∧ get s.store (k ++ c) = some (v, exp) := by
  rcases flight_cases s k c ttl now with ⟨v', exp', hg, hlt, hf⟩ | ⟨-, hf⟩ <;> rw [hf] at h
  · cases h; exact ⟨hlt, hg⟩
  · rcases miss_cases s k c ttl now with ⟨e, -, hm⟩ | ⟨-, hm, -⟩ <;> rw [hm] at h <;> cases h

theorem mem_marked (fl : List (KC × Option AEntry)) (k : Bytes) (kc : KC) :
    kc ∈ marked fl k ↔ kc.1 = k ∧ get fl kc = some none := by
  unfold marked
  rw [List.mem_filter]
  constructor
  · rintro ⟨_, h⟩; simpa using h
  · intro h
    exact ⟨mem_keys_of_get fl kc none h.2, by simp [h.1, h.2]⟩

theorem store_delKey_some (s : State) (k : Bytes) {fl : List (KC × Option AEntry)} (hfl : s.flights = some fl) :
    (delKey s k).store = ((marked fl k).map fun kc => kc.1 ++ kc.2).foldl del s.store := by
  unfold delKey; rw [hfl]; exact List.foldl_map.symm

theorem slot_delKey (s : State) (k : Bytes) (k' c' : Bytes) :
    slot (delKey s k) k' c' = if k' = k ∧ slot s k' c' = some none then none else slot s k' c' := by
  unfold delKey slot
  cases hfl : s.flights with
  | none => simp [hfl, get]
  | some fl => simp only [Option.getD_some, get_foldl_del, mem_marked]

theorem store_delKey_hit (s : State) (k c : Bytes) (h : slot s k c = some none) :
    get (delKey s k).store (k ++ c) = none := by
  cases hfl : s.flights with
  | none => simp [slot, hfl, get] at h
  | some fl =>
    rw [store_delKey_some s k hfl, get_foldl_del, if_pos]
    exact List.mem_map.2 ⟨(k, c), (mem_marked fl k (k, c)).2 ⟨rfl, by simpa [slot, hfl] using h⟩, rfl⟩

theorem store_delKey_miss (s : State) (k : Bytes) (a : Bytes)
    (h : ∀ c, slot s k c = some none → a ≠ k ++ c) :
    get (delKey s k).store a = get s.store a := by
  cases hfl : s.flights with
  | none => unfold delKey; rw [hfl]
  | some fl =>
    rw [store_delKey_some s k hfl, get_foldl_del, if_neg]
    rintro hm
    obtain ⟨⟨k1, c1⟩, hkc, ha⟩ := List.mem_map.1 hm
    obtain ⟨rfl, h2⟩ := (mem_marked fl _ _).1 hkc
    exact h c1 (by simp [slot, hfl, h2]) ha.symm

theorem flights_delKey_none (s : State) (k : Bytes) : (delKey s k).flights.isNone = s.flights.isNone := by
  unfold delKey; cases h : s.flights <;> simp [h]

theorem slot_put (s : State) (fl : List (KC × Option AEntry)) (hfl : s.flights = some fl) (k c : Bytes)
    (x : Option AEntry) (s' : State) (hs' : s'.flights = some (put fl (k, c) x)) (k' c' : Bytes) :
    slot s' k' c' = if (k', c') = (k, c) then some x else slot s k' c' := by
  simp only [slot, hs', hfl, Option.getD_some, get_put]

theorem slot_put_ne {s s' : State} {fl : List (KC × Option AEntry)} (hfl : s.flights = some fl) {k' c' : Bytes}
    {x : Option AEntry} (hs' : s'.flights = some (put fl (k', c') x)) {k c : Bytes} (hne : ¬ (k' = k ∧ c' = c)) :
    slot s' k c = slot s k c := by
  rw [slot_put s fl hfl k' c' x s' hs', if_neg fun heq => by cases heq; exact hne ⟨rfl, rfl⟩]

/-- `key ++ cmd` is injective on the (key, cmd) pairs in `P` -/
def Inj (P : KC → Prop) : Prop := ∀ a b, P a → P b → a.1 ++ a.2 = b.1 ++ b.2 → a = b

/-- refinement relation between the adapter model and the specification, for names in `P` and a clock that has
    reached `T` ms -/
structure RA (P : KC → Prop) (T : Int) (s : State) (sp : Spec) : Prop where
  live : ∀ k c v exp, P (k, c) → get s.store (k ++ c) = some (v, exp) →
    exp ≤ T ∨ (sp.vals (k, c) = some (v, exp) ∧ slot s k c = some none)
  pend : ∀ k c e, slot s k c = some (some e) → sp.out (k, c) = some e.xat ∧ 0 ≤ e.xat ∧ e.xat < 2 ^ 56
  idle : ∀ k c, (∀ e, slot s k c ≠ some (some e)) → sp.out (k, c) = none
  dom : ∀ k c, slot s k c ≠ none → P (k, c)
  closedStore : s.flights = none → s.store = []
  closed : sp.closed = s.flights.isNone

theorem RA_init (P : KC → Prop) (T : Int) : RA P T init Spec.Cache.empty :=
  ⟨by simp [init, get], by simp [init, slot, get], by simp [Spec.Cache.empty], by simp [init, slot, get],
   by simp [init], by simp [init, Spec.Cache.empty]⟩

section
variable {P : KC → Prop} {T : Int} {s : State} {sp : Spec}

theorem RA_mono {T' : Int} (h : RA P T s sp) (hT : T ≤ T') : RA P T' s sp :=
  ⟨fun k c v exp hp hg => by rcases h.live k c v exp hp hg with h1 | h1; exact Or.inl (by omega); exact Or.inr h1,
   h.pend, h.idle, h.dom, h.closedStore, h.closed⟩

/-- the relation after slot (k, c) is overwritten with `x` and the specification changes at (k, c) only -/
theorem RA_put {s' : State} {sp' : Spec} (h : RA P T s sp)
    {fl : List (KC × Option AEntry)} (hfl : s.flights = some fl) {k c : Bytes} {x : Option AEntry}
    (hfl' : s'.flights = some (put fl (k, c) x)) (hP : P (k, c))
    (hv : ∀ kc, kc ≠ (k, c) → sp'.vals kc = sp.vals kc) (ho : ∀ kc, kc ≠ (k, c) → sp'.out kc = sp.out kc)
    (hc : sp'.closed = false)
    (hstore : ∀ k' c' v exp, (k', c') ≠ (k, c) → P (k', c') → get s'.store (k' ++ c') = some (v, exp) →
      get s.store (k' ++ c') = some (v, exp))
    (hlive : ∀ v exp, get s'.store (k ++ c) = some (v, exp) → exp ≤ T ∨ (sp'.vals (k, c) = some (v, exp) ∧ x = none))
    (hout : sp'.out (k, c) = x.map (·.xat) ∧ ∀ e, x = some e → 0 ≤ e.xat ∧ e.xat < 2 ^ 56) : RA P T s' sp' := by
  have hslot := slot_put s fl hfl k c x s' hfl'
  refine ⟨fun k' c' v exp hp' hg => ?_, fun k' c' e he => ?_, fun k' c' hne => ?_, fun k' c' hne => ?_,
    fun hn => (by rw [hfl'] at hn; cases hn), (by rw [hc, hfl']; rfl)⟩ <;>
    by_cases hkc : (k', c') = (k, c)
  · cases hkc
    exact (hlive v exp hg).imp_right fun hh => ⟨hh.1, by rw [hslot, if_pos rfl, hh.2]⟩
  · rw [hslot, if_neg hkc, hv _ hkc]; exact h.live k' c' v exp hp' (hstore k' c' v exp hkc hp' hg)
  · cases hkc
    rw [hslot, if_pos rfl] at he; cases he
    exact ⟨hout.1, hout.2 e rfl⟩
  · rw [hslot, if_neg hkc] at he; rw [ho _ hkc]; exact h.pend k' c' e he
  · cases hkc
    cases x with
    | none => exact hout.1
    | some e => exact absurd (by rw [hslot, if_pos rfl]) (hne e)
  · rw [ho _ hkc]
    exact h.idle k' c' fun e he => hne e (by rw [hslot, if_neg hkc]; exact he)
  · cases hkc; exact hP
  · exact h.dom k' c' (by rw [hslot, if_neg hkc] at hne; exact hne)

theorem RA_flight (h : RA P T s sp)
    (k c : Bytes) (ttl now : Int) (hP : P (k, c)) (hT : T ≤ unixMilli now)
    (h0 : 0 ≤ unixMilli (now + ttl)) (h1 : unixMilli (now + ttl) < 2 ^ 56) :
    RA P (unixMilli now) (flight s k c ttl now).1
      (if (flight s k c ttl now).2 = .send then Spec.Cache.sent sp (k, c) (unixMilli (now + ttl)) else sp) := by
  have hm := RA_mono h hT
  rcases flight_cases s k c ttl now with ⟨v, exp, -, -, hf⟩ | ⟨hexp, hf⟩ <;> rw [hf]
  · exact hm
  rcases miss_cases s k c ttl now with ⟨e, -, hmi⟩ | ⟨-, hsend, ⟨hfl, hst⟩ | ⟨fl, hfl, hst⟩⟩
  · rw [hmi]; exact hm
  · rw [if_pos hsend, hst, Spec.Cache.sent, if_pos (by rw [h.closed, hfl]; rfl)]; exact hm
  · have hopen : sp.closed = false := by rw [h.closed, hfl]; rfl
    rw [if_pos hsend, hst, Spec.Cache.sent, if_neg (by rw [hopen]; exact Bool.false_ne_true)]
    exact RA_put hm hfl rfl hP (fun _ _ => rfl) (fun _ hkc => if_neg hkc) hopen (fun _ _ _ _ _ _ hg => hg)
      (fun v exp hg => Or.inl (hexp v exp hg)) ⟨if_pos rfl, fun e he => by cases he; exact ⟨h0, h1⟩⟩

/-- no pending slot for (k, c) when `update`/`cancel` fall through to their default case -/
theorem not_pending_of_default {k c : Bytes}
    (hno : ∀ (fl : List (KC × Option AEntry)) (e : AEntry), s.flights = some fl → slot s k c = some (some e) → False) :
    ∀ e, slot s k c ≠ some (some e) := by
  intro e he
  cases hfl : s.flights with
  | none => simp [slot, hfl, get] at he
  | some fl => exact hno fl e hfl he

theorem own_eq_expiry (x p : Int) :
    (if (decide (x < p) || decide (p = 0)) = true then x else p) = Spec.Cache.expiry x p := by
  rw [← Lru.chooseExp_eq]
  simp only [Lru.chooseExp, Bool.or_eq_true, decide_eq_true_eq]

theorem RA_update (hinj : Inj P) (h : RA P T s sp)
    (k c : Bytes) (v : Nat) (raw : Int) :
    RA P T (update s k c v raw).1 (Spec.Cache.update sp (k, c) v (pack raw)) := by
  unfold update
  split
  · rename_i fl e hfl hsl
    have hopen : sp.closed = false := by rw [h.closed, hfl]; rfl
    have hP : P (k, c) := h.dom k c (by rw [hsl]; exact fun hh => nomatch hh)
    have hp := h.pend k c e hsl
    have hstored : (if (decide (e.xat < pack raw) || decide (pack raw = 0)) = true then pack e.xat else pack raw) =
        Spec.Cache.expiry e.xat (pack raw) := by
      rw [Lru.pack_of_lt hp.2.1 hp.2.2, own_eq_expiry]
    simp only [hstored]
    unfold Spec.Cache.update
    simp only [hopen, Bool.false_eq_true, if_false, hp.1]
    refine RA_put h hfl rfl hP (fun _ hkc => if_neg hkc) (fun _ hkc => if_neg hkc) rfl ?_ ?_ ⟨if_pos rfl, fun e he => nomatch he⟩
    · intro k' c' v' exp' hkc hp' hg
      have hg : get (put s.store (k ++ c) (v, Spec.Cache.expiry e.xat (pack raw))) (k' ++ c') = some (v', exp') := hg
      rwa [get_put, if_neg fun ha => hkc (hinj _ _ hp' hP ha)] at hg
    · intro v' exp' hg
      have hg : get (put s.store (k ++ c) (v, Spec.Cache.expiry e.xat (pack raw))) (k ++ c) = some (v', exp') := hg
      rw [get_put, if_pos rfl] at hg; cases hg
      exact Or.inr ⟨if_pos rfl, rfl⟩
  · rename_i hno
    rw [show Spec.Cache.update sp (k, c) v (pack raw) = sp from ?_]
    · exact h
    · unfold Spec.Cache.update
      split
      · rfl
      · rw [h.idle k c (not_pending_of_default hno)]

/-- the relation depends on the specification only through its three components, pointwise -/
theorem RA_congr {sp' : Spec} (h : RA P T s sp)
    (hv : ∀ x, sp'.vals x = sp.vals x) (ho : ∀ x, sp'.out x = sp.out x) (hc : sp'.closed = sp.closed) : RA P T s sp' :=
  ⟨fun k c v exp hp hg => by rw [hv]; exact h.live k c v exp hp hg,
   fun k c e he => by rw [ho]; exact h.pend k c e he,
   fun k c hne => by rw [ho]; exact h.idle k c hne, h.dom, h.closedStore, by rw [hc]; exact h.closed⟩

theorem RA_cancel (h : RA P T s sp)
    (k c : Bytes) (err : Nat) :
    RA P T (cancel s k c err) (Spec.Cache.cancel sp (k, c)) := by
  unfold cancel
  split
  · rename_i fl e hfl hsl
    have hopen : sp.closed = false := by rw [h.closed, hfl]; rfl
    have hP : P (k, c) := h.dom k c (by rw [hsl]; exact fun hh => nomatch hh)
    unfold Spec.Cache.cancel
    simp only [hopen, Bool.false_eq_true, if_false]
    refine RA_put h hfl rfl hP (fun _ _ => rfl) (fun _ hkc => if_neg hkc) rfl (fun _ _ _ _ _ _ hg => hg) ?_
      ⟨if_pos rfl, fun e he => nomatch he⟩
    intro v' exp' hg
    refine (h.live k c v' exp' hP hg).imp_right fun hl => ?_
    rw [hsl] at hl; cases hl.2
  · rename_i hno
    have hout := h.idle k c (not_pending_of_default hno)
    unfold Spec.Cache.cancel
    split
    · exact h
    · refine RA_congr h (fun _ => rfl) (fun x => ?_) rfl
      show (if x = (k, c) then none else sp.out x) = sp.out x
      split
      · rename_i hx; rw [hx, hout]
      · rfl

theorem RA_delKey (h : RA P T s sp) (k : Bytes) :
    RA P T (delKey s k) (Spec.Cache.delete sp [k]) := by
  refine ⟨?_, ?_, ?_, ?_, ?_, ?_⟩
  · intro k' c' v exp hp' hg
    -- the address survived `del(key)`
    have hsurv : get s.store (k' ++ c') = some (v, exp) ∧ ¬ (k' = k ∧ slot s k' c' = some none) := by
      by_cases hm : ∃ c, slot s k c = some none ∧ k' ++ c' = k ++ c
      · obtain ⟨c, hc, ha⟩ := hm
        rw [ha, store_delKey_hit s k c hc] at hg; cases hg
      · rw [store_delKey_miss s k (k' ++ c') (fun c hc ha => hm ⟨c, hc, ha⟩)] at hg
        exact ⟨hg, fun hh => hm ⟨c', hh.1 ▸ hh.2, by rw [hh.1]⟩⟩
    rcases h.live k' c' v exp hp' hsurv.1 with hl | hl
    · exact Or.inl hl
    · right
      have hk : k' ≠ k := fun hh => hsurv.2 ⟨hh, hl.2⟩
      refine ⟨by simp [Spec.Cache.delete, hk, hl.1], ?_⟩
      rw [slot_delKey]; simp [hk, hl.2]
  · intro k' c' e he
    rw [slot_delKey] at he
    split at he
    · cases he
    · exact h.pend k' c' e he
  · intro k' c' hne
    apply h.idle k' c'
    intro e he
    apply hne e
    rw [slot_delKey]; simp [he]
  · intro k' c' hne
    apply h.dom k' c'
    intro hh; apply hne
    rw [slot_delKey, hh]; simp
  · intro hfl
    unfold delKey at hfl ⊢
    cases hs : s.flights with
    | none => exact h.closedStore hs
    | some fl => rw [hs] at hfl; cases hfl
  · show sp.closed = _
    rw [flights_delKey_none]; exact h.closed

theorem RA_delKeys (keys : List Bytes)
    (h : RA P T s sp) : RA P T (keys.foldl delKey s) (Spec.Cache.delete sp keys) := by
  induction keys generalizing s sp with
  | nil => exact RA_congr h (fun x => by simp [Spec.Cache.delete]) (fun _ => rfl) rfl
  | cons k rest ih =>
    have := ih (RA_delKey h k)
    refine RA_congr this ?_ (fun _ => rfl) rfl
    intro x
    simp only [Spec.Cache.delete, List.mem_cons, List.not_mem_nil, or_false]
    by_cases h1 : x.1 = k <;> by_cases h2 : x.1 ∈ rest <;> simp [h1, h2]

theorem slot_foldl_delKey_sub (keys : List Bytes) (s : State) (k c : Bytes) (x : Option AEntry)
    (h : slot (keys.foldl delKey s) k c = some x) : slot s k c = some x := by
  induction keys generalizing s with
  | nil => exact h
  | cons k0 rest ih =>
    have := ih (delKey s k0) h
    rw [slot_delKey] at this
    split at this
    · cases this
    · exact this

theorem slot_foldl_delKey_marker (keys : List Bytes) (s : State) (k c : Bytes) (hk : k ∈ keys) :
    slot (keys.foldl delKey s) k c ≠ some none := by
  induction keys generalizing s with
  | nil => cases hk
  | cons k0 rest ih =>
    by_cases hr : k ∈ rest
    · exact ih (delKey s k0) hr
    · obtain rfl : k = k0 := (List.mem_cons.1 hk).resolve_right hr
      intro hh
      have := slot_foldl_delKey_sub rest (delKey s k) k c none hh
      rw [slot_delKey] at this
      split at this
      · cases this
      · rename_i hn; exact hn ⟨rfl, this⟩

theorem RA_flush (h : RA P T s sp) :
    RA P T (delete s none) (Spec.Cache.flush sp) := by
  have h' := RA_delKeys ((s.flights.getD []).map (·.1.1)) h
  refine ⟨?_, h'.pend, h'.idle, h'.dom, h'.closedStore, h'.closed⟩
  intro k c v exp hp hg
  rcases h'.live k c v exp hp hg with hl | hl
  · exact Or.inl hl
  · exfalso
    have hs := slot_foldl_delKey_sub _ s k c none hl.2
    have hmem : k ∈ (s.flights.getD []).map (·.1.1) := List.mem_map.2 ⟨((k, c), none), mem_of_get _ _ _ hs, rfl⟩
    exact slot_foldl_delKey_marker _ s k c hmem hl.2

end

theorem RA_close (P : KC → Prop) (T : Int) (s : State) (sp : Spec) (err : Nat) :
    RA P T (close s err) (Spec.Cache.close sp) :=
  ⟨by simp [close, get], by simp [close, slot, get], by simp [Spec.Cache.close], by simp [close, slot, get],
   by simp [close], by simp [close, Spec.Cache.close]⟩

/-- the specification's view of one adapter step -/
def specStepA (sp : Spec) : Op → Res → Spec
  | .flight k c ttl now, .fl .send => Spec.Cache.sent sp (k, c) (unixMilli (now + ttl))
  | .update k c v raw, _ => Spec.Cache.update sp (k, c) v (pack raw)
  | .cancel k c _, _ => Spec.Cache.cancel sp (k, c)
  | .delete (some keys), _ => Spec.Cache.delete sp keys
  | .delete none, _ => Spec.Cache.flush sp
  | .close _, _ => Spec.Cache.close sp
  | _, _ => sp

/-- the clock after an operation: `Flight` is the only call that reads it -/
def clock (T : Int) : Op → Int
  | .flight _ _ _ now => unixMilli now
  | _ => T

/-- admissible operation at clock `T`: its names are in `P`, the clock does not step back, and the
    client expiry fits the 7-byte field -/
def Adm (P : KC → Prop) (T : Int) : Op → Prop
  | .flight k c ttl now => P (k, c) ∧ T ≤ unixMilli now ∧ 0 ≤ unixMilli (now + ttl) ∧ unixMilli (now + ttl) < 2 ^ 56
  | .update k c _ _ => P (k, c)
  | .cancel k c _ => P (k, c)
  | _ => True

def AdmAll (P : KC → Prop) : Int → List Op → Prop
  | _, [] => True
  | T, op :: rest => Adm P T op ∧ AdmAll P (clock T op) rest

def runA (s : State) (sp : Spec) (T : Int) : List Op → State × Spec × Int
  | [] => (s, sp, T)
  | op :: rest => let r := step s op; runA r.1 (specStepA sp op r.2) (clock T op) rest

section
variable {P : KC → Prop} {T : Int} {s : State} {sp : Spec}

theorem RA_step (hinj : Inj P) (h : RA P T s sp) (op : Op)
    (ha : Adm P T op) : RA P (clock T op) (step s op).1 (specStepA sp op (step s op).2) := by
  cases op with
  | flight k c ttl now =>
    have := RA_flight h k c ttl now ha.1 ha.2.1 ha.2.2.1 ha.2.2.2
    simp only [step, clock]
    generalize (flight s k c ttl now).2 = r at this
    cases r <;> simpa [specStepA] using this
  | update k c v raw => exact RA_update hinj h k c v raw
  | cancel k c err => exact RA_cancel h k c err
  | delete keys =>
    cases keys with
    | none => exact RA_flush h
    | some ks => exact RA_delKeys ks h
  | close err => exact RA_close P T s sp err

theorem RA_runA (hinj : Inj P) (ops : List Op) (h : RA P T s sp)
    (ha : AdmAll P T ops) : RA P (runA s sp T ops).2.2 (runA s sp T ops).1 (runA s sp T ops).2.1 := by
  induction ops generalizing T s sp with
  | nil => exact h
  | cons op rest ih => exact ih (RA_step hinj h op ha.1) ha.2

/-- a hit of the adapter at a time not before the clock is the specification's value -/
theorem hit_of_RA (h : RA P T s sp) (k c : Bytes) (ttl now : Int)
    (hP : P (k, c)) (hT : T ≤ unixMilli now) (v : Nat) (exp : Int) (hh : (flight s k c ttl now).2 = .hit v exp) :
    Spec.Cache.lookup sp (k, c) (unixMilli now) = some (v, exp) := by
  obtain ⟨hlt, hg⟩ := of_hit hh
  rcases h.live k c v exp hP hg with hl | hl
  · omega
  · rw [Spec.Cache.lookup, hl.1]; exact if_pos hlt

end

end Rv.Adapter
