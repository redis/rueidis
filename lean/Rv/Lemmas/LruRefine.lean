/-
Refinement of the specification map (`Rv.Spec.Cache`) by the LRU model: the relation
`R`, the specification's view of one model step (`specStep`, it observes only which
lookups were answered "send"), and preservation of `R` by every operation.
-/
import Rv.Lemmas.LruInv
import Rv.Lemmas.LruPack
namespace Rv.Lru
open Rv.Spec.Cache (Spec)

/-- refinement relation between the LRU model and the specification map -/
structure R (s : State) (sp : Spec) : Prop where
  vals : ∀ e ∈ s.list, e.pend = false → sp.vals (e.key, e.cmd) = some (e.val, e.exp)
  out : ∀ e ∈ s.list, e.pend = true → sp.out (e.key, e.cmd) = some e.exp
  noout : ∀ e ∈ s.list, e.pend = false → sp.out (e.key, e.cmd) = none
  closed : sp.closed = s.closed

/-- the specification's view of the `i`-th command of a batch being answered "send" -/
def sendStep (now : Int) (multi : List (Bytes × Bytes × Int)) (sp : Spec) (i : Nat) : Spec :=
  match multi[i]? with
  | some (k, c, ttl) => Spec.Cache.sent sp (k, c) (pack (unixMilli (now + ttl)))
  | none => sp

/-- … and of a whole `Flights` call: `missed` lists the positions answered "send" -/
def specSends (sp : Spec) (now : Int) (multi : List (Bytes × Bytes × Int)) (missed : List Nat) : Spec :=
  missed.foldl (sendStep now multi) sp

/-- the specification's view of one LRU step: of lookups only the `send` answers are observed -/
def specStep (sp : Spec) : Op → Res → Spec
  | .flight k c ttl now, .fl .send => Spec.Cache.sent sp (k, c) (pack (unixMilli (now + ttl)))
  | .flights now multi, .fls _ missed => specSends sp now multi missed
  | .update k c v _ raw, _ => Spec.Cache.update sp (k, c) v (pack raw)
  | .cancel k c _, _ => Spec.Cache.cancel sp (k, c)
  | .delete (some keys), _ => Spec.Cache.delete sp keys
  | .delete none, _ => Spec.Cache.flush sp
  | .close _, _ => Spec.Cache.close sp
  | _, _ => sp

def runBoth (s : State) (sp : Spec) : List Op → State × Spec
  | [] => (s, sp)
  | op :: rest => let r := step s op; runBoth r.1 (specStep sp op r.2) rest

theorem R_init (mx base : Int) : R (Lru.init mx base) Spec.Cache.empty :=
  ⟨by simp [Lru.init], by simp [Lru.init], by simp [Lru.init], rfl⟩

section
variable {s : State} {sp : Spec}

theorem sent_open (h : sp.closed = false) (kc : Spec.Cache.KC) (e : Int) :
    Spec.Cache.sent sp kc e = { sp with out := fun x => if x = kc then some e else sp.out x } := by
  simp [Spec.Cache.sent, h]

theorem sent_closed (h : sp.closed = true) (kc : Spec.Cache.KC) (e : Int) : Spec.Cache.sent sp kc e = sp := by
  simp [Spec.Cache.sent, h]

theorem update_open (h : sp.closed = false) {kc : Spec.Cache.KC} {cexp : Int} (ho : sp.out kc = some cexp)
    (v : Nat) (sexp : Int) :
    Spec.Cache.update sp kc v sexp =
      { sp with vals := fun x => if x = kc then some (v, Spec.Cache.expiry cexp sexp) else sp.vals x,
                out := fun x => if x = kc then none else sp.out x } := by
  simp [Spec.Cache.update, h, ho]

theorem update_noop {kc : Spec.Cache.KC} (h : sp.closed = true ∨ sp.out kc = none) (v : Nat) (sexp : Int) :
    Spec.Cache.update sp kc v sexp = sp := by
  unfold Spec.Cache.update
  rcases h with h | h
  · rw [if_pos h]
  · split
    · rfl
    · rw [h]

/-- the relation survives a change of the specification at one (key, cmd) `kc` if every entry of the new list is
    an old one filed elsewhere, or is filed under `kc` and agrees with the new specification -/
theorem R_override {s' : State} {sp' : Spec} (h : R s sp) (kc : Spec.Cache.KC)
    (hv : ∀ x, x ≠ kc → sp'.vals x = sp.vals x) (ho : ∀ x, x ≠ kc → sp'.out x = sp.out x)
    (hc : sp'.closed = s'.closed)
    (hm : ∀ x ∈ s'.list, (x ∈ s.list ∧ (x.key, x.cmd) ≠ kc) ∨
      ((x.key, x.cmd) = kc ∧ (x.pend = false → sp'.vals kc = some (x.val, x.exp) ∧ sp'.out kc = none) ∧
        (x.pend = true → sp'.out kc = some x.exp))) : R s' sp' := by
  refine ⟨fun x hx hp => ?_, fun x hx hp => ?_, fun x hx hp => ?_, hc⟩ <;> rcases hm x hx with ⟨hxl, hne⟩ | ⟨heq, h1, h2⟩
  · rw [hv _ hne]; exact h.vals x hxl hp
  · rw [heq]; exact (h1 hp).1
  · rw [ho _ hne]; exact h.out x hxl hp
  · rw [heq]; exact h2 hp
  · rw [ho _ hne]; exact h.noout x hxl hp
  · rw [heq]; exact (h1 hp).2

theorem R_sub {s' : State} (h : R s sp) (hl : ∀ x ∈ s'.list, x ∈ s.list) (hc : s'.closed = s.closed) :
    R s' sp :=
  ⟨fun x hx => h.vals x (hl x hx), fun x hx => h.out x (hl x hx), fun x hx => h.noout x (hl x hx), by rw [hc]; exact h.closed⟩

theorem ne_of_not_kc {x : Entry} {k c : Bytes} (h : ¬ (x.key = k ∧ x.cmd = c)) : (x.key, x.cmd) ≠ (k, c) :=
  fun heq => h ⟨congrArg Prod.fst heq, congrArg Prod.snd heq⟩

/-- one single-flight lookup keeps the relation, the spec observing only a `send` -/
theorem R_outcome {s' : State} {k c : Bytes} {ttl now : Int} {r : FRes}
    (h : R s sp) (hi : Inv s) (o : Outcome4 s k c ttl now s' r) :
    R s' (if r = .send then Spec.Cache.sent sp (k, c) (pack (unixMilli (now + ttl))) else sp) := by
  by_cases hr : r = .send
  · rw [if_pos hr]
    cases hc : s.closed
    · rw [sent_open (h.closed.trans hc)]
      have hm := (o.of_send hi.nodup hc hr).1
      refine R_override h (k, c) (fun _ _ => rfl) (fun x hx => if_neg hx) (h.closed.trans (hc.trans (o.frame.1.trans hc).symm)) ?_
      intro x hx
      rcases (hm x).1 hx with rfl | ⟨hxl, hne⟩
      · exact Or.inr ⟨rfl, fun hp => Bool.noConfusion hp, fun _ => if_pos rfl⟩
      · exact Or.inl ⟨hxl, ne_of_not_kc hne⟩
    · cases o with
      | closed _ hs _ => rw [hs, sent_closed (h.closed.trans hc)]; exact h
      | found e hc' => rw [hc] at hc'; cases hc'
      | expired e hc' => rw [hc] at hc'; cases hc'
      | absent hc' => rw [hc] at hc'; cases hc'
  · rw [if_neg hr]
    exact R_sub h (fun x hx => ((o.of_ne_send hr).1 x).1 hx) o.frame.1

theorem hit_of_found (h : R s sp) {k c : Bytes} {e : Entry} {nowMs : Int}
    (hf : find? s.list k c = some e) (hp : e.pend = false) (hv : nowMs < e.exp) :
    Spec.Cache.lookup sp (k, c) nowMs = some (e.val, e.exp) := by
  have hf' := find?_some hf
  have := h.vals e hf'.1 hp
  rw [hf'.2.1, hf'.2.2] at this
  rw [Spec.Cache.lookup, this]; exact if_pos hv

/-- a hit is the specification's current value -/
theorem hit_of_outcome {s' : State} {k c : Bytes} {ttl now : Int} {r : FRes}
    (h : R s sp) (o : Outcome4 s k c ttl now s' r) {v : Nat} {exp : Int} (hr : r = .hit v exp) :
    Spec.Cache.lookup sp (k, c) (unixMilli now) = some (v, exp) := by
  obtain ⟨e, hf, hp, rfl, rfl, hlt⟩ := o.of_hit hr
  exact hit_of_found h hf hp hlt

theorem R_update (h : R s sp) (hi : Inv s) (k c : Bytes) (v : Nat) (vsz raw : Int) :
    R (update s k c v vsz raw).1 (Spec.Cache.update sp (k, c) v (pack raw)) := by
  have o := update_cases s k c v vsz raw
  generalize (update s k c v vsz raw).1 = s' at o
  generalize (update s k c v vsz raw).2 = p at o
  cases o with
  | closed hc hs hp => rw [hs, update_noop (Or.inl (h.closed.trans hc))]; exact h
  | absent hc hf hs hp =>
    rw [hs]
    cases ho : sp.out (k, c) with
    | none => rw [update_noop (Or.inr ho)]; exact h
    | some cexp =>
      rw [update_open (h.closed.trans hc) ho]
      exact R_override h (k, c) (fun x hx => if_neg hx) (fun x hx => if_neg hx) h.closed
        fun x hx => Or.inl ⟨hx, ne_of_not_kc (find?_none hf x hx)⟩
  | fill e hc hf hpend hp hl hsz hd hcl hmx hn =>
    have hf' := find?_some hf
    have hout := h.out e hf'.1 hpend
    rw [hf'.2.1, hf'.2.2] at hout
    rw [update_open (h.closed.trans hc) hout]
    refine R_override h (k, c) (fun x hx => if_neg hx) (fun x hx => if_neg hx) ((h.closed.trans hc).trans hcl.symm) ?_
    intro x hx
    rcases mem_of_fill hi.nodup hf (hl ▸ hx) with rfl | ⟨hxl, hne⟩
    · refine Or.inr ⟨by rw [updEntry, hf'.2.1, hf'.2.2], fun _ => ⟨?_, if_pos rfl⟩, fun hp => Bool.noConfusion hp⟩
      rw [updEntry, chooseExp_eq]; exact if_pos rfl
    · exact Or.inl ⟨hxl, ne_of_not_kc hne⟩
  | stale e hc hf hpend hp hl hsz hd hcl hmx hn =>
    have hf' := find?_some hf
    have hno := h.noout e hf'.1 hpend
    rw [hf'.2.1, hf'.2.2] at hno
    rw [update_noop (Or.inr hno)]
    exact R_sub h (fun x hx => (evict_sublist _ _ _).subset (hl ▸ hx)) (hcl.trans hc.symm)

theorem R_cancel (h : R s sp) (hi : Inv s) (k c : Bytes) (err : Nat) :
    R (cancel s k c err) (Spec.Cache.cancel sp (k, c)) := by
  unfold Spec.Cache.cancel
  cases hc : s.closed
  · rw [if_neg (by rw [h.closed, hc]; exact Bool.false_ne_true)]
    refine R_override h (k, c) (fun _ _ => rfl) (fun x hx => if_neg hx) (h.closed.trans ((cancel_conf s k c err).2.2).symm) ?_
    intro x hx
    by_cases hkc : x.key = k ∧ x.cmd = c
    · right
      refine ⟨by rw [hkc.1, hkc.2], ?_⟩
      rcases cancel_cases s k c err with ⟨hs, hnp⟩ | ⟨e, -, hf, -, hs⟩
      · rw [hs] at hx
        have hf := find?_of_mem hi.nodup hx
        rw [hkc.1, hkc.2] at hf
        have hp := hnp.resolve_left (by rw [hc]; exact Bool.false_ne_true) x hf
        have := h.vals x hx hp
        rw [hkc.1, hkc.2] at this
        exact ⟨fun _ => ⟨this, if_pos rfl⟩, fun hp' => by rw [hp] at hp'; cases hp'⟩
      · rw [hs] at hx
        exact absurd hkc (hi.nodup.erase_find hf hx)
    · exact Or.inl ⟨cancel_sub s k c err x hx, ne_of_not_kc hkc⟩
  · rw [if_pos (h.closed.trans hc)]
    rcases cancel_cases s k c err with ⟨hs, -⟩ | ⟨e, hc', -⟩
    · rw [hs]; exact h
    · rw [hc] at hc'; cases hc'

theorem mem_purge {k : Bytes} {x : Entry} (hx : x ∈ (purge s k).list) :
    x ∈ s.list ∧ (x.pend = false → x.key ≠ k) := by
  have hx : x ∈ s.list.filter (fun e => !(e.key == k && !e.pend)) := hx
  rw [List.mem_filter] at hx
  refine ⟨hx.1, ?_⟩
  intro hp hk
  simp [hp, hk] at hx

theorem mem_foldl_purge (keys : List Bytes) {x : Entry} (hx : x ∈ (keys.foldl purge s).list) :
    x ∈ s.list ∧ (x.pend = false → x.key ∉ keys) := by
  induction keys generalizing s with
  | nil => exact ⟨hx, fun _ h => by cases h⟩
  | cons k rest ih =>
    have := ih hx
    have h1 := mem_purge this.1
    refine ⟨h1.1, ?_⟩
    intro hp hk
    rcases List.mem_cons.1 hk with h | h
    · exact h1.2 hp h
    · exact this.2 hp h

theorem mem_delete (keys : Option (List Bytes)) {x : Entry} (hx : x ∈ (delete s keys).list) :
    x ∈ s.list ∧ (x.pend = false → ∃ ks, keys = some ks ∧ x.key ∉ ks) := by
  cases keys with
  | some ks => exact ⟨(mem_foldl_purge ks hx).1, fun hp => ⟨ks, rfl, (mem_foldl_purge ks hx).2 hp⟩⟩
  | none =>
    have := mem_foldl_purge _ hx
    exact ⟨this.1, fun hp => absurd (List.mem_map.2 ⟨x, this.1, rfl⟩) (this.2 hp)⟩

theorem R_delete (h : R s sp) (keys : Option (List Bytes)) :
    R (delete s keys) (match keys with | some ks => Spec.Cache.delete sp ks | none => Spec.Cache.flush sp) := by
  refine ⟨fun x hx hp => ?_, fun x hx hp => ?_, fun x hx hp => ?_, ?_⟩
  · obtain ⟨ks, rfl, hk⟩ := (mem_delete keys hx).2 hp
    simp only [Spec.Cache.delete, hk, if_false]
    exact h.vals x (mem_delete _ hx).1 hp
  · cases keys <;> exact h.out x (mem_delete _ hx).1 hp
  · cases keys <;> exact h.noout x (mem_delete _ hx).1 hp
  · cases keys <;> exact h.closed.trans (delete_conf s _).2.2.symm

theorem R_close (s : State) (sp : Spec) (err : Nat) : R (close s err) (Spec.Cache.close sp) :=
  ⟨by simp [close], by simp [close], by simp [close], rfl⟩

theorem specSends_append (sp : Spec) (now : Int) (multi : List (Bytes × Bytes × Int)) (out : List Nat) (i : Nat) :
    specSends sp now multi (out ++ [i]) = sendStep now multi (specSends sp now multi out) i := by
  simp [specSends, List.foldl_append]

theorem specSends_closed (sp : Spec) (hc : sp.closed = true) (now : Int) (multi : List (Bytes × Bytes × Int))
    (out : List Nat) : specSends sp now multi out = sp := by
  induction out with
  | nil => rfl
  | cons i rest ih =>
    have : sendStep now multi sp i = sp := by
      unfold sendStep
      split
      · exact sent_closed hc _ _
      · rfl
    rw [specSends, List.foldl_cons, this]; exact ih

theorem R_flights2 (multi : List (Bytes × Bytes × Int)) (now : Int) (ms : List Nat) {sp0 : Spec}
    (res : List (Option FRes)) (out : List Nat) (hi : Inv s) (h : R s (specSends sp0 now multi out)) :
    R (flights2 multi now ms s res out).1 (specSends sp0 now multi (flights2 multi now ms s res out).2.2) := by
  induction ms generalizing s res out with
  | nil => exact h
  | cons i rest ih =>
    simp only [flights2]
    split
    · exact ih _ _ hi h
    · rename_i k c ttl hm
      have o := locked_cases s k c ttl now
      have h' := R_outcome h hi o
      have hi' := inv_locked hi k c ttl now
      by_cases hr : (locked s k c ttl now).2 = .send
      · simp only [hr, if_true] at h' ⊢
        refine ih _ _ hi' ?_
        rw [specSends_append, sendStep, hm]
        exact h'
      · simp only [hr, if_false] at h' ⊢
        exact ih _ _ hi' h'

theorem R_flights (h : R s sp) (hi : Inv s) (now : Int) (multi : List (Bytes × Bytes × Int)) :
    R (flights s now multi).1 (specSends sp now multi (flights s now multi).2.2) := by
  obtain ⟨hmem, -, -, hfr, hinv⟩ := flightsMid_spec s now multi
  have hR : R (flightsMid s now multi) sp := R_sub h (fun x hx => (hmem x).1 hx) hfr.1
  unfold flights
  simp only
  split
  · exact hR
  · split
    · rename_i hc
      rw [specSends_closed _ (h.closed.trans (hfr.1.symm.trans hc))]; exact hR
    · exact R_flights2 multi now _ _ [] (hinv hi) hR

theorem R_step (h : R s sp) (hi : Inv s) (op : Op) :
    R (step s op).1 (specStep sp op (step s op).2) := by
  cases op with
  | flight k c ttl now =>
    have o := flight_cases s k c ttl now
    have := R_outcome h hi o
    simp only [step]
    generalize (flight s k c ttl now).2 = r at this
    cases r <;> simpa [specStep] using this
  | flights now multi => exact R_flights h hi now multi
  | update k c v vsz raw => exact R_update h hi k c v vsz raw
  | cancel k c err => exact R_cancel h hi k c err
  | delete keys =>
    have := R_delete h keys
    cases keys <;> exact this
  | close err => exact R_close s sp err
  | sethits k n => exact R_sub h (fun x hx => hx) rfl

theorem R_runBoth (h : R s sp) (hi : Inv s) (ops : List Op) :
    R (runBoth s sp ops).1 (runBoth s sp ops).2 ∧ Inv (runBoth s sp ops).1 := by
  induction ops generalizing s sp with
  | nil => exact ⟨h, hi⟩
  | cons op rest ih => exact ih (R_step h hi op) (inv_step hi op)

end

theorem runBoth_fst (s : State) (sp : Spec) (ops : List Op) : (runBoth s sp ops).1 = run s ops := by
  induction ops generalizing s sp with
  | nil => rfl
  | cons op rest ih => exact ih _ _

end Rv.Lru
