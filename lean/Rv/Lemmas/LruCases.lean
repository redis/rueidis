/-
Case analysis of the operations of the LRU model that look up one (key, cmd): the four outcomes of
`Flight` (and of one round of the second loop of `Flights`), of `Update`, and the two of `Cancel`.
-/
import Rv.Lemmas.LruList
namespace Rv.Lru

/-- the pending entry `Flight`/`Flights` push on a miss -/
def newEntry (s : State) (k c : Bytes) (ttl now : Int) : Entry :=
  { id := s.nextId, key := k, cmd := c, pend := true, val := 0, size := 0, exp := pack (unixMilli (now + ttl)) }

/-- everything but list/hits/size/nextId -/
def Frame (s s' : State) : Prop :=
  s'.closed = s.closed ∧ s'.done = s.done ∧ s'.max = s.max ∧ s'.base = s.base

/-- the four outcomes of a single-flight lookup (`Flight`, or one round of the second loop of `Flights`) -/
inductive Outcome4 (s : State) (k c : Bytes) (ttl now : Int) (s' : State) (r : FRes) : Prop
  | closed (hc : s.closed = true) (hs : s' = s) (hr : r = .send)
  | found (e : Entry) (hc : s.closed = false) (hf : find? s.list k c = some e) (hv : valid e (unixMilli now) = true)
      (hr : r = resOf e) (hl : s'.list = s.list ∨ s'.list = moveToBack s.list e)
      (hsz : s'.size = s.size) (hn : s'.nextId = s.nextId) (fr : Frame s s')
  | expired (e : Entry) (hc : s.closed = false) (hf : find? s.list k c = some e) (hv : valid e (unixMilli now) = false)
      (hr : r = .send) (hl : s'.list = s.list.erase e ++ [newEntry s k c ttl now])
      (hsz : s'.size = s.size - e.size) (hn : s'.nextId = s.nextId + 1) (fr : Frame s s')
  | absent (hc : s.closed = false) (hf : find? s.list k c = none)
      (hr : r = .send) (hl : s'.list = s.list ++ [newEntry s k c ttl now])
      (hsz : s'.size = s.size) (hn : s'.nextId = s.nextId + 1) (fr : Frame s s')

theorem ensureKc_spec (s : State) (k : Bytes) : (ensureKc s k).list = s.list ∧ (ensureKc s k).size = s.size ∧
    (ensureKc s k).nextId = s.nextId ∧ Frame s (ensureKc s k) := by
  unfold ensureKc Frame; split <;> exact ⟨rfl, rfl, rfl, rfl, rfl, rfl, rfl⟩

theorem locked_cases (s : State) (k c : Bytes) (ttl now : Int) :
    Outcome4 s k c ttl now (locked s k c ttl now).1 (locked s k c ttl now).2 := by
  unfold locked
  split
  · rename_i hc; exact .closed hc rfl rfl
  · rename_i hc
    have hc : s.closed = false := by simpa using hc
    obtain ⟨hl, hs, hn, hfr⟩ := ensureKc_spec s k
    generalize ensureKc s k = s1 at hl hs hn hfr
    simp only
    split
    · rename_i e hf
      rw [hl] at hf
      split
      · rename_i hv
        exact .found e hc hf hv rfl (Or.inr (by simp [bumpHits, setHits, hl])) hs hn hfr
      · rename_i hv
        have hv : valid e (unixMilli now) = false := by simpa using hv
        exact .expired e hc hf hv rfl (by simp [newEntry, hl, hn]) (by simp [hs]) (by simp [hn]) hfr
    · rename_i hf
      rw [hl] at hf
      exact .absent hc hf rfl (by simp [newEntry, hl, hn]) hs (by simp [hn]) hfr

theorem flight_cases (s : State) (k c : Bytes) (ttl now : Int) :
    Outcome4 s k c ttl now (flight s k c ttl now).1 (flight s k c ttl now).2 := by
  unfold flight
  split
  · rename_i e hf
    split
    · rename_i hv
      have hc : s.closed = false := by
        cases h : s.closed
        · rfl
        · simp [h] at hf
      have hf' : find? s.list k c = some e := by simpa [hc] using hf
      simp only
      split
      · exact .found e hc hf' hv rfl (Or.inr (by simp [bumpHits, setHits])) rfl rfl ⟨rfl, rfl, rfl, rfl⟩
      · exact .found e hc hf' hv rfl (Or.inl rfl) rfl rfl ⟨rfl, rfl, rfl, rfl⟩
    · exact locked_cases s k c ttl now
  · exact locked_cases s k c ttl now

theorem resOf_hit {e : Entry} {t : Int} {v : Nat} {exp : Int} (hr : resOf e = .hit v exp) (hv : valid e t = true) :
    e.pend = false ∧ e.val = v ∧ e.exp = exp ∧ t < exp := by
  rw [resOf] at hr
  cases hp : e.pend
  · rw [hp, if_neg Bool.false_ne_true] at hr
    cases hr
    have hv : e.exp - t > 0 := by simpa [valid, hp, relativePTTL] using hv
    exact ⟨rfl, rfl, rfl, by omega⟩
  · rw [hp, if_pos rfl] at hr; cases hr

namespace Outcome4
variable {s s' : State} {k c : Bytes} {ttl now : Int} {r : FRes}

theorem frame (o : Outcome4 s k c ttl now s' r) : Frame s s' := by
  cases o with
  | closed hc hs hr => subst hs; exact ⟨rfl, rfl, rfl, rfl⟩
  | found e hc hf hv hr hl hsz hn fr => exact fr
  | expired e hc hf hv hr hl hsz hn fr => exact fr
  | absent hc hf hr hl hsz hn fr => exact fr

theorem mem_sub (o : Outcome4 s k c ttl now s' r) {x : Entry} (hx : x ∈ s'.list) :
    x ∈ s.list ∨ x = newEntry s k c ttl now := by
  cases o with
  | closed hc hs hr => exact Or.inl (hs ▸ hx)
  | found e hc hf hv hr hl hsz hn fr =>
    rcases hl with hl | hl <;> rw [hl] at hx
    · exact Or.inl hx
    · exact Or.inl ((mem_moveToBack (find?_some hf).1 x).1 hx)
  | expired e hc hf hv hr hl hsz hn fr =>
    rw [hl] at hx
    exact (List.mem_append.1 hx).imp List.mem_of_mem_erase List.mem_singleton.1
  | absent hc hf hr hl hsz hn fr =>
    rw [hl] at hx
    exact (List.mem_append.1 hx).imp_right List.mem_singleton.1

theorem of_ne_send (o : Outcome4 s k c ttl now s' r) (hr : r ≠ .send) :
    (∀ x, x ∈ s'.list ↔ x ∈ s.list) ∧ ∃ e, find? s.list k c = some e ∧ valid e (unixMilli now) = true ∧ r = resOf e := by
  cases o with
  | closed hc hs hr' => exact absurd hr' hr
  | expired e hc hf hv hr' hl hsz hn fr => exact absurd hr' hr
  | absent hc hf hr' hl hsz hn fr => exact absurd hr' hr
  | found e hc hf hv hr' hl hsz hn fr =>
    refine ⟨fun x => ?_, e, hf, hv, hr'⟩
    rcases hl with hl | hl
    · rw [hl]
    · rw [hl]; exact mem_moveToBack (List.mem_of_find?_eq_some hf) x

theorem of_hit (o : Outcome4 s k c ttl now s' r) {v : Nat} {exp : Int} (hr : r = .hit v exp) :
    ∃ e, find? s.list k c = some e ∧ e.pend = false ∧ e.val = v ∧ e.exp = exp ∧ unixMilli now < exp := by
  obtain ⟨-, e, hf, hv, hre⟩ := o.of_ne_send (by rw [hr]; exact FRes.noConfusion)
  exact ⟨e, hf, resOf_hit (hre.symm.trans hr) hv⟩

theorem of_wait (o : Outcome4 s k c ttl now s' r) {id : Nat} (hr : r = .wait id) :
    ∃ e, find? s.list k c = some e ∧ e.pend = true ∧ e.id = id := by
  obtain ⟨-, e, hf, -, hre⟩ := o.of_ne_send (by rw [hr]; exact FRes.noConfusion)
  rw [hr, resOf] at hre
  cases hp : e.pend
  · rw [hp, if_neg Bool.false_ne_true] at hre; cases hre
  · rw [hp, if_pos rfl] at hre; cases hre; exact ⟨e, hf, hp, rfl⟩

theorem of_send (o : Outcome4 s k c ttl now s' r) (hn : KeysNodup s.list) (hopen : s.closed = false) (hr : r = .send) :
    (∀ x, x ∈ s'.list ↔ x = newEntry s k c ttl now ∨ (x ∈ s.list ∧ ¬ (x.key = k ∧ x.cmd = c))) ∧
    ∀ x ∈ s.list, x.key = k ∧ x.cmd = c → valid x (unixMilli now) = false := by
  cases o with
  | closed hc hs hr' => rw [hc] at hopen; cases hopen
  | found e hc hf hv hr' hl hsz hn fr => rw [hr, resOf] at hr'; split at hr' <;> cases hr'
  | expired e hc hf hv hr' hl hsz hn' fr =>
    have hf' := find?_some hf
    refine ⟨fun x => ?_, fun x hx hkc => ?_⟩
    · rw [hl, List.mem_append, List.mem_singleton, Or.comm, hn.nodup.mem_erase_iff]
      refine or_congr_right ⟨fun h => ⟨h.2, fun hkc => h.1 ?_⟩, fun h => ⟨fun hxe => h.2 (hxe ▸ hf'.2), h.1⟩⟩
      exact hn.eq_find hf h.2 hkc
    · rw [hn.eq_find hf hx hkc]; exact hv
  | absent hc hf hr' hl hsz hn' fr =>
    refine ⟨fun x => ?_, fun x hx hkc => absurd hkc (find?_none hf x hx)⟩
    rw [hl, List.mem_append, List.mem_singleton, Or.comm]
    exact or_congr_right ⟨fun h => ⟨h, find?_none hf x h⟩, fun h => h.1⟩

theorem new_mem (o : Outcome4 s k c ttl now s' r) (hopen : s.closed = false) (hr : r = .send) :
    newEntry s k c ttl now ∈ s'.list := by
  cases o with
  | closed hc hs hr' => rw [hc] at hopen; cases hopen
  | found e hc hf hv hr' hl hsz hn fr => rw [hr, resOf] at hr'; split at hr' <;> cases hr'
  | expired e hc hf hv hr' hl hsz hn fr => rw [hl]; exact List.mem_append_right _ (List.mem_singleton.2 rfl)
  | absent hc hf hr' hl hsz hn fr => rw [hl]; exact List.mem_append_right _ (List.mem_singleton.2 rfl)

theorem keeps_valid (o : Outcome4 s k c ttl now s' r) {x : Entry} (hx : x ∈ s.list)
    (hv : valid x (unixMilli now) = true) : x ∈ s'.list := by
  cases o with
  | closed hc hs hr => exact hs ▸ hx
  | found e hc hf hv' hr hl hsz hn fr =>
    rcases hl with hl | hl <;> rw [hl]
    · exact hx
    · exact (mem_moveToBack (find?_some hf).1 x).2 hx
  | expired e hc hf hv' hr hl hsz hn fr =>
    have hxe : x ≠ e := fun h => by rw [h, hv'] at hv; cases hv
    rw [hl]; exact List.mem_append_left _ ((List.mem_erase_of_ne hxe).2 hx)
  | absent hc hf hr hl hsz hn fr => rw [hl]; exact List.mem_append_left _ hx

end Outcome4

/-- the completed entry `Update` writes over a pending one -/
def updEntry (s : State) (e : Entry) (k c : Bytes) (v : Nat) (vsz raw : Int) : Entry :=
  { e with pend := false, val := v, exp := chooseExp e.exp (pack raw),
           size := s.base + 2 * ((k.length : Int) + (c.length : Int)) + vsz }

inductive UpdOutcome (s : State) (k c : Bytes) (v : Nat) (vsz raw : Int) (s' : State) (p : Int) : Prop
  | closed (hc : s.closed = true) (hs : s' = s) (hp : p = 0)
  | absent (hc : s.closed = false) (hf : find? s.list k c = none) (hs : s' = s) (hp : p = 0)
  | fill (e : Entry) (hc : s.closed = false) (hf : find? s.list k c = some e) (hpend : e.pend = true)
      (hp : p = chooseExp e.exp (pack raw))
      (hl : s'.list = (evictLoop s.max (s.size + (updEntry s e k c v vsz raw).size)
                        (s.list.replace e (updEntry s e k c v vsz raw))).2.1)
      (hsz : s'.size = (evictLoop s.max (s.size + (updEntry s e k c v vsz raw).size)
                        (s.list.replace e (updEntry s e k c v vsz raw))).1)
      (hd : s'.done = s.done ++ [(e.id, .val v p)])
      (hcl : s'.closed = false) (hmx : s'.max = s.max) (hn : s'.nextId = s.nextId)
  | stale (e : Entry) (hc : s.closed = false) (hf : find? s.list k c = some e) (hpend : e.pend = false)
      (hp : p = 0)
      (hl : s'.list = (evictLoop s.max s.size s.list).2.1)
      (hsz : s'.size = (evictLoop s.max s.size s.list).1)
      (hd : s'.done = s.done)
      (hcl : s'.closed = false) (hmx : s'.max = s.max) (hn : s'.nextId = s.nextId)

theorem update_cases (s : State) (k c : Bytes) (v : Nat) (vsz raw : Int) :
    UpdOutcome s k c v vsz raw (update s k c v vsz raw).1 (update s k c v vsz raw).2 := by
  unfold update
  split
  · rename_i hc; exact .closed hc rfl rfl
  · rename_i hc
    have hc : s.closed = false := by simpa using hc
    split
    · rename_i hf; exact .absent hc hf rfl rfl
    · rename_i e hf
      by_cases hp : e.pend = true
      · simp only [hp, if_true]
        exact .fill e hc hf hp rfl rfl rfl rfl hc rfl rfl
      · have hp' : e.pend = false := by simpa using hp
        simp only [hp', Bool.false_eq_true, if_false]
        exact .stale e hc hf hp' rfl rfl rfl rfl hc rfl rfl

theorem update_of_pending {s : State} {k c : Bytes} {e : Entry} (hopen : s.closed = false)
    (hf : find? s.list k c = some e) (hp : e.pend = true) (v : Nat) (vsz raw : Int) :
    (update s k c v vsz raw).2 = chooseExp e.exp (pack raw) ∧
    (update s k c v vsz raw).1.done = s.done ++ [(e.id, .val v (chooseExp e.exp (pack raw)))] := by
  cases update_cases s k c v vsz raw with
  | closed hc => rw [hc] at hopen; cases hopen
  | absent _ hf' => rw [hf'] at hf; cases hf
  | fill e' _ hf' _ hp' _ _ hd => rw [hf'] at hf; cases hf; exact ⟨hp', hp' ▸ hd⟩
  | stale e' _ hf' hpend => rw [hf'] at hf; cases hf; rw [hp] at hpend; cases hpend

theorem mem_of_fill {l : List Entry} (hn : KeysNodup l) {k c : Bytes} {e e' x : Entry} (hf : find? l k c = some e)
    {mx sz : Int} (hx : x ∈ (evictLoop mx sz (l.replace e e')).2.1) :
    x = e' ∨ (x ∈ l ∧ ¬ (x.key = k ∧ x.cmd = c)) := by
  have hf' := find?_some hf
  refine ((mem_replace_iff hn.nodup hf'.1).1 ((evict_sublist _ _ _).subset hx)).imp_right fun h => ⟨h.1, fun hkc => h.2 ?_⟩
  exact hn.eq_find hf h.1 hkc

theorem cancel_cases (s : State) (k c : Bytes) (err : Nat) :
    (cancel s k c err = s ∧ (s.closed = true ∨ ∀ e, find? s.list k c = some e → e.pend = false)) ∨
    ∃ e, s.closed = false ∧ find? s.list k c = some e ∧ e.pend = true ∧
      cancel s k c err = gcHits { s with list := s.list.erase e, done := s.done ++ [(e.id, .err err)] } := by
  unfold cancel
  split
  · rename_i hc; exact Or.inl ⟨rfl, Or.inl hc⟩
  · rename_i hc
    split
    · rename_i hf; exact Or.inl ⟨rfl, Or.inr fun e he => by rw [hf] at he; cases he⟩
    · rename_i e hf
      split
      · rename_i hp; exact Or.inr ⟨e, by simpa using hc, hf, hp, rfl⟩
      · rename_i hp
        exact Or.inl ⟨rfl, Or.inr fun e' he => by rw [hf] at he; cases he; simpa using hp⟩

theorem cancel_of_pending {s : State} {k c : Bytes} {e : Entry} (hopen : s.closed = false)
    (hf : find? s.list k c = some e) (hp : e.pend = true) (err : Nat) :
    (cancel s k c err).list = s.list.erase e ∧ (cancel s k c err).done = s.done ++ [(e.id, .err err)] := by
  simp [cancel, hopen, hf, hp, gcHits]

theorem cancel_sub (s : State) (k c : Bytes) (err : Nat) : ∀ x ∈ (cancel s k c err).list, x ∈ s.list := by
  intro x hx
  rcases cancel_cases s k c err with ⟨hs, -⟩ | ⟨e, -, -, -, hs⟩ <;> rw [hs] at hx
  · exact hx
  · exact List.mem_of_mem_erase hx

end Rv.Lru
