/-
Pipe life model: no deadlock. Once the connection is dead or Close has been called and the
`_background` goroutine exists, some internal step (one that needs neither the server nor a new
caller nor the environment) is enabled as long as a call has not been resolved.
-/
import Rv.Lemmas.PipeLifeMeasure
import Rv.Lemmas.PipeLifeSafe
namespace Rv.PipeLife

/-- the connection is dead or Close has been called -/
def triggered (s : St) : Prop := s.connUp = false ∨ s.close ≠ .idle

/-- some internal step is enabled -/
def canMove (fix : Bool) (s : St) : Prop := ∃ l s', l.internal = true ∧ step fix s l = some s'

theorem canMove_of {fix : Bool} {s : St} (l : Label) (hi : l.internal = true)
    (h : (step fix s l).isSome = true) : canMove fix s := by
  cases hs : step fix s l with
  | none => simp [hs] at h
  | some s' => exact ⟨l, s', hi, hs⟩

theorem drainTake_head_taken (q : List Entry) (e : Entry) (es : List Entry) (h : drainTake q = e :: es) :
    e.taken = true := by
  cases q with
  | nil => simp [drainTake, takeFirst] at h
  | cons a as =>
    unfold drainTake takeFirst at h
    by_cases ha : a.taken = true
    · simp only [ha, if_true] at h
      cases htf : takeFirst as <;> simp only [htf] at h <;> injection h with h1 _ <;> rw [← h1] <;> exact ha
    · simp only [ha] at h
      injection h with h1 _; rw [← h1]

/-- Close always has a next statement until it is done -/
theorem close_moves (fix : Bool) (s : St) (h : s.close ≠ .idle) (hd : s.close ≠ .done) : canMove fix s := by
  cases hc : s.close with
  | idle => exact absurd hc h
  | done => exact absurd hc hd
  | entered w => exact canMove_of .closeCas rfl (by simp [step, closeCas, hc])
  | casDone b => exact canMove_of .closePing rfl (by simp only [step, closePing, hc]; split <;> rfl)
  | pingWait => exact canMove_of .closeGrace rfl (by simp [step, closeGrace, hc])
  | tail => exact canMove_of .closeTail rfl (by simp [step, closeTail, hc])

theorem close_moves_if_up {fix : Bool} {s : St} (ha : InvA (scal s)) (ht : triggered s) (hup : s.connUp = true) :
    canMove fix s := by
  rcases ht with h | h
  · rw [hup] at h; cases h
  · refine close_moves fix s h ?_
    intro hd
    have := ha.a5 hd
    simp only [scal] at this
    rw [hup] at this; cases this

theorem isSome_ite {α : Type} {c : Prop} [Decidable c] {a b : Option α} (ha : a.isSome = true) (hb : b.isSome = true) :
    (if c then a else b).isSome = true := by split <;> assumption

/-- a call that is past `incrWaits` and not parked on its channel can always make its next statement,
    except a sync read on a live connection -/
theorem own_step_enabled {fix : Bool} {s : St} {i : Nat} {cs : CS} (hst : stOf s i = some cs) (hw : cs.weight = 1)
    (hnw : cs ≠ .waiting) (hna : cs ≠ .aborted) (hsync : cs = .syncing → s.connUp = false) : canMove fix s := by
  cases cs with
  | idle => simp [CS.weight] at hw
  | done => simp [CS.weight] at hw
  | counted w =>
    refine canMove_of (.decide i) rfl ?_
    simp only [step, decide, hst]
    exact isSome_ite rfl (isSome_ite (isSome_ite rfl (isSome_ite rfl rfl)) rfl)
  | toQueue => exact canMove_of (.put i) rfl (by simp [step, put, hst])
  | got r sb => exact canMove_of (.leave i) rfl (by simp [step, leave, hst])
  | syncing => exact canMove_of (.syncErr i) rfl (by simp [step, syncErr, hst, hsync rfl])
  | waiting => exact absurd rfl hnw
  | aborted => exact absurd rfl hna

/-- the head of the drain's queue is still untaken: the drain has not seen `p.close` closed, so the writer is
    alive and takes it -/
theorem writer_takes {fix : Bool} {s : St} (ha : InvA (scal s)) (hbg : s.td ≠ .off) {c : Bool} {e : Entry}
    {es : List Entry} (hq1 : drainQueue (seenClosed c s) s.queue = e :: es) (het : ¬ e.taken = true) :
    canMove fix s := by
  have hsc : seenClosed c s = false := by
    cases hx : seenClosed c s with
    | false => rfl
    | true =>
      rw [hx] at hq1
      have := drainTake_head_taken s.queue e es (by simpa [drainQueue] using hq1)
      exact absurd this het
  have hq : s.queue = e :: es := by rw [hsc] at hq1; simpa [drainQueue] using hq1
  have hwr : ∃ d, s.writer = .run d := by
    cases hx : s.writer with
    | off => have := ha.a3.mpr (by simp [scal, hx]); simp [scal] at this; exact absurd this hbg
    | run d => exact ⟨d, rfl⟩
    | exited => simp [seenClosed, hx, isExited] at hsc
  obtain ⟨d, hwr⟩ := hwr
  exact canMove_of .wTake rfl (by simp [step, wTake, hwr, hq, takeFirst, het])

theorem no_deadlock {fix : Bool} {s : St} (hr : Reachable fix s) (ht : triggered s) (hbg : s.td ≠ .off)
    {i : Nat} {cs : CS} (hst : stOf s i = some cs) (hw : cs.weight = 1) : canMove fix s := by
  have ha := hr.invA
  have hc := hr.invC
  cases hup : s.connUp with
  | true => exact close_moves_if_up ha ht hup
  | false =>
    by_cases hq : cs = .waiting ∨ cs = .aborted
    · -- the call owns a slot: whoever is next on the exit path moves
      have hslot : slotW (stOf s i) = 1 := by rw [hst]; rcases hq with h | h <;> rw [h] <;> rfl
      cases htd : s.td with
      | off => exact absurd htd hbg
      | reading => exact canMove_of .rErr rfl (by simp [step, rErr, htd, hup])
      | exited =>
        exact canMove_of .tdSpawn rfl (by simp only [step, tdSpawn, htd]; split <;> rfl)
      | loopDone | finished =>
        have hS := hr.invP (by rw [htd]; rfl)
        have := hS.p1 i cs hst
        cases cs <;> simp_all [slotW, CS.owed]
      | draining c =>
        have hwpos : 1 ≤ s.waits := hc.waits_pos hst hw
        have hin : s.inflight = none := hc.inflight_none (by rw [htd]; nofun)
        have hmem : Owner.call i ∈ s.queue.map (·.owner) := by
          have hcnt : 0 < (slots s).count (.call i) := by rw [hc.sl, own, hslot]; exact Nat.one_pos
          have := List.count_pos_iff.mp hcnt
          simpa [slots, hin] using this
        have hown := drainQueue_owners (seenClosed c s) s.queue
        cases hq1 : drainQueue (seenClosed c s) s.queue with
        | nil => rw [hq1] at hown; simp at hown; rw [hown] at hmem; simp at hmem
        | cons e es =>
          by_cases het : e.taken = true
          · have hw0 : ¬ s.waits = 0 := by omega
            exact canMove_of .tdIter rfl (by simp [step, tdIter, htd, hw0, hq1, het])
          · exact writer_takes ha hbg hq1 het
    · exact own_step_enabled hst hw (fun h => hq (Or.inl h)) (fun h => hq (Or.inr h)) (fun _ => hup)

/-- what a stuck state looks like: if a call is unresolved after the trigger and no internal step is
    enabled, then `_background` was never started, Close is not in progress, and every unresolved call
    sits in the queue (it waits on its channel or its abort goroutine does) -/
theorem stuck_shape {fix : Bool} {s : St} (hr : Reachable fix s) (ht : triggered s) (hstuck : ¬ canMove fix s)
    {i : Nat} {cs : CS} (hst : stOf s i = some cs) (hw : cs.weight = 1) :
    s.td = .off ∧ (s.close = .done ∨ s.close = .idle) ∧
      ∀ j cj, stOf s j = some cj → cj.weight = 1 → cj = .waiting ∨ cj = .aborted := by
  have ha := hr.invA
  have htd : s.td = .off := by
    cases h : s.td with
    | off => rfl
    | _ => exact absurd (no_deadlock hr ht (by rw [h]; simp) hst hw) hstuck
  have hcl : s.close = .done ∨ s.close = .idle := by
    cases h : s.close with
    | done => exact Or.inl rfl
    | idle => exact Or.inr rfl
    | _ => exact absurd (close_moves fix s (by rw [h]; simp) (by rw [h]; simp)) hstuck
  have hdown : s.connUp = false := by
    rcases ht with h | h
    · exact h
    · rcases hcl with h1 | h1
      · have := ha.a5 h1; simpa [scal] using this
      · exact absurd h1 h
  refine ⟨htd, hcl, ?_⟩
  intro j cj hj hwj
  by_cases h1 : cj = .waiting
  · exact Or.inl h1
  · by_cases h2 : cj = .aborted
    · exact Or.inr h2
    · exact absurd (own_step_enabled hj hwj h1 h2 (fun _ => hdown)) hstuck

end Rv.PipeLife
