/-
Lemmas about the routing model (`Rv.Model.ClusterRoute`): the slot table built by `_refresh`,
`redirectOrNew`, and the invariant that every connection is filed under its own address.
The redirect loop of `do`/`doCache` and the single-flight automaton are treated in `Props/C19`.
-/
import Rv.Model.ClusterRoute
import Rv.Lemmas.ClusterParse
namespace Rv.ClusterRouteL
open Rv Rv.Topology Rv.ClusterRoute Rv.ClusterParse

def covers (g : Group) (s : Nat) : Bool := g.slots.any fun r => visits r.1 r.2 s

def headConn (m : List (Bytes × Conn × Bool)) (g : Group) : Option Conn := (g.nodes.head?).bind (connOf m)

/-- "the last group (in visiting order) that lists the slot wins" -/
def tableSpec (m : List (Bytes × Conn × Bool)) (gs : List Group) (acc : Option Conn) (s : Nat) : Option Conn :=
  gs.foldl (fun acc g => if covers g s then headConn m g else acc) acc

theorem foldl_setRange (c : Option Conn) : ∀ (rs : List (Int × Int)) (w : Nat → Option Conn) (s : Nat),
    (rs.foldl (fun w r => setRange r.1 r.2 (fun _ => c) w) w) s
      = if rs.any (fun r => visits r.1 r.2 s) then c else w s := by
  intro rs
  induction rs with
  | nil => intro w s; rfl
  | cons r rest ih =>
    intro w s
    rw [List.foldl_cons, ih]
    simp only [List.any_cons, setRange]
    by_cases h1 : rest.any (fun r => visits r.1 r.2 s) = true
    · simp [h1]
    · by_cases h2 : visits r.1 r.2 s = true <;> simp [h1, h2]

theorem applyGroup_plain (o : Opt) (hm : o.mode = .plain) (m : List (Bytes × Conn × Bool)) (ro : Nat → Nat → Nat)
    (t : (Nat → Option Conn) × Option (Nat → List Conn)) (g : Group) (hne : g.nodes ≠ []) :
    ∃ w, applyGroup o m ro t g = .ok (w, t.2) ∧ ∀ s, w s = if covers g s then headConn m g else t.1 s := by
  unfold applyGroup
  match hg : g.nodes with
  | [] => exact absurd hg hne
  | n0 :: reps =>
    simp only [hm]
    refine ⟨_, rfl, ?_⟩
    intro s
    rw [foldl_setRange]
    simp only [covers, headConn, hg, List.head?_cons, Option.bind_some]

theorem buildTables_plain_gen (o : Opt) (hm : o.mode = .plain) (m : List (Bytes × Conn × Bool)) (ro : Nat → Nat → Nat) :
    ∀ (gs : List Group) (t : (Nat → Option Conn) × Option (Nat → List Conn)), (∀ g ∈ gs, g.nodes ≠ []) →
    ∃ w, foldRes (applyGroup o m ro) t gs = .ok (w, t.2) ∧ ∀ s, w s = tableSpec m gs (t.1 s) s := by
  intro gs
  induction gs with
  | nil => intro t _; exact ⟨t.1, rfl, fun _ => rfl⟩
  | cons g rest ih =>
    intro t hne
    obtain ⟨w1, h1, hw1⟩ := applyGroup_plain o hm m ro t g (hne g (List.mem_cons_self ..))
    obtain ⟨w2, h2, hw2⟩ := ih (w1, t.2) (fun g' hg' => hne g' (List.mem_cons_of_mem _ hg'))
    refine ⟨w2, ?_, ?_⟩
    · unfold foldRes; rw [h1]; exact h2
    · intro s
      rw [hw2 s]
      simp only [tableSpec, List.foldl_cons, hw1 s]

theorem tableSpec_none_cover (m : List (Bytes × Conn × Bool)) (s : Nat) : ∀ (gs : List Group) (acc : Option Conn),
    (∀ g ∈ gs, covers g s = false) → tableSpec m gs acc s = acc := by
  intro gs
  induction gs with
  | nil => intro acc _; rfl
  | cons g rest ih =>
    intro acc h
    simp only [tableSpec, List.foldl_cons, h g (List.mem_cons_self ..)]
    exact ih _ (fun g' hg' => h g' (List.mem_cons_of_mem _ hg'))

/-- if all groups listing the slot agree on the connection, that connection is in the table -/
theorem tableSpec_agree (m : List (Bytes × Conn × Bool)) (s : Nat) (x : Option Conn) : ∀ (gs : List Group) (acc : Option Conn),
    (∀ g ∈ gs, covers g s = true → headConn m g = x) → (∃ g ∈ gs, covers g s = true) →
    tableSpec m gs acc s = x := by
  intro gs
  induction gs with
  | nil => intro acc _ h; obtain ⟨g, hg, _⟩ := h; cases hg
  | cons g rest ih =>
    intro acc hall hex
    by_cases hr : ∃ g' ∈ rest, covers g' s = true
    · simp only [tableSpec, List.foldl_cons]
      exact ih _ (fun g' hg' => hall g' (List.mem_cons_of_mem _ hg')) hr
    · have hnone : ∀ g' ∈ rest, covers g' s = false :=
        fun g' hg' => Bool.eq_false_iff.mpr fun hc => hr ⟨g', hg', hc⟩
      obtain ⟨g0, hg0, hc0⟩ := hex
      have hg : covers g s = true := by
        rcases List.mem_cons.mp hg0 with h | h
        · exact h ▸ hc0
        · rw [hnone g0 h] at hc0; cases hc0
      simp only [tableSpec, List.foldl_cons, hg, if_true]
      exact (tableSpec_none_cover m s rest (headConn m g) hnone).trans (hall g (List.mem_cons_self ..) hg)

/-- every connection is filed under its own address -/
def ConnsOK (c : Client) : Prop := ∀ a cc h, cget a c.conns = some (cc, h) → cc.addr = a

theorem redirectOrNew_addr (c : Client) (addr : Bytes) (prev : Conn) (slot : Nat) (mv : Bool) (h : ConnsOK c) :
    (redirectOrNew c addr prev slot mv).1.addr = addr := by
  unfold redirectOrNew
  simp only
  cases hg : cget addr c.conns with
  | none => rfl
  | some p =>
    obtain ⟨cc, hid⟩ := p
    simp only
    split
    · exact h addr cc hid hg
    · rfl

theorem redirectOrNew_wslots (c : Client) (addr : Bytes) (prev : Conn) (slot : Nat) (mv : Bool)
    (h : ¬ (mv = true ∧ slot ≠ initSlot)) : (redirectOrNew c addr prev slot mv).2.wslots = c.wslots := by
  unfold redirectOrNew
  simp only [if_neg h]
  split
  · split <;> rfl
  · rfl

/-- membership form of `ConnsOK` (implies it) -/
def ConnsOK' (m : List (Bytes × Conn × Bool)) : Prop := ∀ e ∈ m, e.2.1.addr = e.1

theorem connsOK_of' (c : Client) (h : ConnsOK' c.conns) : ConnsOK c := by
  intro a cc hid hg
  unfold cget at hg
  cases hf : c.conns.find? (fun e => decide (e.1 = a)) with
  | none => rw [hf] at hg; cases hg
  | some e =>
    rw [hf] at hg
    simp only [Option.map_some, Option.some.injEq] at hg
    have hmem := List.mem_of_find?_eq_some hf
    have hkey : e.1 = a := by simpa using List.find?_some hf
    have := h e hmem
    rw [← hkey, ← this, hg]

theorem connsOK'_snoc {m : List (Bytes × Conn × Bool)} {v : Bytes × Conn × Bool} (h : ConnsOK' m)
    (hv : v.2.1.addr = v.1) : ConnsOK' (m ++ [v]) :=
  fun e he => (List.mem_append.mp he).elim (h e) fun h1 => List.mem_singleton.mp h1 ▸ hv

theorem cset_ok' (a : Bytes) (v : Conn × Bool) (m : List (Bytes × Conn × Bool)) (h : ConnsOK' m) (hv : v.1.addr = a) :
    ConnsOK' (cset a v m) := by
  intro e he
  unfold cset at he
  split at he
  · obtain ⟨x, hx, hf⟩ := List.mem_map.mp he
    by_cases hc : x.1 = a
    · rw [if_pos hc] at hf; rw [← hf]; exact hv
    · rw [if_neg hc] at hf; rw [← hf]; exact h x hx
  · exact connsOK'_snoc h hv e he

/-- `redirectOrNew` keeps every connection filed under its own address -/
theorem redirectOrNew_ok' (c : Client) (addr : Bytes) (prev : Conn) (slot : Nat) (mv : Bool) (h : ConnsOK' c.conns) :
    ConnsOK' (redirectOrNew c addr prev slot mv).2.conns := by
  unfold redirectOrNew
  simp only
  split
  · split
    · exact h
    · exact cset_ok' addr _ c.conns h rfl
  · exact cset_ok' addr _ c.conns h rfl

/-- the connection map built by `_refresh` files every connection under its own address -/
theorem refreshConns_ok' (o : Opt) (c : Client) (gs : Groups) (h : ConnsOK' c.conns) :
    ConnsOK' (refreshConns o c gs).1 := by
  unfold refreshConns
  simp only
  have hstep : ∀ (acc : List (Bytes × Conn × Bool) × Nat) (a : Bytes) (hidden : Bool), ConnsOK' acc.1 →
      ConnsOK' (if acc.1.any (fun e => decide (e.1 = a)) = true then acc
        else match cget a c.conns with
          | some (cc, _) => (acc.1 ++ [(a, cc, hidden)], acc.2)
          | none => (acc.1 ++ [(a, ({ addr := a, serial := acc.2 } : Conn), hidden)], acc.2 + 1)).1 := by
    intro acc a hidden hacc
    split
    · exact hacc
    · cases hg : cget a c.conns with
      | none => exact connsOK'_snoc hacc rfl
      | some p => exact connsOK'_snoc hacc (connsOK_of' c h a p.1 p.2 hg)
  exact foldl_inv (fun acc => ConnsOK' acc.1) _ (fun acc a _ => hstep acc a true) _
    (foldl_inv (fun acc => ConnsOK' acc.1) _ (fun acc a _ => hstep acc a false) ([], c.next) fun _ he => nomatch he)

end Rv.ClusterRouteL
