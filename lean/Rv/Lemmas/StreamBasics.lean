/-
Helper lemmas for C29: one rewrite lemma per branch of the `streamTo` model
(blob copy, chunk loop, default branch through `decode`, skipped pushes).
-/
import Rv.Model.StreamTo
import Rv.Props.C12
namespace Rv.StreamL
open Rv Rv.Resp Rv.Spec Rv.RespL Rv.StreamTo

theorem copyN_all (wr : Wr) (hw : wr.budget = none) (s tl : List UInt8) (hs : 0 < s.length) :
    copyN wr (s.length : Int) (s ++ tl) = ⟨s.length, false, { wr with out := wr.out ++ s }, tl, 0⟩ := by
  unfold copyN
  have h1 : ¬ ((s.length : Int) ≤ 0) := by omega
  have h2 : min (s.length : Int).toNat (s ++ tl).length = s.length := by simp
  simp only [h1, if_false, hw, h2, List.take_left', List.drop_left', Int.sub_self]

theorem finishBlob_two (n : Nat) (failed : Bool) (w : Wr) (rest : List UInt8) (l : Int) :
    finishBlob 2 ⟨n, failed, w, 13 :: 10 :: rest, l⟩ = ⟨n, if failed then .writer else .none, true, rest, w⟩ := by
  unfold finishBlob
  simp

theorem fullAfter_zero (n : Nat) (failed : Bool) (w : Wr) (r : List UInt8) : fullAfter ⟨n, failed, w, r, 0⟩ = 2 := by
  show wrap64 (0 + 2) = 2
  unfold wrap64; omega

theorem chunks_cons (c : List UInt8) (cs : List (List UInt8)) (tl : List UInt8) :
    ((c :: cs).map chunkBytes).flatten ++ tl =
      59 :: (digits c.length ++ crlf ++ (c ++ crlf ++ ((cs.map chunkBytes).flatten ++ tl))) := by
  rw [List.map_cons, List.flatten_cons, List.append_assoc, chunkBytes_append]

def hd : Wire → UInt8
  | .blob t _ | .chunked t _ | .nullBlob t | .line t _ | .arr t _ | .map t _ | .stream t _ | .nullArr t => t
  | .int _ => 58
  | .null => 95
  | .bool _ => 35
  | .attr a _ => hd a

theorem bytes_hd : ∀ w : Wire, ∃ tl, bytes w = hd w :: tl
  | .attr a w => by
    obtain ⟨tl, h⟩ := bytes_hd a
    exact ⟨tl ++ bytes w, by simp only [bytes, hd, h, List.cons_append]⟩
  | .blob .. | .chunked .. | .nullBlob _ | .line .. | .arr .. | .map .. | .stream .. | .nullArr _
  | .int _ | .null | .bool _ => ⟨_, by simp only [bytes, hd, List.cons_append]; rfl⟩

theorem hd_attr (a : Wire) (ha : attrOK a = true) : hd a = 124 := by
  cases a <;> simp_all [attrOK, hd]

theorem blobLike_excl {t : UInt8} (h : isBlobLike t = true) :
    isLineT t = false ∧ isArrT t = false ∧ (t == 37) = false ∧ (isBlobT t = true → t = 36 ∨ t = 61) := by
  have : t = 36 ∨ t = 61 ∨ t = 59 := by simpa [isBlobLike, or_assoc] using h
  rcases this with e | e | e <;> subst e <;> decide

theorem blobT_like {t : UInt8} (h : t = 36 ∨ t = 61) : isBlobLike t = true ∧ t ≠ 59 := by
  rcases h with rfl | rfl <;> exact ⟨rfl, by decide⟩

theorem hd_blobLike (w : Wire) (hwf : WF w = true) (h : isBlobLike (hd w) = true) :
    ∃ t, (t = 36 ∨ t = 61) ∧ ((∃ s, w = .blob t s) ∨ (∃ cs, w = .chunked t cs) ∨ w = .nullBlob t) := by
  cases w with
  | blob t s =>
    simp only [WF, Bool.and_eq_true] at hwf
    exact ⟨t, (blobLike_excl h).2.2.2 hwf.1, Or.inl ⟨s, rfl⟩⟩
  | chunked t cs =>
    simp only [WF, Bool.and_eq_true] at hwf
    exact ⟨t, (blobLike_excl h).2.2.2 hwf.1, Or.inr (Or.inl ⟨cs, rfl⟩)⟩
  | nullBlob t => exact ⟨t, (blobLike_excl h).2.2.2 hwf, Or.inr (Or.inr rfl)⟩
  | line t _ | arr t _ | map t _ | stream t _ | nullArr t =>
    obtain ⟨h1, h2, h3, _⟩ := blobLike_excl (t := t) h
    simp [WF, isStreamT, h1, h2, h3] at hwf
  | int _ | null | bool _ => simp [hd, isBlobLike] at h
  | attr a w =>
    simp only [WF, Bool.and_eq_true] at hwf
    simp [hd, hd_attr a hwf.1, isBlobLike] at h

theorem msgCase_push (t0 : UInt8) (m : Msg) (hm : m.typ = 62) (r : List UInt8) (w : Wr) : msgCase t0 m r w = none := by
  unfold msgCase; rw [hm]; simp

theorem push_default (p : Wire) (hwf : WF p = true) (hp : (value p []).typ = 62) : isBlobLike (hd p) = false := by
  cases h : isBlobLike (hd p) with
  | false => rfl
  | true =>
    obtain ⟨t, ht, ⟨s, rfl⟩ | ⟨cs, rfl⟩ | rfl⟩ := hd_blobLike p hwf h <;>
      simp [value, Msg.null, Msg.typ] at hp <;> simp [hp] at ht

/-- well-formed push frames -/
def Pushes (ps : List Wire) : Prop := ∀ p ∈ ps, WF p = true ∧ (value p []).typ = 62

section
-- `B`: the bufio buffer size, at least 32 so that the header line of a 64-bit length fits (as in C12);
-- `9223372036854775808` = 2^63 below: lengths are Go `int64`s (`Rv.Spec.lim`)
variable (B : Nat) (hb : 32 ≤ B)
include hb

theorem streamTo_blobHdr (f : Nat) (t : UInt8) (ht : isBlobLike t = true) (n : Nat) (hn : n < 9223372036854775808)
    (p : List UInt8) (wr : Wr) : streamTo B (f + 1) wr (t :: (digits n ++ crlf ++ p)) = blobCase t n p wr := by
  rw [streamTo, ht, if_pos rfl, readI_digits B n hb hn]

/-- a `$n` / `=n` / `;n` frame with a non-failing writer: exactly the payload is written -/
theorem streamTo_blob (f : Nat) (t : UInt8) (ht : isBlobLike t = true)
    (s rest : List UInt8) (hs : s.length < 9223372036854775808) (hne : t = 59 → s ≠ [])
    (wr : Wr) (hw : wr.budget = none) :
    streamTo B (f + 1) wr (t :: (digits s.length ++ crlf ++ (s ++ crlf ++ rest))) =
      ⟨s.length, .none, true, rest, { wr with out := wr.out ++ s }⟩ := by
  rw [streamTo_blobHdr B hb f t ht _ hs]
  unfold blobCase
  have h1 : ¬ ((s.length : Int) = -1) := by omega
  simp only [h1, if_false]
  by_cases h0 : s.length = 0
  · have hnil : s = [] := List.length_eq_zero_iff.mp h0
    subst hnil
    have ht59 : ¬ (t = 59) := fun e => hne e rfl
    simp only [List.length_nil, Int.natCast_zero, ne_eq, not_true, if_false, ht59, List.nil_append, crlf,
      List.cons_append, finishBlob_two, List.append_nil, Bool.false_eq_true]
  · have h2 : (s.length : Int) ≠ 0 := by omega
    simp only [h2, ne_eq, not_false_eq_true, if_true]
    rw [List.append_assoc, copyN_all wr hw s _ (by omega), fullAfter_zero]
    simp only [crlf, List.cons_append, List.nil_append, finishBlob_two, Bool.false_eq_true, if_false]

/-- `;0\r\n`: the end marker of a chunked string writes nothing and is clean -/
theorem streamTo_chunk_end (f : Nat) (wr : Wr) (rest : List UInt8) :
    streamTo B (f + 1) wr (59 :: 48 :: 13 :: 10 :: rest) = ⟨0, .none, true, rest, wr⟩ := by
  have := streamTo_blobHdr B hb f 59 rfl 0 (by omega) rest wr
  rw [digits_zero] at this
  exact this.trans (by simp [blobCase])

/-- `$-1\r\n` / `=-1\r\n`: RESP2 null -/
theorem streamTo_nullblob (f : Nat) (t : UInt8) (ht : isBlobLike t = true) (wr : Wr) (rest : List UInt8) :
    streamTo B (f + 1) wr (t :: 45 :: 49 :: 13 :: 10 :: rest) = ⟨0, .nilMsg, true, rest, wr⟩ := by
  rw [streamTo]
  simp only [ht, if_true, readI_m1 B hb]
  unfold blobCase
  simp

/-- the chunk loop over well-formed chunks followed by `;0\r\n` -/
theorem chunkLoop_ok (cs : List (List UInt8)) (hcs : ∀ c ∈ cs, c ≠ [] ∧ c.length < 9223372036854775808) :
    ∀ (f : Nat), cs.length + 2 ≤ f → ∀ (acc : Nat) (wr : Wr), wr.budget = none → ∀ (rest : List UInt8),
    chunkLoop B f acc wr ((cs.map chunkBytes).flatten ++ (59 :: 48 :: 13 :: 10 :: rest)) =
      ⟨acc + cs.flatten.length, .none, true, rest, { wr with out := wr.out ++ cs.flatten }⟩ := by
  induction cs with
  | nil =>
    intro f hf acc wr _ rest
    obtain ⟨f1, rfl⟩ : ∃ k, f = k + 1 + 1 := ⟨f - 2, by simp at hf; omega⟩
    rw [chunkLoop]
    simp only [List.map_nil, List.flatten_nil, List.nil_append, streamTo_chunk_end B hb]
    simp
  | cons c cs ih =>
    intro f hf acc wr hw rest
    obtain ⟨f1, rfl⟩ : ∃ k, f = k + 1 + 1 := ⟨f - 2, by simp at hf; omega⟩
    have ⟨hne, hlt⟩ := hcs c (by simp)
    have hc : c.length ≠ 0 := fun h => hne (List.length_eq_zero_iff.mp h)
    rw [chunks_cons, chunkLoop, streamTo_blob B hb f1 59 rfl c _ hlt (fun _ => hne) wr hw]
    simp only [hc, ne_eq, not_false_eq_true, true_and, if_true]
    rw [ih (fun x hx => hcs x (by simp [hx])) (f1 + 1) (by simp at hf; omega) (acc + c.length) { wr with out := wr.out ++ c } hw rest]
    simp [List.append_assoc, Nat.add_assoc]

/-- a `$?` / `=?` chunked string with a non-failing writer -/
theorem streamTo_chunked (t : UInt8) (ht : isBlobLike t = true) (cs : List (List UInt8))
    (hcs : ∀ c ∈ cs, c ≠ [] ∧ c.length < 9223372036854775808)
    (f : Nat) (hf : cs.length + 2 ≤ f) (wr : Wr) (hw : wr.budget = none) (rest : List UInt8) :
    streamTo B (f + 1) wr (t :: 63 :: 13 :: 10 :: ((cs.map chunkBytes).flatten ++ (59 :: 48 :: 13 :: 10 :: rest))) =
      ⟨cs.flatten.length, .none, true, rest, { wr with out := wr.out ++ cs.flatten }⟩ := by
  rw [streamTo]
  simp only [ht, if_true, readI_q B hb]
  rw [chunkLoop_ok B hb cs hcs f hf 0 wr hw rest]
  simp

theorem streamTo_default (f : Nat) (w : Wire) (hwf : WF w = true)
    (hnb : isBlobLike (hd w) = false) (rest : List UInt8) (wr : Wr) :
    streamTo B (f + 1) wr (bytes w ++ rest) =
      (msgCase (hd w) (value w []) rest wr).getD (streamTo B f wr rest) := by
  obtain ⟨tl, h⟩ := bytes_hd w
  have hdec := Rv.C12.decode_encode B hb w hwf rest
  rw [h, List.cons_append] at hdec ⊢
  rw [streamTo]
  simp only [hnb, Bool.false_eq_true, if_false, defaultCase, afterPush, hdec]
  generalize msgCase (hd w) (value w []) rest wr = o
  cases o <;> rfl

/-- any number of well-formed push frames in front are skipped, one unit of fuel each -/
theorem streamTo_skip_pushes (ps : List Wire) (hps : Pushes ps) (f : Nat) (wr : Wr) (tl : List UInt8) :
    streamTo B (ps.length + f) wr (bytesL ps ++ tl) = streamTo B f wr tl := by
  induction ps with
  | nil => simp [bytesL]
  | cons p ps ih =>
    have ⟨hwf, hp⟩ := hps p (by simp)
    rw [show (p :: ps).length + f = (ps.length + f) + 1 by simp; omega]
    simp only [bytesL, List.append_assoc]
    rw [streamTo_default B hb _ p hwf (push_default p hwf hp), msgCase_push _ _ hp]
    exact ih (fun q hq => hps q (by simp [hq]))

omit hb in
theorem bytesL_len (ps : List Wire) : ps.length ≤ (bytesL ps).length := by
  induction ps with
  | nil => simp
  | cons p ps ih =>
    obtain ⟨tl, h⟩ := bytes_hd p
    simp only [bytesL, List.length_append, List.length_cons, h]
    omega

/-- a top-level call skips the pushes in front and is left with more fuel than any frame needs -/
theorem run_skip (ps : List Wire) (hps : Pushes ps) (x : List UInt8) (wr : Wr) :
    ∃ f, 2 * x.length + 3 ≤ f ∧ run B wr (bytesL ps ++ x) = streamTo B (f + 1) wr x := by
  have := bytesL_len ps
  refine ⟨2 * (bytesL ps ++ x).length + 3 - ps.length, by simp only [List.length_append]; omega, ?_⟩
  rw [← streamTo_skip_pushes B hb ps hps, run]
  congr 1
  simp only [List.length_append]; omega

theorem run_blob (ps : List Wire) (hps : Pushes ps) (t : UInt8) (s rest : List UInt8) (wr : Wr) :
    ∃ f, run B wr (bytesL ps ++ (bytes (.blob t s) ++ rest)) =
      streamTo B (f + 1) wr (t :: (digits s.length ++ crlf ++ (s ++ crlf ++ rest))) := by
  obtain ⟨f, _, e⟩ := run_skip B hb ps hps (bytes (.blob t s) ++ rest) wr
  exact ⟨f, by simpa only [bytes, List.cons_append, List.append_assoc] using e⟩

theorem run_chunked (ps : List Wire) (hps : Pushes ps) (t : UInt8) (cs : List (List UInt8)) (rest : List UInt8) (wr : Wr) :
    ∃ f, cs.length + 2 ≤ f ∧ run B wr (bytesL ps ++ (bytes (.chunked t cs) ++ rest)) =
      streamTo B (f + 1) wr (t :: 63 :: 13 :: 10 :: ((cs.map chunkBytes).flatten ++ (59 :: 48 :: 13 :: 10 :: rest))) := by
  have hshape : bytes (.chunked t cs) ++ rest =
      t :: 63 :: 13 :: 10 :: ((cs.map chunkBytes).flatten ++ (59 :: 48 :: 13 :: 10 :: rest)) := by
    simp [bytes, crlf, List.append_assoc]
  obtain ⟨f, hf, e⟩ := run_skip B hb ps hps (bytes (.chunked t cs) ++ rest) wr
  have hlen := chunks_len cs
  rw [hshape] at hf
  exact ⟨f, by simp only [List.length_cons, List.length_append] at hf; omega, hshape ▸ e⟩

theorem run_default (ps : List Wire) (hps : Pushes ps) (w : Wire) (hwf : WF w = true)
    (hnb : isBlobLike (hd w) = false) (rest : List UInt8) (wr : Wr) (o : Out)
    (hm : msgCase (hd w) (value w []) rest wr = some o) :
    run B wr (bytesL ps ++ (bytes w ++ rest)) = o := by
  obtain ⟨f, _, e⟩ := run_skip B hb ps hps (bytes w ++ rest) wr
  rw [e, streamTo_default B hb f w hwf hnb, hm]
  rfl

end

end Rv.StreamL
