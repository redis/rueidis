/-
The 7-byte expiry field of message.go (`getExpireAt ∘ setExpireAt` keeps the low 56 bits) and the
minimum rule of `Update` as the specification states it.
-/
import Rv.Model.Lru
import Rv.Spec.Cache
namespace Rv.Lru

theorem emod_mul (v : Int) {a b : Int} (ha : 0 < a) (hb : 0 < b) :
    v % (a * b) = v % a + v / a % b * a := by
  have h1 := Int.emod_add_mul_ediv v a
  have h2 := Int.emod_add_mul_ediv (v / a) b
  refine ((Int.ediv_emod_unique (q := v / a / b) (Int.mul_pos ha hb)).2 ⟨?_, ?_, ?_⟩).2
  · rw [Int.mul_assoc, Int.mul_comm (v / a % b) a, Int.add_assoc, ← Int.mul_add, h2, h1]
  · exact Int.add_nonneg (Int.emod_nonneg _ (Int.ne_of_gt ha))
      (Int.mul_nonneg (Int.emod_nonneg _ (Int.ne_of_gt hb)) (Int.le_of_lt ha))
  · calc v % a + v / a % b * a < a + v / a % b * a := Int.add_lt_add_right (Int.emod_lt_of_pos v ha) _
      _ = (v / a % b + 1) * a := by rw [Int.add_mul, Int.one_mul, Int.add_comm]
      _ ≤ b * a := Int.mul_le_mul_of_nonneg_right (Int.emod_lt_of_pos _ hb) (Int.le_of_lt ha)
      _ = a * b := Int.mul_comm _ _

/-- the seven bytes are the base-256 digits of `v mod 2^56`: peel them off from the top -/
theorem pack_eq_emod (v : Int) : pack v = v % 72057594037927936 := by
  have h (m a : Int) (hm : m = a * 256) (ha : 0 < a) : v % m = v % a + v / a % 256 * a :=
    hm ▸ emod_mul v ha (by decide)
  rw [h 72057594037927936 281474976710656 rfl (by decide), h 281474976710656 1099511627776 rfl (by decide),
    h 1099511627776 4294967296 rfl (by decide), h 4294967296 16777216 rfl (by decide),
    h 16777216 65536 rfl (by decide), h 65536 256 rfl (by decide)]
  rfl

theorem pack_of_lt {v : Int} (h0 : 0 ≤ v) (h1 : v < 2 ^ 56) : pack v = v := by
  rw [pack_eq_emod]; exact Int.emod_eq_of_lt h0 h1

theorem pack_zero : pack 0 = 0 := by decide

theorem chooseExp_eq (c s : Int) : chooseExp c s = Spec.Cache.expiry c s := by
  unfold chooseExp Spec.Cache.expiry
  by_cases hs : s = 0
  · simp only [hs, or_true, if_true]
  · by_cases hc : c < s <;> simp only [hs, hc, or_false, if_true, if_false]

end Rv.Lru
