/-
What a per-connection worker of one round puts on the wire: both lists of its retry entry
(`commands` and `cAskings`) are sent, the plain ones first, the ASK ones behind ASKING.
-/
import Rv.Lemmas.ClusterMulti
namespace Rv.ClusterMultiL
open Rv Rv.Topology Rv.ClusterRoute Rv.ClusterMulti

theorem answer_log (w : World) (addr : Bytes) (c : Cmd) :
    (answer w addr c).2.log = w.log ∧ (answer w addr c).2.recycled = w.recycled := by
  unfold answer
  split <;> exact ⟨rfl, rfl⟩

theorem answerAll_log (addr : Bytes) : ∀ (cs : List Cmd) (w : World),
    (answerAll w addr cs).2.log = w.log ∧ (answerAll w addr cs).2.recycled = w.recycled
  | [], _ => ⟨rfl, rfl⟩
  | c :: cs, w => by
    obtain ⟨h1, h2⟩ := answerAll_log addr cs (answer w addr c).2
    obtain ⟨g1, g2⟩ := answer_log w addr c
    exact ⟨h1.trans g1, h2.trans g2⟩

theorem phaseIf_log (o : Opt) (cache hasInit : Bool) (attempts : Nat) (cc : Conn) (kind : CallKind) (items : List Item)
    (es : List Entry) (s : Acc × World) :
    (phaseIf o cache hasInit attempts cc kind items es s).2.log =
      s.2.log ++ (if es ≠ [] then [{ conn := cc, kind := kind, items := items }] else []) ∧
    (phaseIf o cache hasInit attempts cc kind items es s).2.recycled = s.2.recycled := by
  unfold phaseIf
  split
  · exact answerAll_log cc.addr _ _
  · exact ⟨(List.append_nil _).symm, rfl⟩

/-- the call carrying the plain re-sends of an entry -/
def cmdsCall (cache : Bool) (cc : Conn) (re : Retry) : Call :=
  { conn := cc, kind := callKind cache, items := re.cmds.map fun e => Item.cmd e.2.id }

/-- the call carrying the ASK re-sends of an entry (ASKING interleaved) -/
def asksCall (cache : Bool) (cc : Conn) (re : Retry) : Call :=
  { conn := cc, kind := .multi, items := if cache then askingCacheItems re.asks else askingItems false re.asks }

def sentBy (cache : Bool) (cc : Conn) (re : Retry) : List Call :=
  (if re.cmds ≠ [] then [cmdsCall cache cc re] else []) ++ (if re.asks ≠ [] then [asksCall cache cc re] else [])

theorem doRetryCore_log (o : Opt) (cache hasInit : Bool) (attempts : Nat) (cc : Conn) (re : Retry) (a : Acc) (w : World) :
    (doRetryCore o cache hasInit attempts cc re a w).2.log = w.log ++ sentBy cache cc re ∧
    (doRetryCore o cache hasInit attempts cc re a w).2.recycled = w.recycled := by
  rw [doRetryCore_eq]
  obtain ⟨l2, r2⟩ := phaseIf_log o cache hasInit attempts cc .multi
    (if cache then askingCacheItems re.asks else askingItems false re.asks) re.asks
    (phaseIf o cache hasInit attempts cc (callKind cache) (re.cmds.map fun e => Item.cmd e.2.id) re.cmds (a, w))
  obtain ⟨l1, r1⟩ := phaseIf_log o cache hasInit attempts cc (callKind cache) (re.cmds.map fun e => Item.cmd e.2.id)
    re.cmds (a, w)
  exact ⟨by rw [l2, l1, List.append_assoc]; rfl, r2.trans r1⟩

theorem doRetry_log (o : Opt) (cache hasInit : Bool) (attempts : Nat) (cc : Conn) (re : Retry) (a : Acc) (w : World) :
    (doRetry o cache hasInit attempts cc re a w).2.log = w.log ++ sentBy cache cc re :=
  ite_ind (fun t : Acc × World => t.2.log = w.log ++ sentBy cache cc re)
    (doRetryCore_log o cache hasInit attempts cc re a w).1 (doRetryCore_log o cache hasInit attempts cc re a w).1

theorem runRound_log (o : Opt) (cache hasInit : Bool) (attempts : Nat) : ∀ (p : Pending) (a : Acc) (w : World),
    (runRound o cache hasInit attempts p a w).2.log = w.log ++ p.flatMap fun x => sentBy cache x.1 x.2
  | [], _, w => (List.append_nil _).symm
  | x :: rest, a, w => by
    rw [List.flatMap_cons, ← List.append_assoc, ← doRetry_log o cache hasInit attempts x.1 x.2 a w]
    exact runRound_log o cache hasInit attempts rest _ _

theorem mem_askingItems (es : List Entry) (e : Entry) (he : e ∈ es) : Item.cmd e.2.id ∈ askingItems false es := by
  have : Item.cmd e.2.id ∈ es.map fun x => Item.cmd x.2.id := List.mem_map.mpr ⟨e, he, rfl⟩
  rw [← askingItems_strip es false] at this
  exact (List.mem_filter.mp this).1

theorem mem_askingCacheItems : ∀ (es : List Entry) (e : Entry), e ∈ es → Item.cmd e.2.id ∈ askingCacheItems es := by
  intro es
  induction es with
  | nil => intro e he; cases he
  | cons x rest ih =>
    intro e he
    unfold askingCacheItems
    rcases List.mem_cons.mp he with h | h
    · subst h
      exact List.mem_append_left _ (by simp [cacheAskItems])
    · exact List.mem_append_right _ (ih e h)

theorem cmdsCall_mem (cache : Bool) (cc : Conn) (re : Retry) (h : re.cmds ≠ []) : cmdsCall cache cc re ∈ sentBy cache cc re := by
  unfold sentBy
  rw [if_pos h]
  exact List.mem_append_left _ (List.mem_singleton.mpr rfl)

theorem asksCall_mem (cache : Bool) (cc : Conn) (re : Retry) (h : re.asks ≠ []) : asksCall cache cc re ∈ sentBy cache cc re := by
  unfold sentBy
  rw [if_pos h]
  exact List.mem_append_right _ (List.mem_singleton.mpr rfl)

/-- every command of either list of an entry is on the wire of that entry's connection -/
theorem sentBy_covers (cache : Bool) (cc : Conn) (re : Retry) (e : Entry) (he : e ∈ re.cmds ++ re.asks) :
    ∃ call ∈ sentBy cache cc re, call.conn = cc ∧ Item.cmd e.2.id ∈ call.items := by
  rcases List.mem_append.mp he with h | h
  · exact ⟨_, cmdsCall_mem cache cc re (List.ne_nil_of_mem h), rfl, List.mem_map.mpr ⟨e, h, rfl⟩⟩
  · refine ⟨_, asksCall_mem cache cc re (List.ne_nil_of_mem h), rfl, ?_⟩
    unfold asksCall
    cases cache
    · exact mem_askingItems re.asks e h
    · exact mem_askingCacheItems re.asks e h

theorem round_log (o : Opt) (cache hasInit : Bool) (attempts : Nat) (p : Pending) (a : Acc) (w : World) :
    (round o cache hasInit attempts p a w).2.log = w.log ++ (sortP p).flatMap fun x => sentBy cache x.1 x.2 :=
  runRound_log o cache hasInit attempts (sortP p) _ w

/-- the log only grows over the rounds -/
theorem rounds_log_prefix (o : Opt) (cache hasInit : Bool) (fuel : Nat) (p : Pending) (a : Acc) (w : World)
    (attempts redirects : Nat) : ∃ tail, (rounds o cache hasInit fuel p a w attempts redirects).2.log = w.log ++ tail :=
  rounds_ind o cache hasInit (fun _ => True) (fun _ w' => ∃ tail, w'.log = w.log ++ tail)
    (fun p a w' attempts _ ⟨t, ht⟩ => ⟨trivial, _, by rw [round_log, ht, List.append_assoc]⟩)
    fuel p a w attempts redirects trivial ⟨[], (List.append_nil _).symm⟩

end Rv.ClusterMultiL
