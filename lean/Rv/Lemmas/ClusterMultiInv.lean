/-
Invariants of the round loop of the batch model: every queued entry pairs an index with the
caller's command at that index, every stored result is a reply some node produced for the
command at that position, and every entry a round runs gets a result that is never un-set.
-/
import Rv.Lemmas.ClusterMulti
namespace Rv.ClusterMultiL
open Rv Rv.Topology Rv.ClusterRoute Rv.ClusterMulti

def EntriesOK (multi : List Cmd) (es : List Entry) : Prop := ∀ e ∈ es, multi[e.1]? = some e.2

def PendOK (multi : List Cmd) (p : Pending) : Prop :=
  ∀ x ∈ p, EntriesOK multi x.2.cmds ∧ EntriesOK multi x.2.asks

/-- `results[i]`, when set, is a reply that a node produced for the command at position `i` -/
def ResOK (multi : List Cmd) (replies : List (Nat × Bytes × Reply)) (results : List (Option Reply)) : Prop :=
  results.length = multi.length ∧
    ∀ (i : Nat) (r : Reply), results[i]? = some (some r) → ∃ (cmd : Cmd) (a : Bytes), multi[i]? = some cmd ∧ (cmd.id, a, r) ∈ replies

def Has (results : List (Option Reply)) (k : Nat) : Prop := ∃ r, results[k]? = some (some r)

def rqEntries : Requeue → List Entry
  | .nothing => []
  | .cmds _ es => es
  | .asks _ es => es

variable {multi : List Cmd} {R : List (Nat × Bytes × Reply)} {o : Opt} {cache hasInit : Bool} {attempts : Nat} {cc : Conn}

theorem pget_ok {p : Pending} (h : PendOK multi p) (cc : Conn) :
    EntriesOK multi (pget cc p).cmds ∧ EntriesOK multi (pget cc p).asks := by
  rcases pget_empty_or_mem cc p with h0 | ⟨x, hx, he⟩
  · rw [h0]; exact ⟨fun _ he => (nomatch he), fun _ he => (nomatch he)⟩
  · rw [← he]; exact h x hx

theorem entriesOK_append {a b : List Entry} (ha : EntriesOK multi a) (hb : EntriesOK multi b) :
    EntriesOK multi (a ++ b) :=
  fun e he => (List.mem_append.mp he).elim (ha e) (hb e)

theorem pset_ok {p : Pending} {r : Retry} (hp : PendOK multi p) (h : EntriesOK multi r.cmds ∧ EntriesOK multi r.asks) :
    PendOK multi (pset cc r p) :=
  fun x hx => (mem_pset cc r p x hx).elim (· ▸ h) (hp x)

theorem addCmds_ok {es : List Entry} {p : Pending} (hp : PendOK multi p) (hes : EntriesOK multi es) :
    PendOK multi (addCmds cc es p) :=
  pset_ok hp ⟨entriesOK_append (pget_ok hp cc).1 hes, (pget_ok hp cc).2⟩

theorem addAsks_ok {es : List Entry} {p : Pending} (hp : PendOK multi p) (hes : EntriesOK multi es) :
    PendOK multi (addAsks cc es p) :=
  pset_ok hp ⟨(pget_ok hp cc).1, entriesOK_append (pget_ok hp cc).2 hes⟩

/-- grouping keeps the pairing `commands[j] = multi[cIndexes[j]]` -/
theorem groupBy_ok : ∀ {L : List (Entry × Conn)} {p : Pending}, PendOK multi p →
    (∀ x ∈ L, multi[x.1.1]? = some x.1.2) → PendOK multi (groupBy L p)
  | [], _, hp, _ => hp
  | x :: rest, _, hp, hL =>
    groupBy_ok (L := rest) (addCmds_ok (cc := x.2) hp fun _ he => List.mem_singleton.mp he ▸ hL x (List.mem_cons_self ..))
      fun y hy => hL y (List.mem_cons_of_mem _ hy)

theorem resOK_init (multi : List Cmd) (R : List (Nat × Bytes × Reply)) :
    ResOK multi R (multi.map fun _ => none) := by
  refine ⟨List.length_map _, fun k r hk => ?_⟩
  rw [List.getElem?_map] at hk
  cases hm : multi[k]? <;> rw [hm] at hk <;> cases hk

theorem applyRq_ok {p : Pending} (rq : Requeue) (hp : PendOK multi p) (h : EntriesOK multi (rqEntries rq)) :
    PendOK multi (applyRq rq p) := by
  cases rq with
  | nothing => exact hp
  | cmds nc es => exact addCmds_ok hp h
  | asks nc es => exact addAsks_ok hp h

theorem rqEntries_mkRq (b : Bool) (nc : Conn) (es : List Entry) : rqEntries (mkRq b nc es) = es := by
  cases b <;> rfl

theorem txBlock_sub (cs : List Entry) (t : Tx) : ∀ e ∈ txBlock cs t, e ∈ cs := by
  intro e he
  unfold txBlock at he
  split at he
  · exact List.mem_of_mem_drop (List.mem_of_mem_take he)
  · cases he

/-- whatever an iteration re-queues is taken from the sub-batch it is looking at -/
theorem decideStep_rq_sub {cs : List Entry} (resps : List Reply) (c : Client) (t : Tx) {i ii : Nat} {cm : Cmd} (resp : Reply)
    (hi : cs[i]? = some (ii, cm)) :
    ∀ e ∈ rqEntries (decideStep o cache hasInit attempts cc cs resps c t i ii cm resp).rq, e ∈ cs := by
  rw [decideStep_eq]
  refine ite_ind (fun d : Dec => ∀ e ∈ rqEntries d.rq, e ∈ cs) (fun _ h => nomatch h) ?_
  refine ite_ind (fun rq => ∀ e ∈ rqEntries rq, e ∈ cs) ?_
    (ite_ind (fun rq => ∀ e ∈ rqEntries rq, e ∈ cs) (fun _ h => nomatch h) ?_)
  · rw [rqEntries_mkRq]; exact txBlock_sub cs _
  · rw [rqEntries_mkRq]
    intro e he
    exact List.mem_singleton.mp he ▸ List.mem_of_getElem? hi

structure Inv (multi : List Cmd) (R : List (Nat × Bytes × Reply)) (a : Acc) : Prop where
  res : ResOK multi R a.results
  pend : PendOK multi a.next

/-- `a'` comes from `a` by running the entries `es`: the invariant holds, no result was un-set, and each of `es`
    has one -/
structure Ran (multi : List Cmd) (R : List (Nat × Bytes × Reply)) (es : List Entry) (a a' : Acc) : Prop
    extends Inv multi R a' where
  mono : ∀ k, Has a.results k → Has a'.results k
  cov : ∀ e ∈ es, Has a'.results e.1

theorem Ran.refl {a : Acc} (h : Inv multi R a) : Ran multi R [] a a := ⟨h, fun _ hk => hk, fun _ he => nomatch he⟩

theorem Ran.trans {R' : List (Nat × Bytes × Reply)} {es es' : List Entry} {a a' a'' : Acc} (h : Ran multi R es a a')
    (h' : Ran multi R' es' a' a'') : Ran multi R' (es ++ es') a a'' :=
  ⟨h'.toInv, fun k hk => h'.mono k (h.mono k hk),
    fun e he => (List.mem_append.mp he).elim (fun he => h'.mono _ (h.cov e he)) (h'.cov e)⟩

theorem Inv.mono_replies {R' : List (Nat × Bytes × Reply)} {a : Acc} (h : Inv multi R a) (hsub : ∀ x ∈ R, x ∈ R') :
    Inv multi R' a :=
  ⟨⟨h.res.1, fun i r hr => let ⟨cmd, ad, h1, h2⟩ := h.res.2 i r hr; ⟨cmd, ad, h1, hsub _ h2⟩⟩, h.pend⟩

theorem setAt_spec {results : List (Option Reply)} {ii : Nat} {cm : Cmd} {ad : Bytes} {r : Reply}
    (h : ResOK multi R results) (hm : multi[ii]? = some cm) (hr : (cm.id, ad, r) ∈ R) :
    ResOK multi R (setAt results ii (some r)) ∧ (∀ k, Has results k → Has (setAt results ii (some r)) k) ∧
      Has (setAt results ii (some r)) ii := by
  have hlt : ii < results.length := h.1 ▸ (List.getElem?_eq_some_iff.mp hm).1
  unfold setAt
  refine ⟨⟨by rw [List.length_set, h.1], fun k r' hk => ?_⟩, fun k ⟨r', hk⟩ => ?_, r, by rw [List.getElem?_set_self hlt]⟩
  · rw [List.getElem?_set] at hk
    split at hk
    · subst ‹ii = k›
      cases hk
      exact ⟨cm, ad, hm, hr⟩
    · exact h.2 k r' hk
  · rw [Has, List.getElem?_set]
    split
    · exact ⟨r, rfl⟩
    · exact ⟨r', hk⟩

section resultFn
variable {cs : List Entry} {resps : List Reply} (hcs : EntriesOK multi cs)
  (hrep : ∀ (j : Nat) (e : Entry) (r : Reply), cs[j]? = some e → resps[j]? = some r → ∃ ad, (e.2.id, ad, r) ∈ R)
include hcs hrep

theorem resultStep_ran (st : Acc × Tx) (i : Nat) (h : Inv multi R st.1) :
    Ran multi R [] st.1 (resultStep o cache hasInit attempts cc cs resps st i).1 ∧
    ∀ e r, cs[i]? = some e → resps[i]? = some r →
      Has (resultStep o cache hasInit attempts cc cs resps st i).1.results e.1 := by
  unfold resultStep
  cases h1 : cs[i]? with
  | none => exact ⟨.refl h, fun _ _ he => nomatch he⟩
  | some e =>
    obtain ⟨ii, cm⟩ := e
    cases h2 : resps[i]? with
    | none => exact ⟨.refl h, fun _ _ _ hr => nomatch hr⟩
    | some resp =>
      obtain ⟨ad, had⟩ := hrep i _ resp h1 h2
      obtain ⟨g1, g2, g3⟩ := setAt_spec h.res (hcs _ (List.mem_of_getElem? h1)) had
      refine ⟨⟨⟨g1, applyRq_ok _ h.pend fun e he => hcs e (decideStep_rq_sub resps _ _ resp h1 e he)⟩, g2,
        fun _ he => nomatch he⟩, fun e r he _ => ?_⟩
      cases he
      exact g3

theorem resultFn_ran (hl : resps.length = cs.length) (a : Acc) (h : Inv multi R a) :
    Ran multi R cs a (resultFn o cache hasInit attempts cc cs resps a) := by
  have fold : ∀ (is : List Nat) (st : Acc × Tx), Inv multi R st.1 →
      Ran multi R [] st.1 (is.foldl (resultStep o cache hasInit attempts cc cs resps) st).1 ∧
      ∀ i ∈ is, ∀ e r, cs[i]? = some e → resps[i]? = some r →
        Has (is.foldl (resultStep o cache hasInit attempts cc cs resps) st).1.results e.1 := by
    intro is
    induction is with
    | nil => exact fun st h => ⟨.refl h, fun _ hi => nomatch hi⟩
    | cons i rest ih =>
      intro st h
      obtain ⟨s1, c1⟩ := resultStep_ran hcs hrep (o := o) (cache := cache) (hasInit := hasInit) (attempts := attempts)
        (cc := cc) st i h
      obtain ⟨s2, c2⟩ := ih _ s1.toInv
      refine ⟨s1.trans s2, fun j hj e r he hr => ?_⟩
      rcases List.mem_cons.mp hj with rfl | hj
      · exact s2.mono _ (c1 e r he hr)
      · exact c2 j hj e r he hr
  obtain ⟨s, c⟩ := fold (List.range resps.length) (a, {}) h
  refine ⟨s.toInv, s.mono, fun e he => ?_⟩
  obtain ⟨j, hj, hje⟩ := List.getElem_of_mem he
  have hj' : j < resps.length := hl ▸ hj
  exact c j (List.mem_range.mpr hj') e resps[j] (hje ▸ List.getElem?_eq_getElem hj) (List.getElem?_eq_getElem hj')

end resultFn

/-! ### the world only grows, and remembers who answered what -/

theorem answer_spec (w : World) (addr : Bytes) (c : Cmd) :
    (c.id, addr, (answer w addr c).1) ∈ (answer w addr c).2.replies ∧
    (∀ x ∈ w.replies, x ∈ (answer w addr c).2.replies) := by
  unfold answer
  split <;> exact ⟨by simp, fun x hx => by simp [hx]⟩

theorem answerAll_spec (addr : Bytes) : ∀ (cmds : List Cmd) (w : World),
    (answerAll w addr cmds).1.length = cmds.length ∧
    (∀ x ∈ w.replies, x ∈ (answerAll w addr cmds).2.replies) ∧
    (∀ (j : Nat) (c : Cmd) (r : Reply), cmds[j]? = some c → (answerAll w addr cmds).1[j]? = some r →
        (c.id, addr, r) ∈ (answerAll w addr cmds).2.replies) := by
  intro cmds
  induction cmds with
  | nil => intro w; simp [answerAll]
  | cons c rest ih =>
    intro w
    obtain ⟨a1, a2⟩ := answer_spec w addr c
    obtain ⟨i1, i2, i3⟩ := ih (answer w addr c).2
    simp only [answerAll]
    refine ⟨by simp [i1], fun x hx => i2 x (a2 x hx), ?_⟩
    intro j c' r hj hr
    cases j with
    | zero =>
      simp only [List.getElem?_cons_zero, Option.some.injEq] at hj hr
      subst hj; subst hr
      exact i2 _ a1
    | succ j =>
      simp only [List.getElem?_cons_succ] at hj hr
      exact i3 j c' r hj hr

theorem phaseIf_ran (kind : CallKind) (items : List Item) {es : List Entry} (hes : EntriesOK multi es) {s : Acc × World}
    (h : Inv multi s.2.replies s.1) :
    Ran multi (phaseIf o cache hasInit attempts cc kind items es s).2.replies es s.1
      (phaseIf o cache hasInit attempts cc kind items es s).1 := by
  unfold phaseIf
  split
  · obtain ⟨s1, s2, s3⟩ := answerAll_spec cc.addr (es.map (·.2)) (logCall s.2 { conn := cc, kind := kind, items := items })
    exact resultFn_ran hes (fun j e r hj hr => ⟨cc.addr, s3 j e.2 r (by rw [List.getElem?_map, hj]; rfl) hr⟩)
      (by rw [s1, List.length_map]) s.1 (h.mono_replies s2)
  · rename_i hn
    rw [Decidable.not_not.mp hn]
    exact .refl h

/-- recycling the batch changes neither the results nor the replies on record -/
theorem doRetry_ran {re : Retry} (h1 : EntriesOK multi re.cmds) (h2 : EntriesOK multi re.asks) {a : Acc} {w : World}
    (h : Inv multi w.replies a) :
    Ran multi (doRetry o cache hasInit attempts cc re a w).2.replies (re.cmds ++ re.asks) a
      (doRetry o cache hasInit attempts cc re a w).1 :=
  have r1 := phaseIf_ran (o := o) (cache := cache) (hasInit := hasInit) (attempts := attempts) (cc := cc) (callKind cache)
    (re.cmds.map fun e => Item.cmd e.2.id) h1 (s := (a, w)) h
  have r := r1.trans (phaseIf_ran _ _ h2 r1.toInv)
  ite_ind (fun t : Acc × World => Ran multi t.2.replies (re.cmds ++ re.asks) a t.1) r r

theorem runRound_ran : ∀ {p : Pending} {a : Acc} {w : World}, PendOK multi p → Inv multi w.replies a →
    Ran multi (runRound o cache hasInit attempts p a w).2.replies (p.flatMap fun x => x.2.cmds ++ x.2.asks) a
      (runRound o cache hasInit attempts p a w).1
  | [], _, _, _, h => .refl h
  | x :: _, _, _, hp, h =>
    have r := doRetry_ran (o := o) (cache := cache) (hasInit := hasInit) (attempts := attempts) (cc := x.1)
      (hp x (List.mem_cons_self ..)).1 (hp x (List.mem_cons_self ..)).2 h
    r.trans (runRound_ran (fun y hy => hp y (List.mem_cons_of_mem _ hy)) r.toInv)

theorem round_ran {p : Pending} {a : Acc} {w : World} (hp : PendOK multi p) (hr : ResOK multi w.replies a.results) :
    Ran multi (round o cache hasInit attempts p a w).2.replies (p.flatMap fun x => x.2.cmds ++ x.2.asks) a
      (round o cache hasInit attempts p a w).1 :=
  have r := runRound_ran (o := o) (cache := cache) (hasInit := hasInit) (attempts := attempts) (p := sortP p)
    (a := { a with next := [], redirects := 0, hasDelay := false }) (w := w)
    (fun y hy => hp y ((mem_sortP p y).mp hy)) ⟨hr, fun _ hx => nomatch hx⟩
  ⟨r.toInv, r.mono, fun e he =>
    let ⟨x, hx, hex⟩ := List.mem_flatMap.mp he
    r.cov e (List.mem_flatMap.mpr ⟨x, (mem_sortP p x).mpr hx, hex⟩)⟩

theorem rounds_inv (multi : List Cmd) (o : Opt) (cache hasInit : Bool) :
    ∀ (fuel : Nat) (p : Pending) (a : Acc) (w : World) (attempts redirects : Nat), PendOK multi p →
    ResOK multi w.replies a.results →
    ResOK multi (rounds o cache hasInit fuel p a w attempts redirects).2.replies
      (rounds o cache hasInit fuel p a w attempts redirects).1.results :=
  rounds_ind o cache hasInit (PendOK multi) (fun a w => ResOK multi w.replies a.results) fun _ _ _ _ hp hr =>
    have r := round_ran hp hr
    ⟨r.pend, r.res⟩

theorem rounds_mono (multi : List Cmd) (o : Opt) (cache hasInit : Bool) (fuel : Nat) (p : Pending) (a : Acc) (w : World)
    (attempts redirects : Nat) (hp : PendOK multi p) (hr : ResOK multi w.replies a.results) (k : Nat)
    (hk : Has a.results k) : Has (rounds o cache hasInit fuel p a w attempts redirects).1.results k :=
  (rounds_ind o cache hasInit (PendOK multi) (fun a w => ResOK multi w.replies a.results ∧ Has a.results k)
    (fun _ _ _ _ hp h =>
      have r := round_ran hp h.1
      ⟨r.pend, r.res, r.mono k h.2⟩)
    fuel p a w attempts redirects hp ⟨hr, hk⟩).2

/-- after the first round every entry of the initial sub-batches has a result, and keeps one -/
theorem rounds_total (multi : List Cmd) (o : Opt) (cache hasInit : Bool) (fuel : Nat) (p : Pending) (a : Acc) (w : World)
    (attempts redirects : Nat) (hp : PendOK multi p) (hr : ResOK multi w.replies a.results) :
    ∀ x ∈ p, ∀ e ∈ x.2.cmds, Has (rounds o cache hasInit (fuel + 1) p a w attempts redirects).1.results e.1 := by
  intro x hx e he
  have r := round_ran (o := o) (cache := cache) (hasInit := hasInit) (attempts := attempts) hp hr
  have h1 := r.cov e (List.mem_flatMap.mpr ⟨x, hx, List.mem_append_left _ he⟩)
  exact rounds_succ o cache hasInit fuel p a w attempts redirects (fun out => Has out.1.results e.1) h1
    fun _ _ => rounds_mono multi o cache hasInit fuel _ _ _ _ _ r.pend r.res _ h1

end Rv.ClusterMultiL
