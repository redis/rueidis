/-
Single-flight invariant of the connection-level cache model `Rv.CachePipe`: the fetches on the wire and
the pending entries of the store correspond one to one (`SF`), preserved by every event.
-/
import Rv.Lemmas.CachePipe
namespace Rv.Lru

/-- pending entries after `Update(k, c, …)`: old ones, of other commands -/
theorem update_pending_sub (s : State) (hi : Inv s) (k c : Bytes) (v : Nat) (vsz raw : Int) :
    ∀ x ∈ (update s k c v vsz raw).1.list, x.pend = true → x ∈ s.list ∧ ¬ (x.key = k ∧ x.cmd = c) := by
  intro x hx hp
  rcases update_mem hi k c v vsz raw hx with h | ⟨e, -, rfl⟩
  · exact ⟨h.1, h.2 hp⟩
  · cases hp

/-- pending entries after `Cancel(k, c, …)`: old ones, of other commands -/
theorem cancel_pending_sub (s : State) (hi : Inv s) (k c : Bytes) (err : Nat) :
    ∀ x ∈ (cancel s k c err).list, x.pend = true → x ∈ s.list ∧ ¬ (x.key = k ∧ x.cmd = c) := by
  intro x hx hp
  rcases cancel_cases s k c err with ⟨hs, hnp⟩ | ⟨e, -, hf, -, hs⟩ <;> rw [hs] at hx
  · refine ⟨hx, fun hkc => ?_⟩
    have hf := find?_of_mem hi.nodup hx
    rw [hkc.1, hkc.2] at hf
    rw [hnp.resolve_left (by rw [hi.open_of_mem hx]; exact Bool.false_ne_true) x hf] at hp
    cases hp
  · exact ⟨List.mem_of_mem_erase hx, hi.nodup.erase_find hf hx⟩

end Rv.Lru

namespace Rv.CachePipe
open Rv.Lru (Bytes FRes Entry)

/-- the command a message answers -/
def cmdOf : Msg → Option (Bytes × Bytes)
  | .reply k c _ _ _ => some (k, c)
  | .fail k c _ => some (k, c)
  | _ => none

/-- the fetches of the connection that are on the wire: sent and not yet answered, or answered and not yet handled -/
def inFlight (st : St) : List (Bytes × Bytes) := st.reqQ ++ st.respQ.filterMap cmdOf

/-- single-flight invariant of the connection: the fetches on the wire and the pending entries of the store
    correspond one to one -/
structure SF (st : St) : Prop where
  nodup : (inFlight st).Nodup
  pend_of : ∀ kc ∈ inFlight st, ∃ e ∈ st.store.list, e.key = kc.1 ∧ e.cmd = kc.2 ∧ e.pend = true
  flight_of : ∀ e ∈ st.store.list, e.pend = true → (e.key, e.cmd) ∈ inFlight st

theorem sf_init (mx base : Int) : SF (init mx base) :=
  ⟨by simp [inFlight, init], by simp [inFlight, init], by simp [init, Lru.init]⟩

theorem sf_perm {st st' : St} (h : SF st) (hs : ∀ x, x ∈ st'.store.list ↔ x ∈ st.store.list)
    (hp : (inFlight st').Perm (inFlight st)) : SF st' :=
  ⟨hp.nodup_iff.2 h.nodup, fun kc hkc => by
    obtain ⟨e, he, hk⟩ := h.pend_of kc (hp.mem_iff.1 hkc); exact ⟨e, (hs e).2 he, hk⟩,
   fun e he hpe => hp.mem_iff.2 (h.flight_of e ((hs e).1 he) hpe)⟩

theorem inFlight_answer {st : St} {k c : Bytes} {rest : List (Bytes × Bytes)} (hq : st.reqQ = (k, c) :: rest) {m : Msg}
    (hm : cmdOf m = some (k, c)) {st' : St} (hrq : st'.reqQ = rest) (hrs : st'.respQ = st.respQ ++ [m]) :
    (inFlight st').Perm (inFlight st) := by
  rw [inFlight, inFlight, hrq, hrs, hq, List.filterMap_append]
  simp only [List.filterMap_cons, hm, List.filterMap_nil, List.cons_append]
  rw [← List.append_assoc]
  exact List.perm_append_singleton _ _

theorem sf_step {st : St} (hi : Lru.Inv st.store) (h : SF st) (ev : Ev) : SF (step st ev) := by
  -- a lookup of (k, c) that is told to send: nothing is pending or on the wire for (k, c)
  have hsend : ∀ {k c : Bytes} {now : Int},
      (∀ x ∈ st.store.list, x.key = k ∧ x.cmd = c → Lru.valid x (Lru.unixMilli now) = false) →
      (∀ x ∈ st.store.list, x.pend = true → ¬ (x.key = k ∧ x.cmd = c)) ∧ (k, c) ∉ inFlight st := by
    intro k c now hexp
    have hnone : ∀ x ∈ st.store.list, x.pend = true → ¬ (x.key = k ∧ x.cmd = c) := fun x hx hpx hkc => by
      have := hexp x hx hkc; rw [Lru.valid_of_pend hpx] at this; cases this
    refine ⟨hnone, fun hin => ?_⟩
    obtain ⟨e, he, hk, hc, hpe⟩ := h.pend_of _ hin
    exact hnone e he hpe ⟨hk, hc⟩
  cases ev with
  | start k c ttl now =>
    simp only [step]
    split
    · exact h
    · rename_i hopen
      have hopen : st.store.closed = false := by simpa using hopen
      have o := Lru.flight_cases st.store k c ttl now
      generalize (Lru.flight st.store k c ttl now).2 = r at o
      generalize (Lru.flight st.store k c ttl now).1 = s1 at o
      by_cases hr : r = .send
      · rw [if_pos hr]
        obtain ⟨hl, hexp⟩ := o.of_send hi.nodup hopen hr
        obtain ⟨hnone, hnotin⟩ := hsend hexp
        have hperm : (inFlight { st with store := s1, reqQ := st.reqQ ++ [(k, c)] }).Perm ((k, c) :: inFlight st) := by
          show ((st.reqQ ++ [(k, c)]) ++ st.respQ.filterMap cmdOf).Perm ((k, c) :: (st.reqQ ++ st.respQ.filterMap cmdOf))
          rw [List.append_assoc]
          exact List.perm_middle
        refine ⟨hperm.nodup_iff.2 (List.nodup_cons.2 ⟨hnotin, h.nodup⟩), fun kc hkc => ?_, fun e he hpe => ?_⟩
        · rcases List.mem_cons.1 (hperm.mem_iff.1 hkc) with rfl | hkc
          · exact ⟨Lru.newEntry st.store k c ttl now, (hl _).2 (Or.inl rfl), rfl, rfl, rfl⟩
          · obtain ⟨e, he, hk, hc, hpe⟩ := h.pend_of kc hkc
            exact ⟨e, (hl e).2 (Or.inr ⟨he, hnone e he hpe⟩), hk, hc, hpe⟩
        · apply hperm.mem_iff.2
          rcases (hl e).1 he with rfl | ⟨hel, _⟩
          · exact List.mem_cons_self
          · exact List.mem_cons_of_mem _ (h.flight_of e hel hpe)
      · rw [if_neg hr]
        exact sf_perm h (o.of_ne_send hr).1 (List.Perm.refl _)
  | startDone k c ttl now err =>
    simp only [step]
    split
    · exact h
    · rename_i hopen
      have hopen : st.store.closed = false := by simpa using hopen
      have o := Lru.flight_cases st.store k c ttl now
      have hi1 := Lru.inv_flight hi k c ttl now
      generalize (Lru.flight st.store k c ttl now).2 = r at o
      generalize (Lru.flight st.store k c ttl now).1 = s1 at o hi1
      by_cases hr : r = .send
      · -- the call became the fetcher, nothing is written, its own flight is cancelled: the pending entries are as before
        rw [if_pos hr]
        obtain ⟨hl, hexp⟩ := o.of_send hi.nodup hopen hr
        obtain ⟨hnone, -⟩ := hsend hexp
        refine ⟨h.nodup, fun kc hkc => ?_, fun x hx hpx => ?_⟩
        · obtain ⟨e, he, hk, hc, hpe⟩ := h.pend_of kc hkc
          have hne := hnone e he hpe
          exact ⟨e, Lru.pending_persists hi1 ((hl e).2 (Or.inr ⟨he, hne⟩)) hpe (.cancel k c err) (Lru.resolves_other hne),
            hk, hc, hpe⟩
        · obtain ⟨hx1, hne⟩ := Lru.cancel_pending_sub s1 hi1 k c err x hx hpx
          rcases (hl x).1 hx1 with rfl | hxo
          · exact absurd ⟨rfl, rfl⟩ hne
          · exact h.flight_of x hxo.1 hpx
      · rw [if_neg hr]
        exact sf_perm h (o.of_ne_send hr).1 (List.Perm.refl _)
  | exec vsz pttl =>
    simp only [step]
    split
    · exact h
    · rename_i k c rest hq
      exact @sf_perm st _ h (fun _ => Iff.rfl) (inFlight_answer hq rfl rfl rfl)
  | execFail err =>
    simp only [step]
    split
    · exact h
    · rename_i k c rest hq
      exact @sf_perm st _ h (fun _ => Iff.rfl) (inFlight_answer hq rfl rfl rfl)
  -- an invalidation is no fetch
  | write k => simp only [step]; split <;> exact @sf_perm st _ h (fun _ => Iff.rfl) (by simp [inFlight, List.filterMap_cons, cmdOf])
  | flushall => simp only [step]; split <;> exact @sf_perm st _ h (fun _ => Iff.rfl) (by simp [inFlight, List.filterMap_cons, cmdOf])
  | disconnect err =>
    simp only [step]
    exact ⟨by simp [inFlight], by simp [inFlight], by simp [Lru.close]⟩
  | deliver tnow =>
    simp only [step]
    split
    · exact h
    · rename_i m rest hq
      -- dropping an answered command from the in-flight list
      have answered : ∀ (k c : Bytes) (s1 : Lru.State) (st' : St), cmdOf m = some (k, c) →
          st'.store = s1 → st'.reqQ = st.reqQ → st'.respQ = rest →
          (∀ x ∈ s1.list, x.pend = true → x ∈ st.store.list ∧ ¬ (x.key = k ∧ x.cmd = c)) →
          (∀ x ∈ st.store.list, x.pend = true → ¬ (x.key = k ∧ x.cmd = c) → x ∈ s1.list) → SF st' := by
        intro k c s1 st' hm hs hrq hrs hsub hkeep
        have hin : inFlight st = st.reqQ ++ (k, c) :: rest.filterMap cmdOf := by
          simp [inFlight, hq, hm]
        have hin' : inFlight st' = st.reqQ ++ rest.filterMap cmdOf := by simp [inFlight, hrq, hrs]
        have hnd := h.nodup
        rw [hin] at hnd
        have hperm : (st.reqQ ++ (k, c) :: rest.filterMap cmdOf).Perm ((k, c) :: (st.reqQ ++ rest.filterMap cmdOf)) :=
          List.perm_middle
        have hnd2 := List.nodup_cons.1 (hperm.nodup_iff.1 hnd)
        refine ⟨by rw [hin']; exact hnd2.2, ?_, ?_⟩
        · intro kc hkc
          rw [hin'] at hkc
          have hne : kc ≠ (k, c) := fun hh => hnd2.1 (hh ▸ hkc)
          obtain ⟨e, he, hk, hc, hpe⟩ := h.pend_of kc (by rw [hin]; exact hperm.mem_iff.2 (List.mem_cons_of_mem _ hkc))
          refine ⟨e, by rw [hs]; exact hkeep e he hpe (fun hh => hne (by rw [← hh.1, ← hh.2, hk, hc])), hk, hc, hpe⟩
        · intro e he hpe
          rw [hs] at he
          obtain ⟨hel, hne⟩ := hsub e he hpe
          have := h.flight_of e hel hpe
          rw [hin] at this
          rw [hin']
          rcases List.mem_cons.1 (hperm.mem_iff.1 this) with hh | hh
          · exact absurd ⟨congrArg Prod.fst hh, congrArg Prod.snd hh⟩ hne
          · exact hh
      -- an invalidation removes no pending entry
      have dropped : ∀ (keys : Option (List Bytes)) (st' : St), cmdOf m = none →
          st'.store = Lru.delete st.store keys → st'.reqQ = st.reqQ → st'.respQ = rest → SF st' := by
        intro keys st' hm hs hrq hrs
        have hin : inFlight st' = inFlight st := by simp [inFlight, hq, hm, hrq, hrs]
        refine ⟨by rw [hin]; exact h.nodup, fun kc hkc => ?_, fun e he hpe => ?_⟩
        · obtain ⟨e, he, hk, hc, hpe⟩ := h.pend_of kc (by rw [← hin]; exact hkc)
          exact ⟨e, by rw [hs]; exact Lru.pending_persists hi he hpe (.delete keys) rfl, hk, hc, hpe⟩
        · rw [hs] at he; rw [hin]; exact h.flight_of e (Lru.mem_delete keys he).1 hpe
      cases m with
      | reply k c v vsz pttl =>
        exact answered k c _ _ rfl rfl rfl rfl (Lru.update_pending_sub st.store hi k c v vsz _) fun x hx hpx hne =>
          Lru.pending_persists hi hx hpx (.update k c v vsz (Lru.serverRaw tnow pttl)) (Lru.resolves_other hne)
      | fail k c err =>
        exact answered k c _ _ rfl rfl rfl rfl (Lru.cancel_pending_sub st.store hi k c err) fun x hx hpx hne =>
          Lru.pending_persists hi hx hpx (.cancel k c err) (Lru.resolves_other hne)
      | push k n => exact dropped (some [k]) _ rfl rfl rfl rfl
      | pushAll g => exact dropped none _ rfl rfl rfl rfl

theorem sf_run {st : St} (hp : PInv st) (h : SF st) (evs : List Ev) : SF (run st evs) := by
  induction evs generalizing st with
  | nil => exact h
  | cons e rest ih => exact ih (pinv_step hp e) (sf_step hp.store h e)

end Rv.CachePipe
