/-
Pending entries of the LRU model stay in the list until their own `Update`/`Cancel`
or `Close` (they are never evicted, purged or replaced).
-/
import Rv.Lemmas.LruRefine
namespace Rv.Lru

/-- operations that end the flight of (k, c): its `Update`, its `Cancel`, or `Close` -/
def Op.resolves (k c : Bytes) : Op → Bool
  | .update k' c' _ _ _ => k' == k && c' == c
  | .cancel k' c' _ => k' == k && c' == c
  | .close _ => true
  | _ => false

theorem resolves_other {x : Entry} {k c : Bytes} (h : ¬ (x.key = k ∧ x.cmd = c)) : (k == x.key && c == x.cmd) = false := by
  simpa using fun (h1 : k = x.key) (h2 : c = x.cmd) => h ⟨h1.symm, h2.symm⟩

theorem valid_of_pend {x : Entry} (hp : x.pend = true) (t : Int) : valid x t = true := by rw [valid, hp]; rfl

/-- a pending entry leaves the list only through its own `Update`/`Cancel` or through `Close` -/
theorem pending_persists {s : State} (hi : Inv s) {x : Entry} (hx : x ∈ s.list) (hp : x.pend = true)
    (op : Op) (hno : op.resolves x.key x.cmd = false) : x ∈ (step s op).1.list := by
  have hlocked : ∀ {now : Int} (s : State) k c ttl, x ∈ s.list → x ∈ (locked s k c ttl now).1.list :=
    fun s k c ttl hx => (locked_cases s k c ttl _).keeps_valid hx (valid_of_pend hp _)
  cases op with
  | flight k c ttl now => exact (flight_cases s k c ttl now).keeps_valid hx (valid_of_pend hp _)
  | flights now multi =>
    exact flights_ind (Φ := fun s => x ∈ s.list) ((flightsMid_spec s now multi).1 x |>.2 hx) hlocked
  | update k c v vsz raw =>
    have hne : ¬ (k = x.key ∧ c = x.cmd) := by simpa [Op.resolves] using hno
    show x ∈ (update s k c v vsz raw).1.list
    cases update_cases s k c v vsz raw with
    | closed hc hs hp' => rw [hs]; exact hx
    | absent hc hf hs hp' => rw [hs]; exact hx
    | fill e hc hf hpend hp' hl hsz hd hcl hmx hn =>
      have hf' := find?_some hf
      have hxe : x ≠ e := fun h => hne ⟨(h ▸ hf'.2.1).symm, (h ▸ hf'.2.2).symm⟩
      rw [hl]; exact evict_pending_kept _ _ _ x ((mem_replace_iff hi.nodup.nodup hf'.1).2 (Or.inr ⟨hx, hxe⟩)) hp
    | stale e hc hf hpend hp' hl hsz hd hcl hmx hn => rw [hl]; exact evict_pending_kept _ _ _ x hx hp
  | cancel k c err =>
    have hne : ¬ (k = x.key ∧ c = x.cmd) := by simpa [Op.resolves] using hno
    show x ∈ (cancel s k c err).list
    rcases cancel_cases s k c err with ⟨hs, -⟩ | ⟨e, -, hf, -, hs⟩ <;> rw [hs]
    · exact hx
    · have hf' := find?_some hf
      have hxe : x ≠ e := fun h => hne ⟨(h ▸ hf'.2.1).symm, (h ▸ hf'.2.2).symm⟩
      exact (List.mem_erase_of_ne hxe).2 hx
  | delete keys =>
    exact delete_ind (Φ := fun s => x ∈ s.list)
      (fun s k hx => List.mem_filter.2 ⟨hx, by simp [hp]⟩) hx keys
  | close err => simp [Op.resolves] at hno
  | sethits k n => exact hx

theorem pending_persists_run {s : State} (hi : Inv s) {x : Entry} (hx : x ∈ s.list) (hp : x.pend = true)
    (ops : List Op) (hno : ∀ op ∈ ops, op.resolves x.key x.cmd = false) : x ∈ (run s ops).list := by
  induction ops generalizing s with
  | nil => exact hx
  | cons op rest ih =>
    exact ih (inv_step hi op) (pending_persists hi hx hp op (hno op List.mem_cons_self))
      (fun o ho => hno o (List.mem_cons_of_mem _ ho))

theorem send_entry_persists {s : State} (hi : Inv s) (hopen : s.closed = false) {k c : Bytes} {ttl t0 : Int}
    (hsend : (flight s k c ttl t0).2 = .send) (ops : List Op) (hno : ∀ op ∈ ops, op.resolves k c = false) :
    Inv (run (flight s k c ttl t0).1 ops) ∧ newEntry s k c ttl t0 ∈ (run (flight s k c ttl t0).1 ops).list :=
  have hi1 := inv_flight hi k c ttl t0
  ⟨inv_run hi1 ops, pending_persists_run hi1 ((flight_cases s k c ttl t0).new_mem hopen hsend) rfl ops
    (by simpa [newEntry] using hno)⟩

end Rv.Lru
