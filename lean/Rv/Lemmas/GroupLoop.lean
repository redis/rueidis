/-
The loop shape shared by the Bloom-filter Lua scripts and by the Go aggregation of
HMGET replies:

    acc = a0
    for i = i0, … do            -- i0 = 1 in Lua, (i+1) with i from 0 in Go
      acc = comb acc (elem x_i)
      if i % k == 0 then flush acc; acc = a0 end
    end

`gloop` transcribes the loop literally (flat argument list, running counter `i`,
test `i % k = 0`); `gspec` is the same computation over the argument list cut into
groups. `gloop_eq_gspec` shows they agree whenever every group has length `k ≥ 1`
and the loop starts at a group boundary. Core Lean only.
-/
namespace Rv.GroupLoop

variable {σ α β : Type}

/-- literal transcription of the flat loop -/
def gloop (k : Nat) (elem : σ → Nat → σ × β) (comb : α → β → α) (a0 : α) (flush : σ → α → σ) :
    List Nat → Nat → α → σ → σ
  | [], _, _, s => s
  | x :: xs, i, a, s =>
    if i % k = 0 then
      gloop k elem comb a0 flush xs (i + 1) a0 (flush (elem s x).1 (comb a (elem s x).2))
    else
      gloop k elem comb a0 flush xs (i + 1) (comb a (elem s x).2) (elem s x).1

/-- one group: thread the state through the elements and accumulate -/
def gfold (elem : σ → Nat → σ × β) (comb : α → β → α) : List Nat → α → σ → σ × α
  | [], a, s => (s, a)
  | x :: xs, a, s => gfold elem comb xs (comb a (elem s x).2) (elem s x).1

/-- the grouped view: per group fold, then flush -/
def gspec (elem : σ → Nat → σ × β) (comb : α → β → α) (a0 : α) (flush : σ → α → σ) :
    List (List Nat) → σ → σ
  | [], s => s
  | g :: gs, s => gspec elem comb a0 flush gs (flush (gfold elem comb g a0 s).1 (gfold elem comb g a0 s).2)

theorem foldl_preserves {α β : Type} (P : β → Prop) (f : β → α → β) :
    ∀ (l : List α) (b : β), (∀ b, ∀ a ∈ l, P b → P (f b a)) → P b → P (l.foldl f b)
  | [], _, _, hb => hb
  | a :: l, b, h, hb =>
    foldl_preserves P f l (f b a) (fun b' a' ha' => h b' a' (List.mem_cons_of_mem _ ha')) (h b a List.mem_cons_self hb)

section
variable (k : Nat) (elem : σ → Nat → σ × β) (comb : α → β → α) (a0 : α) (flush : σ → α → σ)

theorem gloop_group :
    ∀ (g rest : List Nat) (i : Nat) (a : α) (s : σ), g ≠ [] →
      (∀ t, t + 1 < g.length → (i + t) % k ≠ 0) → (i + (g.length - 1)) % k = 0 →
      gloop k elem comb a0 flush (g ++ rest) i a s =
        gloop k elem comb a0 flush rest (i + g.length) a0
          (flush (gfold elem comb g a s).1 (gfold elem comb g a s).2)
  | [], _, _, _, _, h, _, _ => absurd rfl h
  | [x], rest, i, a, s, _, _, hlast => by
    rw [List.cons_append, gloop, if_pos (show i % k = 0 from hlast)]
    rfl
  | x :: y :: g, rest, i, a, s, _, hne, hlast => by
    rw [List.cons_append, gloop, if_neg (show i % k ≠ 0 from hne 0 (Nat.succ_lt_succ (Nat.succ_pos _))),
      gloop_group (y :: g) rest (i + 1) _ _ (List.cons_ne_nil _ _)
        (fun t ht => by rw [Nat.add_assoc, Nat.add_comm 1]; exact hne (t + 1) (Nat.succ_lt_succ ht))
        (by rw [Nat.add_right_comm]; exact hlast),
      Nat.add_right_comm]
    rfl

theorem gloop_proj {τ : Type} (π : σ → τ) (f : τ → Nat → τ) (he : ∀ s x, π (elem s x).1 = f (π s) x)
    (hf : ∀ s a, π (flush s a) = π s) :
    ∀ (xs : List Nat) (i : Nat) (a : α) (s : σ),
      π (gloop k elem comb a0 flush xs i a s) = xs.foldl f (π s)
  | [], _, _, _ => rfl
  | x :: xs, i, a, s => by
    rw [gloop]
    split <;> rw [gloop_proj π f he hf xs, List.foldl_cons]
    · rw [hf, he]
    · rw [he]

end

/-- The flat loop started at a group boundary (`i = q·k + 1`) over the concatenation of
groups of length `k ≥ 1` computes the grouped specification. -/
theorem gloop_eq_gspec (k : Nat) (hk : 1 ≤ k) (elem : σ → Nat → σ × β) (comb : α → β → α) (a0 : α)
    (flush : σ → α → σ) :
    ∀ (gs : List (List Nat)) (q : Nat) (s : σ), (∀ g ∈ gs, g.length = k) →
      gloop k elem comb a0 flush gs.flatten (q * k + 1) a0 s = gspec elem comb a0 flush gs s := by
  intro gs
  induction gs with
  | nil => exact fun _ _ _ => rfl
  | cons g gs ih =>
    intro q s hlen
    have hg : g.length = k := hlen g List.mem_cons_self
    rw [List.flatten_cons, gloop_group k elem comb a0 flush g gs.flatten (q * k + 1) a0 s
        (List.ne_nil_of_length_pos (hg ▸ hk)), hg, Nat.add_right_comm, ← Nat.succ_mul,
      ih (q + 1) _ fun g' h' => hlen g' (List.mem_cons_of_mem _ h')]
    · rfl
    · intro t ht
      rw [hg] at ht
      rw [Nat.add_assoc, Nat.add_comm, Nat.add_mul_mod_self_right, Nat.add_comm, Nat.mod_eq_of_lt ht]
      exact Nat.succ_ne_zero t
    · rw [hg, Nat.add_assoc, Nat.add_sub_cancel' hk, ← Nat.succ_mul]
      exact Nat.mul_mod_left _ k

theorem gfold_read (v : Nat → β) (comb : α → β → α) (s : σ) : ∀ (g : List Nat) (a : α),
    gfold (fun s x => (s, v x)) comb g a s = (s, g.foldl (fun a x => comb a (v x)) a)
  | [], _ => rfl
  | _ :: g, _ => gfold_read v comb s g _

/-- the loop of the query scripts and of the Go aggregation loops: every argument is only read, and
each completed group appends one answer -/
theorem gloop_read {γ : Type} (k : Nat) (hk : 1 ≤ k) (v : Nat → β) (comb : α → β → α) (a0 : α)
    (fin : α → γ) (gs : List (List Nat)) (hlen : ∀ g ∈ gs, g.length = k) :
    gloop k (fun (res : List γ) x => (res, v x)) comb a0 (fun res acc => res ++ [fin acc]) gs.flatten 1 a0 [] =
      gs.map fun g => fin (g.foldl (fun a x => comb a (v x)) a0) := by
  have hs : ∀ (gs : List (List Nat)) (res : List γ),
      gspec (fun (res : List γ) x => (res, v x)) comb a0 (fun res acc => res ++ [fin acc]) gs res =
        res ++ gs.map fun g => fin (g.foldl (fun a x => comb a (v x)) a0) := by
    intro gs
    induction gs with
    | nil => exact fun res => (List.append_nil res).symm
    | cons g gs ih => intro res; rw [gspec, gfold_read, ih, List.append_assoc]; rfl
  have := gloop_eq_gspec k hk (fun (res : List γ) x => (res, v x)) comb a0 (fun res acc => res ++ [fin acc])
    gs 0 [] hlen
  rw [Nat.zero_mul] at this
  exact this.trans (hs gs [])

end Rv.GroupLoop
