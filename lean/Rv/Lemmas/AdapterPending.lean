/-
Pending slots of the adapter model stay until their own `Update`/`Cancel` or `Close`;
what a lookup sees while one is pending.
-/
import Rv.Lemmas.AdapterRefine
namespace Rv.Adapter
open Rv.Lru (Bytes FRes pack unixMilli relativePTTL)

/-- operations that end the flight of (k, c) on the adapter -/
def Op.resolves (k c : Bytes) : Op → Bool
  | .update k' c' _ _ => k' == k && c' == c
  | .cancel k' c' _ => k' == k && c' == c
  | .close _ => true
  | _ => false

theorem slot_foldl_delKey_pending (keys : List Bytes) (s : State) (k c : Bytes) (e : AEntry)
    (h : slot s k c = some (some e)) : slot (keys.foldl delKey s) k c = some (some e) := by
  induction keys generalizing s with
  | nil => exact h
  | cons k0 rest ih =>
    apply ih
    rw [slot_delKey, h]; simp

theorem flight_slot (s : State) (k c : Bytes) (ttl now : Int) (k' c' : Bytes) (e : AEntry)
    (h : slot s k' c' = some (some e)) : slot (flight s k c ttl now).1 k' c' = some (some e) := by
  rcases flight_cases s k c ttl now with ⟨v, exp, -, -, hf⟩ | ⟨-, hf⟩ <;> rw [hf]
  · exact h
  rcases miss_cases s k c ttl now with ⟨e', -, hm⟩ | ⟨hnp, -, ⟨-, hst⟩ | ⟨fl, hfl, hst⟩⟩
  · rw [hm]; exact h
  · rw [hst]; exact h
  · rw [slot_put s fl hfl k c _ _ (by rw [hst]), if_neg fun heq => by cases heq; exact hnp e h]
    exact h

/-- a pending slot stays until its own `Update`/`Cancel` or `Close` -/
theorem pending_persists {s : State} {k c : Bytes} {e : AEntry} (h : slot s k c = some (some e)) (op : Op)
    (hno : op.resolves k c = false) : slot (step s op).1 k c = some (some e) := by
  cases op with
  | flight k' c' ttl now => exact flight_slot s k' c' ttl now k c e h
  | update k' c' v raw =>
    have hne : ¬ (k' = k ∧ c' = c) := by simpa [Op.resolves] using hno
    simp only [step]
    unfold update
    split
    · rename_i fl e' hfl hsl
      rw [slot_put_ne hfl rfl hne]; exact h
    · exact h
  | cancel k' c' err =>
    have hne : ¬ (k' = k ∧ c' = c) := by simpa [Op.resolves] using hno
    simp only [step]
    unfold cancel
    split
    · rename_i fl e' hfl hsl
      rw [slot_put_ne hfl rfl hne]; exact h
    · exact h
  | delete keys => cases keys <;> exact slot_foldl_delKey_pending _ s k c e h
  | close err => simp [Op.resolves] at hno

def run (s : State) : List Op → State
  | [] => s
  | op :: rest => run (step s op).1 rest

theorem pending_persists_run {s : State} {k c : Bytes} {e : AEntry} (h : slot s k c = some (some e)) (ops : List Op)
    (hno : ∀ op ∈ ops, op.resolves k c = false) : slot (run s ops) k c = some (some e) := by
  induction ops generalizing s with
  | nil => exact h
  | cons op rest ih =>
    exact ih (pending_persists h op (hno op List.mem_cons_self)) (fun o ho => hno o (List.mem_cons_of_mem _ ho))

theorem flight_of_pending {s : State} {k c : Bytes} {e : AEntry} (h : slot s k c = some (some e)) (ttl now : Int) :
    (flight s k c ttl now).2 ≠ .send ∧ ∀ i, (flight s k c ttl now).2 = .wait i → i = e.id := by
  rcases flight_cases s k c ttl now with ⟨v, exp, -, -, hf⟩ | ⟨-, hf⟩ <;> rw [hf]
  · exact ⟨FRes.noConfusion, fun i hi => nomatch hi⟩
  rcases miss_cases s k c ttl now with ⟨e', he', hm⟩ | ⟨hnp, -⟩
  · rw [h] at he'; cases he'
    rw [hm]; exact ⟨FRes.noConfusion, fun i hi => by cases hi; rfl⟩
  · exact absurd h (hnp e)

theorem send_creates_pending {s : State} (k c : Bytes) (ttl now : Int) (hopen : s.flights ≠ none)
    (h : (flight s k c ttl now).2 = .send) :
    slot (flight s k c ttl now).1 k c = some (some { id := s.nextId, xat := unixMilli (now + ttl) }) := by
  rcases flight_cases s k c ttl now with ⟨v, exp, -, -, hf⟩ | ⟨-, hf⟩ <;> rw [hf] at h ⊢
  · cases h
  rcases miss_cases s k c ttl now with ⟨e', -, hm⟩ | ⟨-, -, ⟨hfl, -⟩ | ⟨fl, hfl, hst⟩⟩
  · rw [hm] at h; cases h
  · exact absurd hfl hopen
  · rw [slot_put s fl hfl k c _ _ (by rw [hst]), if_pos rfl]

end Rv.Adapter
