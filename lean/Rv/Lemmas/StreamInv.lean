/-
C29: invariants of the `streamTo` model that hold for *every* input and every writer:
an unclean return carries an error, the outcome is never a runtime panic / over-allocation,
`n` is exactly the number of bytes the writer accepted during the call.
-/
import Rv.Model.StreamTo
import Rv.Props.C13
namespace Rv.StreamL
open Rv Rv.Resp Rv.StreamTo

/-- what every outcome of a call started with writer `wr` and byte count `acc` satisfies -/
def Good (wr : Wr) (acc : Nat) (o : Out) : Prop :=
  (o.clean = false → o.err ≠ .none) ∧ o.err ≠ .panic ∧ o.err ≠ .oom ∧
  (∃ d, o.w.out = wr.out ++ d ∧ o.n = acc + d.length) ∧ o.w.over = wr.over

theorem write_spec (wr : Wr) (p : List UInt8) :
    ∃ d, (wr.write p).2.2.out = wr.out ++ d ∧ (wr.write p).1 = d.length ∧ (wr.write p).2.2.over = wr.over := by
  unfold Wr.write
  cases hb : wr.budget with
  | none => exact ⟨p, rfl, rfl, rfl⟩
  | some k =>
    simp only
    split
    · exact ⟨p, rfl, rfl, rfl⟩
    · exact ⟨p.take k, rfl, by simp; omega, rfl⟩

theorem writeOut_good (wr : Wr) (p r : List UInt8) : Good wr 0 (writeOut wr p r) := by
  obtain ⟨d, h1, h2, h3⟩ := write_spec wr p
  unfold writeOut
  refine ⟨by simp, ?_, ?_, ⟨d, h1, by simp [h2]⟩, h3⟩ <;> (simp only; split <;> simp)

theorem copyN_spec (wr : Wr) (lim : Int) (bs : List UInt8) :
    ∃ d, (copyN wr lim bs).w.out = wr.out ++ d ∧ (copyN wr lim bs).written = d.length ∧ (copyN wr lim bs).w.over = wr.over := by
  unfold copyN
  split
  · exact ⟨[], by simp, rfl, rfl⟩
  · cases hb : wr.budget with
    | none => exact ⟨bs.take (min lim.toNat bs.length), rfl, by simp, rfl⟩
    | some k =>
      simp only
      split
      · exact ⟨bs.take (min lim.toNat bs.length), rfl, by simp, rfl⟩
      · exact ⟨bs.take k, rfl, by simp; omega, rfl⟩

theorem finishBlob_good (wr : Wr) (full : Int) (c : CopyRes)
    (hc : ∃ d, c.w.out = wr.out ++ d ∧ c.written = d.length ∧ c.w.over = wr.over) : Good wr 0 (finishBlob full c) := by
  obtain ⟨d, h1, h2, h3⟩ := hc
  unfold finishBlob
  split
  · refine ⟨fun _ => by split <;> simp, by split <;> simp, by split <;> simp, ⟨d, h1, by simp [h2]⟩, h3⟩
  · split
    · refine ⟨by simp, by split <;> simp, by split <;> simp, ⟨d, h1, by simp [h2]⟩, h3⟩
    · refine ⟨fun _ => by split <;> simp, by split <;> simp, by split <;> simp, ⟨d, h1, by simp [h2]⟩, h3⟩

theorem good_const (wr : Wr) (e : Err) (c : Bool) (r : List UInt8) (h1 : c = false → e ≠ .none) (h2 : e ≠ .panic) (h3 : e ≠ .oom) :
    Good wr 0 ⟨0, e, c, r, wr⟩ :=
  ⟨h1, h2, h3, ⟨[], by simp, by simp⟩, rfl⟩

theorem blobCase_good (t : UInt8) (len : Int) (r : List UInt8) (wr : Wr) : Good wr 0 (blobCase t len r wr) := by
  unfold blobCase
  split
  · exact good_const wr _ _ _ (by simp) (by simp) (by simp)
  · split
    · exact finishBlob_good wr _ _ (copyN_spec wr len r)
    · split
      · exact good_const wr _ _ _ (by simp) (by simp) (by simp)
      · exact finishBlob_good wr _ _ ⟨[], by simp, rfl, rfl⟩

theorem msgCase_cases (t0 : UInt8) (m : Msg) (r : List UInt8) (wr : Wr) :
    (m.typ = 62 ∧ msgCase t0 m r wr = none) ∨ (∃ p, msgCase t0 m r wr = some (writeOut wr p r)) ∨
    (∃ e, msgCase t0 m r wr = some ⟨0, e, true, r, wr⟩ ∧ e ≠ .none ∧ e ≠ .panic ∧ e ≠ .oom) := by
  by_cases h1 : m.typ = 43 ∨ m.typ = 44 ∨ m.typ = 40
  · exact .inr (.inl ⟨m.str, by rw [msgCase, if_pos h1]⟩)
  by_cases h2 : m.typ = 95
  · exact .inr (.inr ⟨.nilMsg, by rw [msgCase, if_neg h1, if_pos h2], nofun, nofun, nofun⟩)
  by_cases h3 : m.typ = 45 ∨ m.typ = 33
  · exact .inr (.inr ⟨.redis m.str, by rw [msgCase, if_neg h1, if_neg h2, if_pos h3], nofun, nofun, nofun⟩)
  by_cases h4 : m.typ = 58 ∨ m.typ = 35
  · exact .inr (.inl ⟨fmtInt m.int, by rw [msgCase, if_neg h1, if_neg h2, if_neg h3, if_pos h4]⟩)
  by_cases h5 : m.typ = 62
  · exact .inl ⟨h5, by rw [msgCase, if_neg h1, if_neg h2, if_neg h3, if_neg h4, if_pos h5]⟩
  · exact .inr (.inr ⟨.unsupported t0, by rw [msgCase, if_neg h1, if_neg h2, if_neg h3, if_neg h4, if_neg h5],
      nofun, nofun, nofun⟩)

theorem msgCase_good (t0 : UInt8) (m : Msg) (r : List UInt8) (wr : Wr) (o : Out) (h : msgCase t0 m r wr = some o) :
    Good wr 0 o := by
  rcases msgCase_cases t0 m r wr with ⟨_, e⟩ | ⟨p, e⟩ | ⟨c, e, h1, h2, h3⟩ <;> rw [e] at h <;> cases h
  · exact writeOut_good wr _ _
  · exact good_const wr _ _ _ (fun _ => h1) h2 h3

theorem defaultCase_good (B : Nat) (t : UInt8) (bs : List UInt8) (wr : Wr) (o : Out) (h : defaultCase B t bs wr = some o) :
    Good wr 0 o := by
  unfold defaultCase at h
  rcases Rv.C13.decode_never_panics B (t :: bs) with ⟨m, r, hd⟩ | ⟨e, hd⟩
  · rw [hd] at h; exact msgCase_good t m r wr o h
  · rw [hd] at h; cases h; exact good_const wr _ _ _ (by simp) (by simp) (by simp)

theorem good_acc (wr : Wr) (acc : Nat) (o : Out) (h : Good wr 0 o) :
    Good wr acc { o with n := acc + o.n, clean := o.clean && decide (o.err = .none) } := by
  obtain ⟨h1, h2, h3, ⟨d, h4, h5⟩, h6⟩ := h
  refine ⟨?_, h2, h3, ⟨d, h4, by simp only; omega⟩, h6⟩
  intro hc
  simp only [Bool.and_eq_false_imp, decide_eq_false_iff_not] at hc
  cases hcl : o.clean with
  | false => exact h1 hcl
  | true => exact hc hcl

theorem Good.trans {wr : Wr} {acc : Nat} {o1 o2 : Out} (h1 : Good wr 0 o1) (h2 : Good o1.w (acc + o1.n) o2) :
    Good wr acc o2 := by
  obtain ⟨_, _, _, ⟨d, h4, h5⟩, h6⟩ := h1
  obtain ⟨c1, c2, c3, ⟨d', c4, c5⟩, c6⟩ := h2
  refine ⟨c1, c2, c3, ⟨d ++ d', by rw [c4, h4, List.append_assoc], ?_⟩, by rw [c6, h6]⟩
  rw [c5, h5]; simp; omega

theorem all_good (B : Nat) : ∀ f,
    (∀ wr bs, Good wr 0 (streamTo B f wr bs)) ∧ (∀ acc wr bs, Good wr acc (chunkLoop B f acc wr bs)) := by
  intro f
  induction f with
  | zero =>
    constructor
    · intro wr bs; rw [streamTo]; exact good_const wr _ _ _ (by simp) (by simp) (by simp)
    · intro acc wr bs; rw [chunkLoop]
      exact ⟨by simp, by simp, by simp, ⟨[], by simp, by simp⟩, rfl⟩
  | succ f ih =>
    obtain ⟨ihS, ihC⟩ := ih
    constructor
    · intro wr bs
      cases bs with
      | nil => rw [streamTo]; exact good_const wr _ _ _ (by simp) (by simp) (by simp)
      | cons t bs =>
        rw [streamTo]
        split
        · split
          · exact good_const wr _ _ _ (by simp) (by simp) (by simp)
          · exact ihC 0 wr _
          · exact blobCase_good t _ _ wr
        · split
          · rename_i o ho; exact defaultCase_good B t bs wr o ho
          · exact ihS wr _
    · intro acc wr bs
      rw [chunkLoop]
      have hS := ihS wr bs
      split
      · exact hS.trans (ihC _ _ _)
      · exact good_acc wr acc _ hS

end Rv.StreamL
