/-
Lemmas for C15 (classifiers): the address normalisation equals its specification,
`strings.Split` on texts of the documented form, and the documented-form theorem.
-/
import Rv.Lemmas.AccPanic
import Rv.Spec.Shapes
namespace Rv.Acc
open Rv.Shapes

theorem indexByte_isSome (c : UInt8) : ∀ s : Bytes, (indexByte c s).isSome = s.contains c
  | [] => rfl
  | x :: r => by
    unfold indexByte
    by_cases h : x = c
    · simp [h]
    · have h' : ¬ c = x := fun e => h e.symm
      simp [h, h', indexByte_isSome c r]

theorem lastIndexByte_lt (c : UInt8) : ∀ (s : Bytes) (i : Nat), lastIndexByte c s = some i → i < s.length
  | [], i, h => by simp [lastIndexByte] at h
  | x :: r, i, h => by
    unfold lastIndexByte at h
    split at h
    · rename_i j hj
      have := lastIndexByte_lt c r j hj
      simp at h; simp; omega
    · split at h
      · simp at h; simp; omega
      · simp at h

theorem fixIPv6_eq_normAddr (a : Bytes) : fixIPv6HostPort a = .ok (normAddr a) := by
  cases a with
  | nil => rfl
  | cons x r =>
    have hi : idx (x :: r) 0 = .ok x := rfl
    unfold fixIPv6HostPort normAddr
    rw [← Option.not_isSome, indexByte_isSome, hi]
    cases h46 : (x :: r).contains 46
    · by_cases hx : x = 91
      · simp [hx]
      · cases hl : lastIndexByte 58 (x :: r) with
        | none => simp [hx]
        | some i =>
          have hc : cut (x :: r) i = .ok ((x :: r).take i, (x :: r).drop (i + 1)) :=
            if_pos (lastIndexByte_lt _ _ _ hl)
          simp [hx, hc, joinHostPort, indexByte_isSome]
    · simp

theorem redirectAddr_np {pre : Bytes} {k : Nat} {s : Bytes} : redirectAddr pre k s ≠ .panic := by
  unfold redirectAddr
  refine ite_np (fun _ => ite_np (fun h => ?_) fun _ => ok_np) fun _ => ok_np
  simp only [idx_lt h, fixIPv6_eq_normAddr]
  exact ok_np

theorem splitOn_nosep (sep : UInt8) : ∀ a : Bytes, sep ∉ a → splitOn sep a = [a]
  | [], _ => rfl
  | c :: r, h => by
    have hc : c ≠ sep := fun e => h (by simp [e])
    have := splitOn_nosep sep r (fun e => h (by simp [e]))
    simp [splitOn, hc, this]

theorem splitOn_append (sep : UInt8) : ∀ (a b : Bytes), sep ∉ a → splitOn sep (a ++ sep :: b) = a :: splitOn sep b
  | [], b, _ => by simp [splitOn]
  | c :: r, b, h => by
    have hc : c ≠ sep := fun e => h (by simp [e])
    have := splitOn_append sep r b (fun e => h (by simp [e]))
    simp [splitOn, hc, this]

theorem hasPrefix_append (p r : Bytes) : hasPrefix p (p ++ r) = true := by
  simp [hasPrefix]

theorem redirectAddr_field {pre s a : Bytes} {k : Nat} (hp : hasPrefix pre s = true)
    (hk : (splitOn 32 s)[k]? = some a) : redirectAddr pre k s = .ok (normAddr a, true) := by
  obtain ⟨hlt, rfl⟩ := List.getElem?_eq_some_iff.mp hk
  simp [redirectAddr, hp, hlt, idx_lt hlt, fixIPv6_eq_normAddr]

theorem redirectAddr_documented (word : Bytes) (hw : 32 ∉ word) (addr : Bytes) (ha : 32 ∉ addr) :
    redirectAddr word 1 (redirectText word none addr) = .ok (normAddr addr, true) := by
  simp only [redirectText, List.append_assoc, List.cons_append, List.nil_append]
  exact redirectAddr_field (hasPrefix_append _ _) (by rw [splitOn_append 32 word _ hw, splitOn_nosep 32 addr ha]; rfl)

theorem redirectAddr_documented_slot (word : Bytes) (hw : 32 ∉ word) (slot : Bytes) (hs : 32 ∉ slot)
    (addr : Bytes) (ha : 32 ∉ addr) :
    redirectAddr word 2 (redirectText word (some slot) addr) = .ok (normAddr addr, true) := by
  simp only [redirectText, List.append_assoc, List.cons_append, List.nil_append]
  exact redirectAddr_field (hasPrefix_append _ _)
    (by rw [splitOn_append 32 word _ hw, splitOn_append 32 slot _ hs, splitOn_nosep 32 addr ha]; rfl)

end Rv.Acc
