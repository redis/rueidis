/-
Lemmas about the per-destination batching of Rv/Model/MGetCache.lean (`cIndexes`, `cCommands`,
`scatter`, `scatterAll`): the index lists of the destinations partition the positions,
so scattering the sub-batch results back restores the order of the batch.
-/
import Rv.Lemmas.MGetWalk
namespace Rv.MGetCache
open Rv.MGetCache.Spec

variable {D C R : Type} [DecidableEq D]

/-- the (position, command) pairs of destination `d` -/
def pairsFrom (k : Nat) (dest : List D) (cmds : List C) (d : D) : List (Nat × C) :=
  ((dest.zip cmds).zipIdx k).filterMap fun p => if p.1.1 = d then some (p.2, p.1.2) else none

theorem cIndexes_eq (dest : List D) (d : D) :
    cIndexes dest d = (dest.zipIdx 0).filterMap fun p => if p.1 = d then some p.2 else none := by
  simp [cIndexes, enum, List.filterMap_map, Function.comp_def]

theorem zip_pairs (k : Nat) (dest : List D) (cmds : List C) (d : D) (h : dest.length = cmds.length) :
    ((dest.zipIdx k).filterMap fun p => if p.1 = d then some p.2 else none).zip (cCommands dest cmds d)
      = pairsFrom k dest cmds d ∧
    ((dest.zipIdx k).filterMap fun p => if p.1 = d then some p.2 else none).length = (cCommands dest cmds d).length := by
  induction dest generalizing cmds k with
  | nil => exact ⟨rfl, rfl⟩
  | cons a dest ih =>
    cases cmds with
    | nil => cases h
    | cons c cmds =>
      obtain ⟨h1, h2⟩ := ih (k + 1) cmds (Nat.succ.inj h)
      simp only [pairsFrom, cCommands] at h1 h2 ⊢
      simp only [List.zipIdx_cons, List.filterMap_cons, List.zip_cons_cons]
      by_cases had : a = d
      · simp only [had, if_true, List.zip_cons_cons, List.length_cons, h1, h2, and_self]
      · simp only [had, if_false, h1, h2, and_self]

theorem mem_pairsFrom {dest : List D} {cmds : List C} {d : D} {i : Nat} {c : C} :
    (i, c) ∈ pairsFrom 0 dest cmds d ↔ dest[i]? = some d ∧ cmds[i]? = some c := by
  simp only [pairsFrom, List.mem_filterMap, Option.ite_none_right_eq_some, Option.some.injEq, Prod.mk.injEq,
    Prod.exists, List.mem_zipIdx_iff_getElem?, List.getElem?_zip_eq_some]
  constructor
  · rintro ⟨d', c', j, ⟨h1, h2⟩, rfl, rfl, rfl⟩; exact ⟨h1, h2⟩
  · rintro ⟨h1, h2⟩; exact ⟨d, c, i, ⟨h1, h2⟩, rfl, rfl, rfl⟩

theorem setAll_append {σ} (l1 l2 : List (Nat × σ)) (vals : List σ) :
    setAll (l1 ++ l2) vals = setAll l2 (setAll l1 vals) := by
  induction l1 generalizing vals with
  | nil => rfl
  | cons p l1 ih => obtain ⟨i, x⟩ := p; simp [setAll, ih]

theorem scatter_eq (res : List R) (idx : List Nat) (rs : List R)
    (hlen : idx.length = rs.length) (hin : ∀ i ∈ idx, i < res.length) :
    scatter res idx rs = some (setAll (idx.zip rs) res) := by
  induction rs generalizing res idx with
  | nil => cases idx <;> simp [scatter, setAll]
  | cons r rs ih =>
    cases idx with
    | nil => simp at hlen
    | cons i is =>
      simp only [scatter, hin i (by simp), if_true, List.zip_cons_cons, setAll]
      exact ih _ _ (by simpa using hlen) (fun j hj => by simpa using hin j (by simp [hj]))

theorem mem_cIndexes {dest : List D} {d : D} {i : Nat} : i ∈ cIndexes dest d ↔ dest[i]? = some d := by
  simp only [cIndexes_eq, List.mem_filterMap, Option.ite_none_right_eq_some, Option.some.injEq,
    Prod.exists, List.mem_zipIdx_iff_getElem?]
  constructor
  · rintro ⟨d', j, h, rfl, rfl⟩; exact h
  · intro h; exact ⟨d, i, h, rfl, rfl⟩

theorem scatterAll_eq (dest : List D) (cmds : List C) (g : D → C → R) (order : List D)
    (res : List R) (hlen : dest.length = cmds.length) (hres : res.length = cmds.length) :
    scatterAll dest cmds (fun d xs => xs.map (g d)) order res
      = some (setAll (order.flatMap fun d => (pairsFrom 0 dest cmds d).map fun p => (p.1, g d p.2)) res) := by
  induction order generalizing res with
  | nil => simp [scatterAll, setAll]
  | cons d ds ih =>
    have hz := zip_pairs 0 dest cmds d hlen
    rw [← cIndexes_eq] at hz
    have hin : ∀ i ∈ cIndexes dest d, i < res.length := fun i hi => by
      rw [hres, ← hlen]
      exact (List.getElem?_eq_some_iff.1 (mem_cIndexes.1 hi)).1
    simp only [scatterAll]
    rw [scatter_eq _ _ _ (by simp [hz.2]) hin]
    rw [Option.bind_some, ih _ (by simp [setAll_length, hres])]
    simp only [List.flatMap_cons, setAll_append]
    congr 2
    rw [← hz.1, List.zip_map_right]
    rfl

/-- scattering the results of positional sub-runs into a result list of the batch's length puts at
    every position the answer of its destination for its command, in whatever order (and however
    often) the destinations are processed, provided every destination that occurs is processed -/
theorem scatterAll_positional (dest : List D) (cmds : List C) (order : List D) (g : D → C → R) (res : List R)
    (hlen : dest.length = cmds.length) (hres : res.length = cmds.length) (hcover : ∀ d ∈ dest, d ∈ order) :
    scatterAll dest cmds (fun d xs => xs.map (g d)) order res = some (batchedSpec dest cmds g) := by
  rw [scatterAll_eq _ _ g order _ hlen hres]
  congr 1
  apply List.ext_getElem?
  intro i
  simp only [batchedSpec, List.getElem?_zipWith]
  cases hd : dest[i]? with
  | none =>
    rw [List.getElem?_eq_none (by rw [setAll_length, hres, ← hlen]; exact List.getElem?_eq_none_iff.1 hd)]
  | some d =>
    have hi : i < cmds.length := hlen ▸ (List.getElem?_eq_some_iff.1 hd).1
    have hc : cmds[i]? = some cmds[i] := List.getElem?_eq_getElem hi
    rw [hc]
    apply setAll_mem
    · intro a b ha hb
      simp only [List.mem_flatMap, List.mem_map, Prod.exists, Prod.mk.injEq] at ha hb
      obtain ⟨d1, _, j1, c1, hm1, rfl, rfl⟩ := ha
      obtain ⟨d2, _, j2, c2, hm2, hj, rfl⟩ := hb
      subst hj
      rw [mem_pairsFrom] at hm1 hm2
      have e1 := hm1.1.symm.trans hm2.1
      have e2 := hm1.2.symm.trans hm2.2
      simp only [Option.some.injEq] at e1 e2
      rw [e1, e2]
    · simp only [List.mem_flatMap, List.mem_map, Prod.exists, Prod.mk.injEq]
      exact ⟨d, hcover d (List.mem_of_getElem? hd), i, cmds[i], mem_pairsFrom.2 ⟨hd, hc⟩, rfl, rfl⟩
    · exact hres ▸ hi

theorem zipWith_all_eq (g : D → C → R) (d0 : D) : ∀ (dest : List D) (cmds : List C),
    dest.all (· = d0) = true → dest.length = cmds.length → List.zipWith g dest cmds = cmds.map (g d0)
  | [], [], _, _ => rfl
  | [], _ :: _, _, hl => nomatch hl
  | _ :: _, [], _, hl => nomatch hl
  | d :: dest, c :: cmds, h, hl => by
    rw [List.all_cons, Bool.and_eq_true, decide_eq_true_iff] at h
    rw [List.zipWith_cons_cons, List.map_cons, h.1, zipWith_all_eq g d0 dest cmds h.2 (Nat.succ.inj hl)]

end Rv.MGetCache
