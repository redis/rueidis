/-
Flow buffer: the tokens only move, so their reply-channel ids stay a permutation of the initial
ones, and the callers blocked on a channel are exactly the owners of the commands travelling
with it.
-/
import Rv.Model.FlowBuffer
import Rv.Lemmas.RingStep
namespace Rv.Flow
open Rv.Ring (upd upd_apply upd_other)

/-- how many tokens carry channel id x (over f, the callers in between, w, r and b.c) -/
def tcount (σ : State) (x : Nat) : Nat :=
  σ.f.count x + (σ.hold.map (·.2)).count x + (σ.w.map (·.1)).count x + (σ.r.map (·.1)).count x +
    (match σ.cur with | some (ch, _) => if ch = x then 1 else 0 | none => 0)

/-- token (ch, c) is in front of the reader: in w, in r, or in b.c with the reply not yet sent -/
def inFlight (σ : State) (ch c : Nat) : Prop :=
  (ch, c) ∈ σ.w ∨ (ch, c) ∈ σ.r ∨ (σ.cur = some (ch, c) ∧ σ.delivered = false)

variable {size : Nat} {σ : State}

/-- the room guards are left out (`InvU.room`: they hold in every reachable state) -/
theorem step_cases {motive : State → Prop} (l : Label) (he : enabled l σ = true)
    (recv : ∀ ch rest, σ.f = ch :: rest →
      motive { σ with f := rest, hold := (σ.ncalls, ch) :: σ.hold, ncalls := σ.ncalls + 1 })
    (send : ∀ c ch, (c, ch) ∈ σ.hold →
      motive { σ with w := σ.w ++ [(ch, c)], pc := upd σ.pc c (.filled ch),
                      hold := σ.hold.erase (c, ch), elog := σ.elog ++ [c] })
    (wTake : ∀ t rest, σ.w = t :: rest →
      motive { σ with w := rest, r := σ.r ++ [t], wlog := σ.wlog ++ [t.2] })
    (rBegin : ∀ t rest, σ.cur = none → σ.r = t :: rest →
      motive { σ with r := rest, cur := some t, delivered := false })
    (rDeliver : ∀ c ch cmd, σ.cur = some (ch, cmd) → σ.delivered = false → σ.pc c = .filled ch →
      motive { σ with pc := upd σ.pc c (.done cmd), delivered := true, clog := σ.clog ++ [(cmd, c)] })
    (rFinish : ∀ ch cmd, σ.cur = some (ch, cmd) → σ.delivered = true →
      motive { σ with f := σ.f ++ [ch], cur := none, delivered := false }) :
    motive (apply l σ) := by
  cases l with
  | recv =>
    cases hf : σ.f with
    | nil => simp [enabled, hf] at he
    | cons ch rest => simp only [Flow.apply, hf]; exact recv ch rest hf
  | send c =>
    cases hf : σ.hold.find? (fun p => p.1 == c) with
    | none => simp [enabled, hf] at he
    | some p =>
      obtain ⟨c', ch⟩ := p
      have e : c' = c := by simpa using List.find?_some hf
      subst e
      simp only [Flow.apply, hf]; exact send c' ch (List.mem_of_find?_eq_some hf)
  | wTake =>
    cases hw : σ.w with
    | nil => simp [enabled, hw] at he
    | cons t rest => simp only [Flow.apply, hw]; exact wTake t rest hw
  | rBegin =>
    cases hr : σ.r with
    | nil => simp [enabled, hr] at he
    | cons t rest =>
      simp only [enabled, Bool.and_eq_true, Option.isNone_iff_eq_none] at he
      simp only [Flow.apply, hr]; exact rBegin t rest he.1 hr
  | rDeliver c =>
    cases hc : σ.cur with
    | none => simp [enabled, hc] at he
    | some t =>
      obtain ⟨ch, cmd⟩ := t
      simp only [enabled, hc, Bool.and_eq_true, Bool.not_eq_true', beq_iff_eq] at he
      simpa only [Flow.apply, hc] using rDeliver c ch cmd hc he.1 he.2
  | rFinish =>
    cases hc : σ.cur with
    | none => simp [enabled, hc] at he
    | some t =>
      obtain ⟨ch, cmd⟩ := t
      simp only [enabled, Bool.and_eq_true] at he
      simp only [Flow.apply, hc]; exact rFinish ch cmd hc he.1.2

def tokens (σ : State) : List Nat :=
  σ.cur.toList.map (·.1) ++ (σ.r ++ σ.w).map (·.1) ++ σ.hold.map (·.2) ++ σ.f

theorem tokens_length (σ : State) : (tokens σ).length =
    σ.f.length + σ.hold.length + σ.w.length + σ.r.length + (if σ.cur.isSome then 1 else 0) := by
  simp only [tokens, List.length_append, List.length_map, Option.length_toList]
  omega

theorem tcount_eq (σ : State) (x : Nat) : tcount σ x = (tokens σ).count x := by
  have hc : (match σ.cur with | some (ch, _) => if ch = x then 1 else 0 | none => 0) =
      (σ.cur.toList.map (·.1)).count x := by
    rcases σ.cur with _ | ⟨ch, _⟩
    · rfl
    · simp only [Option.toList_some, List.map_cons, List.map_nil, List.count_singleton, beq_iff_eq]
  simp only [tcount, tokens, hc, List.map_append, List.count_append]
  omega

theorem tokens_step (l : Label) (he : enabled l σ = true) :
    (apply l σ).size = σ.size ∧ (tokens (apply l σ)).Perm (tokens σ) := by
  apply step_cases (motive := fun τ => τ.size = σ.size ∧ (tokens τ).Perm (tokens σ)) l he
  case recv =>
    intro ch rest hf
    refine ⟨rfl, ?_⟩
    simp only [tokens, hf, List.map_cons, List.append_assoc, List.cons_append, List.perm_append_left_iff]
    exact List.perm_middle.symm
  case send =>
    intro c ch hm
    refine ⟨rfl, ?_⟩
    simp only [tokens, List.map_append, List.append_assoc, List.perm_append_left_iff]
    exact ((List.perm_cons_erase hm).map (·.2)).symm.append_right σ.f
  case wTake =>
    intro t rest hw
    exact ⟨rfl, .of_eq (by simp only [tokens, hw, List.append_assoc, List.cons_append, List.nil_append])⟩
  case rBegin =>
    intro t rest hc hr
    exact ⟨rfl, .of_eq (by simp only [tokens, hc, hr]; rfl)⟩
  case rDeliver => intro c ch cmd _ _ _; exact ⟨rfl, .refl _⟩
  case rFinish =>
    intro ch cmd hc _
    refine ⟨rfl, ?_⟩
    simp only [tokens, hc, ← List.append_assoc]
    exact List.perm_append_singleton ch _

/-- the tokens in front of the reader, oldest first: `send` appends one, `rDeliver` removes the
    head, and no other step changes the list -/
def flight (σ : State) : List (Nat × Nat) :=
  (if σ.delivered then [] else σ.cur.toList) ++ σ.r ++ σ.w

theorem flight_cur {t : Nat × Nat} (hc : σ.cur = some t) (hd : σ.delivered = false) :
    flight σ = t :: (σ.r ++ σ.w) := by
  simp only [flight, hc, hd]; rfl

theorem flight_idle (h : σ.cur = none ∨ σ.delivered = true) : flight σ = σ.r ++ σ.w := by
  rcases h with h | h <;> simp only [flight, h, Option.toList_none, ite_self, if_true, List.nil_append]

theorem inFlight_iff {ch c : Nat} : inFlight σ ch c ↔ (ch, c) ∈ flight σ := by
  have hc : (ch, c) ∈ (if σ.delivered then [] else σ.cur.toList) ↔ σ.cur = some (ch, c) ∧ σ.delivered = false := by
    cases σ.delivered <;> simp
  rw [inFlight, flight, List.mem_append, List.mem_append, hc, or_comm, or_comm (b := _ ∈ σ.r)]

structure InvU (size : Nat) (σ : State) : Prop where
  sz : σ.size = size
  perm : (tokens σ).Perm (List.range size)
  pcf : ∀ c ch, σ.pc c = .filled ch ↔ (ch, c) ∈ flight σ
  hid : ∀ c ch, (c, ch) ∈ σ.hold → σ.pc c = .idle ∧ c < σ.ncalls
  hnd : (σ.hold.map (·.1)).Nodup
  fresh : ∀ c, σ.ncalls ≤ c → σ.pc c = .idle

theorem InvU.init (size : Nat) : InvU size (init size) :=
  ⟨rfl, .refl _, fun c ch => by simp [flight, Flow.init], fun c ch h => (nomatch h), List.nodup_nil, fun c _ => rfl⟩

theorem InvU.conservation (h : InvU size σ) :
    σ.f.length + σ.hold.length + σ.w.length + σ.r.length + (if σ.cur.isSome then 1 else 0) = size := by
  rw [← tokens_length, h.perm.length_eq, List.length_range]

theorem InvU.room (h : InvU size σ) :
    (∀ c ch, (c, ch) ∈ σ.hold → σ.w.length < σ.size) ∧ (σ.w ≠ [] → σ.r.length < σ.size) ∧
    (σ.cur.isSome → σ.f.length < σ.size) := by
  have := h.conservation
  rw [h.sz]
  refine ⟨fun c ch hm => ?_, fun hw => ?_, fun hc => ?_⟩
  · have := List.length_pos_of_mem hm; omega
  · have := List.length_pos_iff.2 hw; omega
  · rw [hc, if_pos rfl] at this; omega

theorem InvU.tc (h : InvU size σ) (x : Nat) : tcount σ x ≤ 1 := by
  rw [tcount_eq, h.perm.count_eq]
  exact List.nodup_iff_count.1 List.nodup_range x

theorem InvU.cur_fresh (h : InvU size σ) {ch cmd : Nat}
    (hc : σ.cur = some (ch, cmd)) : ch ∉ (σ.r ++ σ.w).map (·.1) := by
  have hn := h.perm.nodup_iff.2 List.nodup_range
  rw [tokens, hc] at hn
  exact fun hm => (List.nodup_cons.1 hn).1 (List.mem_append_left _ (List.mem_append_left _ hm))

theorem InvU.deliver_eq (h : InvU size σ) {ch cmd c : Nat}
    (hc : σ.cur = some (ch, cmd)) (hpc : σ.pc c = .filled ch) : c = cmd := by
  have hm := (h.pcf c ch).1 hpc
  have hn : (ch, c) ∉ σ.r ++ σ.w := fun hm => h.cur_fresh hc (List.mem_map_of_mem (f := (·.1)) hm)
  cases hd : σ.delivered
  · rw [flight_cur hc hd, List.mem_cons] at hm
    rcases hm with e | hm
    · injection e with _ e
    · exact absurd hm hn
  · rw [flight_idle (.inr hd)] at hm; exact absurd hm hn

theorem InvU.step (h : InvU size σ) (l : Label) (he : enabled l σ = true) :
    InvU size (apply l σ) := by
  have hs := (tokens_step l he).1.trans h.sz
  have hp := (tokens_step l he).2.trans h.perm
  revert hs hp
  apply step_cases (motive := fun τ => τ.size = size → (tokens τ).Perm (List.range size) → InvU size τ) l he
  case recv =>
    intro ch rest hf hs hp
    refine ⟨hs, hp, h.pcf, ?_, ?_, fun c hc => h.fresh c (Nat.le_of_succ_le hc)⟩
    · intro c ch' hm
      rcases List.mem_cons.1 hm with e | hm
      · cases e; exact ⟨h.fresh _ (Nat.le_refl _), Nat.lt_succ_self _⟩
      · exact ⟨(h.hid c ch' hm).1, Nat.lt_succ_of_lt (h.hid c ch' hm).2⟩
    · refine List.nodup_cons.2 ⟨fun hm => ?_, h.hnd⟩
      obtain ⟨p, hp, e⟩ := List.mem_map.1 hm
      exact Nat.lt_irrefl _ (e ▸ (h.hid p.1 p.2 hp).2)
  case send =>
    intro c ch hmem hs hp
    obtain ⟨hidle, hlt⟩ := h.hid c ch hmem
    refine ⟨hs, hp, ?_, ?_, (List.erase_sublist.map _).nodup h.hnd, ?_⟩
    · -- c was idle, so it owns no token of `flight σ`
      intro c2 ch2
      have hp := h.pcf c2 ch2
      simp only [flight, ← List.append_assoc] at hp ⊢
      rw [List.mem_append, ← hp]
      by_cases e : c2 = c
      · subst e; simp [hidle, eq_comm]
      · simp [upd_other _ _ _ _ e, e]
    · intro c2 ch2 hm
      have hne : c2 ≠ c := by
        intro e; subst e
        have hn := ((List.perm_cons_erase hmem).map (·.1)).nodup_iff.1 h.hnd
        exact (List.nodup_cons.1 hn).1 (List.mem_map_of_mem (f := (·.1)) hm)
      have hi := h.hid c2 ch2 (List.mem_of_mem_erase hm)
      exact ⟨(upd_other σ.pc c c2 _ hne).trans hi.1, hi.2⟩
    · intro c2 hc
      exact (upd_other σ.pc c c2 _ (Nat.ne_of_gt (Nat.lt_of_lt_of_le hlt hc))).trans (h.fresh c2 hc)
  case wTake =>
    intro t rest hw hs hp
    refine ⟨hs, hp, fun c ch => ?_, h.hid, h.hnd, h.fresh⟩
    simpa only [flight, hw, List.append_assoc, List.cons_append, List.nil_append] using h.pcf c ch
  case rBegin =>
    intro t rest hc hr hs hp
    refine ⟨hs, hp, fun c ch => ?_, h.hid, h.hnd, h.fresh⟩
    rw [h.pcf, flight_idle (.inl hc), hr, flight_cur (t := t) rfl rfl]; rfl
  case rDeliver =>
    intro c ch cmd hcur hd hpc hs hp
    have hcc : c = cmd := h.deliver_eq hcur hpc
    subst hcc
    have ho : σ.pc c ≠ .idle := by rw [hpc]; nofun
    refine ⟨hs, hp, ?_, ?_, h.hnd, ?_⟩
    · intro c2 ch2
      have hp := h.pcf c2 ch2
      rw [flight_cur hcur hd, List.mem_cons] at hp
      rw [flight_idle (.inr rfl)]
      by_cases e : c2 = c
      · subst e
        refine ⟨fun hh => (by simp at hh), fun hm => ?_⟩
        have e := hpc.symm.trans (hp.2 (.inr hm)); injection e with e; subst e
        exact absurd (List.mem_map_of_mem (f := (·.1)) hm) (h.cur_fresh hcur)
      · simpa [upd_other _ _ _ _ e, e] using hp
    · exact fun c2 ch2 hm => ⟨Ring.upd_eq_keep ho (h.hid c2 ch2 hm).1, (h.hid c2 ch2 hm).2⟩
    · exact fun c2 hc2 => Ring.upd_eq_keep ho (h.fresh c2 hc2)
  case rFinish =>
    intro ch cmd hcur hd hs hp
    refine ⟨hs, hp, fun c ch' => ?_, h.hid, h.hnd, h.fresh⟩
    rw [h.pcf, flight_idle (.inr hd), flight_idle (.inl rfl)]

theorem InvU.of_reachable (h : Reachable size σ) : InvU size σ := by
  induction h with
  | init => exact InvU.init size
  | step l _ he ih => exact ih.step l he

end Rv.Flow
