/-
The ring counters modulo 2^32: the model keeps `write`, `read1`, `read2` as unbounded naturals
(queue positions); the Go fields hold their residues modulo 2^32. This file states that
refinement explicitly (`wrap32`) and proves that the wrap is invisible to the model: it uses
the counters only through `slotOf`, i.e. through residues, never through an order comparison.
-/
import Rv.Lemmas.RingLive
namespace Rv.Ring

/-- the state as the Go fields hold it: every counter reduced modulo 2^32 -/
def wrap32 (σ : State) : State :=
  { σ with write := σ.write % 2 ^ 32, read1 := σ.read1 % 2 ^ 32, read2 := σ.read2 % 2 ^ 32 }

theorem succ_wrap (x : Nat) : (x % 2 ^ 32 + 1) % 2 ^ 32 = (x + 1) % 2 ^ 32 :=
  Nat.mod_add_mod x (2 ^ 32) 1

theorem slotOf_succ_wrap (k x : Nat) : slotOf k (x % 2 ^ 32 + 1) = slotOf k (x + 1) := by
  unfold slotOf; rw [succ_wrap]

theorem enabled_wrap32 (k : Nat) (l : Label) (σ : State) : enabled k l (wrap32 σ) = enabled k l σ := by
  cases l with
  | wTry | wWait => simp only [enabled, wrap32, locked, slotOf_succ_wrap]
  | _ => rfl

theorem wrap32_idem (σ : State) : wrap32 (wrap32 σ) = wrap32 σ := by
  simp only [wrap32, Nat.mod_mod]

/-- an update that leaves the counters alone commutes with `wrap32` by `rfl`, which is `h` -/
theorem wrap32_eq_of_eq {σ τ : State} (h : τ = wrap32 σ) : wrap32 τ = wrap32 σ := by
  rw [h, wrap32_idem]

theorem wrap32_take (σ : State) (s : Nat) (b : Bool) :
    wrap32 (take (wrap32 σ) s b) = wrap32 (take σ s b) := by
  simp only [take, wrap32, succ_wrap, Nat.mod_mod]

theorem wrap32_ite {c : Prop} [Decidable c] {a a' b b' : State}
    (ha : wrap32 a' = wrap32 a) (hb : wrap32 b' = wrap32 b) :
    wrap32 (if c then a' else b') = wrap32 (if c then a else b) := by
  split
  · exact ha
  · exact hb

/- `apply` reads the counters only through `slotOf k (counter + 1)` and the other guards read
   fields that `wrap32` keeps, so both sides take the same branch; in it the counters are kept
   (`wrap32_idem`) or incremented (`succ_wrap`). -/
theorem apply_wrap32 (k : Nat) (l : Label) (σ : State) :
    wrap32 (apply k l (wrap32 σ)) = wrap32 (apply k l σ) := by
  cases l with
  | arrive => simp only [Ring.apply, wrap32, slotOf_succ_wrap, succ_wrap, Nat.mod_mod]
  | enter c =>
    rw [Ring.apply, Ring.apply, show (wrap32 σ).pc = σ.pc from rfl]
    split
    · exact wrap32_ite (wrap32_eq_of_eq rfl) (wrap32_eq_of_eq rfl)
    · exact wrap32_idem σ
  | wTry =>
    rw [Ring.apply, Ring.apply, show (wrap32 σ).read1 = σ.read1 % 2 ^ 32 from rfl, slotOf_succ_wrap]
    exact wrap32_ite (wrap32_take ..) (wrap32_idem σ)
  | wWait =>
    rw [Ring.apply, Ring.apply, show (wrap32 σ).read1 = σ.read1 % 2 ^ 32 from rfl, slotOf_succ_wrap]
    exact wrap32_ite (wrap32_take ..) (wrap32_eq_of_eq rfl)
  | wWake =>
    rw [Ring.apply, Ring.apply, show (wrap32 σ).wpc = σ.wpc from rfl]
    split
    · exact wrap32_ite (wrap32_take ..) (wrap32_eq_of_eq rfl)
    · exact wrap32_idem σ
  | rBegin =>
    rw [Ring.apply, Ring.apply, show (wrap32 σ).read2 = σ.read2 % 2 ^ 32 from rfl, slotOf_succ_wrap]
    refine wrap32_ite ?_ (wrap32_eq_of_eq rfl)
    simp only [wrap32, succ_wrap, Nat.mod_mod]
  | bcast c =>
    rw [Ring.apply, Ring.apply, show (wrap32 σ).pc = σ.pc from rfl]
    split
    · exact wrap32_eq_of_eq rfl
    · exact wrap32_idem σ
  | rDeliver c | rUnlock =>
    rw [Ring.apply, Ring.apply, show (wrap32 σ).rpc = σ.rpc from rfl]
    split
    · exact wrap32_eq_of_eq rfl
    · exact wrap32_idem σ
  | rSignal w =>
    rw [Ring.apply, Ring.apply, show (wrap32 σ).rpc = σ.rpc from rfl]
    split
    · split <;> exact wrap32_eq_of_eq rfl
    · exact wrap32_idem σ

/-- one step of the ring as the Go code performs it: on wrapped counters, wrapping the result -/
def apply32 (k : Nat) (l : Label) (σ : State) : State := wrap32 (apply k l σ)

def run32 (k : Nat) : State → List Label → Option State
  | σ, [] => some σ
  | σ, l :: ls => if enabled k l σ then run32 k (apply32 k l σ) ls else none

/-- the uint32 run is the image of the unbounded run: same enabled transitions at every step, and
    the state reached is the unbounded state with its counters reduced modulo 2^32 -/
theorem run_wrap32 (k : Nat) : ∀ (ls : List Label) (σ : State),
    run32 k (wrap32 σ) ls = (run k σ ls).map wrap32 := by
  intro ls
  induction ls with
  | nil => intro σ; rfl
  | cons l ls ih =>
    intro σ
    simp only [run32, run, enabled_wrap32]
    split
    · rw [apply32, apply_wrap32, ih]
    · rfl

/-- `read1 = write` (as positions, hence as residues) really means "nothing for the writer" -/
theorem nothing_queued_of_eq {k : Nat} (hk : k ≤ 32) {σ : State} (h : Reachable k σ)
    (he : σ.read1 = σ.write) : (σ.slot (slotOf k (σ.read1 + 1))).mark ≠ 1 := by
  have f := Full.of_reachable hk h
  rw [slotOf_eq k _ hk]
  intro hm
  obtain ⟨hsN, hgen⟩ := f.i.a.gen_write rfl hm
  have := filled_le_write f.t hsN (by omega)
  omega

/-- `read2 = write` really means "no reply outstanding" -/
theorem nothing_in_flight_of_eq {k : Nat} (hk : k ≤ 32) {σ : State} (h : Reachable k σ)
    (he : σ.read2 = σ.write) : (σ.slot (slotOf k (σ.read2 + 1))).mark ≠ 2 := by
  have f := Full.of_reachable hk h
  rw [slotOf_eq k _ hk]
  intro hm
  obtain ⟨hsN, hgen⟩ := f.i.a.gen_read rfl
  have := filled_le_write f.t hsN (by omega)
  omega

end Rv.Ring
