/-
Invariant of the LRU model (`Inv`): the recency list has at most one entry per
(key, cmd), the accounted size is the sum over completed entries (while open),
and a closed store has no list. Preserved by every operation.
-/
import Rv.Lemmas.LruCases
namespace Rv.Lru

structure Inv (s : State) : Prop where
  nodup : KeysNodup s.list
  size : s.closed = false → s.size = sumC s.list
  closedNil : s.closed = true → s.list = []

theorem inv_init (mx base : Int) : Inv (Lru.init mx base) :=
  ⟨by simp [Lru.init, KeysNodup], by simp [Lru.init, sumC], by simp [Lru.init]⟩

section
variable {s : State}

/-- Inv only looks at list, size, closed -/
theorem inv_congr {s' : State} (h : Inv s) (hl : s'.list = s.list) (hs : s'.size = s.size)
    (hc : s'.closed = s.closed) : Inv s' :=
  ⟨hl ▸ h.nodup, by rw [hl, hs, hc]; exact h.size, by rw [hl, hc]; exact h.closedNil⟩

theorem Inv.open_of_mem (h : Inv s) {e : Entry} (he : e ∈ s.list) : s.closed = false := by
  cases hc : s.closed
  · rfl
  · rw [h.closedNil hc] at he; cases he

theorem inv_moveToBack (h : Inv s) {e : Entry} (he : e ∈ s.list) :
    Inv { s with list := moveToBack s.list e } :=
  ⟨h.nodup.moveToBack he, fun hc => by simpa [sumC_moveToBack he] using h.size hc,
   fun hc => by have := h.closedNil hc; rw [this] at he; cases he⟩

theorem not_pend_of_not_valid {e : Entry} {t : Int} (hv : valid e t = false) : e.pend = false := by
  cases hp : e.pend
  · rfl
  · simp [valid, hp] at hv

theorem inv_outcome {s' : State} {k c : Bytes} {ttl now : Int} {r : FRes} (h : Inv s)
    (o : Outcome4 s k c ttl now s' r) : Inv s' := by
  cases o with
  | closed hc hs hr => exact hs ▸ h
  | found e hc hf hv hr hl hsz hn fr =>
    rcases hl with hl | hl
    · exact inv_congr h hl hsz fr.1
    · exact inv_congr (inv_moveToBack h (find?_some hf).1) hl hsz fr.1
  | expired e hc hf hv hr hl hsz hn fr =>
    have hf' := find?_some hf
    refine ⟨hl ▸ (h.nodup.erase e).append_one fun x hx hs => ?_, fun _ => ?_, fun hcc => ?_⟩
    · exact h.nodup.erase_find hf hx hs
    · simp [hl, hsz, sumC_append, sumC_erase hf'.1, sumC, contrib, newEntry, not_pend_of_not_valid hv, h.size hc]
    · rw [fr.1, hc] at hcc; cases hcc
  | absent hc hf hr hl hsz hn fr =>
    refine ⟨hl ▸ h.nodup.append_one (fun x hx hs => find?_none hf x hx hs), fun _ => ?_, fun hcc => ?_⟩
    · simp [hl, hsz, sumC_append, sumC, contrib, newEntry, h.size hc]
    · rw [fr.1, hc] at hcc; cases hcc

theorem inv_locked (h : Inv s) (k c : Bytes) (ttl now : Int) : Inv (Lru.locked s k c ttl now).1 :=
  inv_outcome h (locked_cases s k c ttl now)

theorem inv_flight (h : Inv s) (k c : Bytes) (ttl now : Int) : Inv (Lru.flight s k c ttl now).1 :=
  inv_outcome h (flight_cases s k c ttl now)

theorem flights1_list (nowMs : Int) (multi : List (Bytes × Bytes × Int)) (i : Nat) (a : P1) :
    (flights1 nowMs multi i a).s.list = a.s.list ∧ (flights1 nowMs multi i a).s.size = a.s.size ∧
    (flights1 nowMs multi i a).s.nextId = a.s.nextId ∧ Frame a.s (flights1 nowMs multi i a).s ∧
    (∀ e ∈ (flights1 nowMs multi i a).moves, e ∈ a.moves ∨ e ∈ a.s.list) := by
  induction multi generalizing i a with
  | nil => exact ⟨rfl, rfl, rfl, ⟨rfl, rfl, rfl, rfl⟩, fun e he => Or.inl he⟩
  | cons x rest ih =>
    obtain ⟨k, c, t⟩ := x
    simp only [flights1]
    split
    · rename_i e hf
      have hmem : e ∈ a.s.list := by
        split at hf
        · cases hf
        · exact (find?_some hf).1
      split
      · have := ih (i + 1) ⟨(bumpHits a.s k).1, a.res ++ [some (resOf e)],
            (if (bumpHits a.s k).2 % 1024 = 0 then a.moves ++ [e] else a.moves), a.missed⟩
        refine ⟨this.1, this.2.1, this.2.2.1, this.2.2.2.1, fun x hx => ?_⟩
        rcases this.2.2.2.2 x hx with h | h
        · simp only at h
          split at h
          · rcases List.mem_append.1 h with h | h
            · exact Or.inl h
            · exact Or.inr (List.mem_singleton.1 h ▸ hmem)
          · exact Or.inl h
        · exact Or.inr h
      · exact ih (i + 1) _
    · exact ih (i + 1) _

theorem mem_foldl_moveToBack (mv : List Entry) (l : List Entry) (hm : ∀ e ∈ mv, e ∈ l) (x : Entry) :
    x ∈ mv.foldl moveToBack l ↔ x ∈ l := by
  induction mv generalizing l with
  | nil => rfl
  | cons e rest ih =>
    have hstep := mem_moveToBack (hm e List.mem_cons_self)
    rw [List.foldl_cons, ih _ (fun y hy => (hstep y).2 (hm y (List.mem_cons_of_mem _ hy)))]
    exact hstep x

theorem inv_moves (h : Inv s) (mv : List Entry) (hm : ∀ e ∈ mv, e ∈ s.list) :
    Inv { s with list := mv.foldl moveToBack s.list } := by
  induction mv generalizing s with
  | nil => exact h
  | cons e rest ih =>
    have he := hm e List.mem_cons_self
    exact ih (inv_moveToBack h he) fun x hx => (mem_moveToBack he x).2 (hm x (List.mem_cons_of_mem _ hx))

end

/-- the state `Flights` has reached when its second, write-locked loop starts (or when it returns without one) -/
def flightsMid (s : State) (now : Int) (multi : List (Bytes × Bytes × Int)) : State :=
  let a := flights1 (unixMilli now) multi 0 { s := s, res := [], moves := [], missed := [] }
  { a.s with list := a.moves.foldl moveToBack a.s.list }

section
variable {s : State}

theorem flightsMid_spec (s : State) (now : Int) (multi : List (Bytes × Bytes × Int)) :
    (∀ x, x ∈ (flightsMid s now multi).list ↔ x ∈ s.list) ∧ (flightsMid s now multi).size = s.size ∧
    (flightsMid s now multi).nextId = s.nextId ∧ Frame s (flightsMid s now multi) ∧
    (Inv s → Inv (flightsMid s now multi)) := by
  unfold flightsMid
  have h1 := flights1_list (unixMilli now) multi 0 { s := s, res := [], moves := [], missed := [] }
  generalize flights1 (unixMilli now) multi 0 { s := s, res := [], moves := [], missed := [] } = a at h1
  have hmv : ∀ e ∈ a.moves, e ∈ a.s.list := fun e he =>
    (h1.2.2.2.2 e he).elim (fun h => nomatch h) (fun h => h1.1 ▸ h)
  exact ⟨fun x => by rw [← h1.1]; exact mem_foldl_moveToBack _ _ hmv x, h1.2.1, h1.2.2.1, h1.2.2.2.1,
    fun hi => inv_moves (inv_congr hi h1.1 h1.2.1 h1.2.2.2.1.1) a.moves hmv⟩

theorem flights_fst (s : State) (now : Int) (multi : List (Bytes × Bytes × Int)) :
    (flights s now multi).1 = flightsMid s now multi ∨
    ∃ ms res, (flights s now multi).1 = (flights2 multi now ms (flightsMid s now multi) res []).1 := by
  unfold flights
  simp only
  split
  · exact Or.inl rfl
  · split
    · exact Or.inl rfl
    · exact Or.inr ⟨_, _, rfl⟩

theorem flights2_ind {Φ : State → Prop} {now : Int} (hl : ∀ s k c ttl, Φ s → Φ (locked s k c ttl now).1)
    (multi : List (Bytes × Bytes × Int)) (ms : List Nat) (h : Φ s) (res : List (Option FRes))
    (out : List Nat) : Φ (flights2 multi now ms s res out).1 := by
  induction ms generalizing s res out with
  | nil => exact h
  | cons i rest ih =>
    simp only [flights2]
    split
    · exact ih h _ _
    · exact ih (hl _ _ _ _ h) _ _

/-- a filled slot of the second loop's results was filled before the loop, or holds the answer of the lookup (in a
    state `s'` the loop has reached) of the command at that position; the loop then goes on from that lookup -/
theorem flights2_slot {Φ : State → Prop} {now : Int} (hl : ∀ s k c ttl, Φ s → Φ (locked s k c ttl now).1)
    (multi : List (Bytes × Bytes × Int)) (ms : List Nat) (h : Φ s) (res : List (Option FRes)) (out : List Nat)
    {j : Nat} {r : FRes} (hj : (flights2 multi now ms s res out).2.1[j]? = some (some r)) :
    res[j]? = some (some r) ∨ ∃ s' k c ttl ms' res' out', Φ s' ∧ multi[j]? = some (k, c, ttl) ∧
      r = (locked s' k c ttl now).2 ∧
      flights2 multi now ms s res out = flights2 multi now ms' (locked s' k c ttl now).1 res' out' := by
  induction ms generalizing s res out with
  | nil => exact Or.inl hj
  | cons i rest ih =>
    cases hm : multi[i]? with
    | none =>
      simp only [flights2, hm] at hj ⊢
      exact ih h _ _ hj
    | some x =>
      obtain ⟨k, c, ttl⟩ := x
      simp only [flights2, hm] at hj ⊢
      rcases ih (hl _ k c ttl h) _ _ hj with hh | hh
      · rw [List.getElem?_set] at hh
        split at hh
        · rename_i hij
          subst hij
          split at hh
          · exact Or.inr ⟨s, k, c, ttl, rest, _, _, h, hm, (Option.some.inj (Option.some.inj hh)).symm, rfl⟩
          · cases hh
        · exact Or.inl hh
      · exact Or.inr hh

theorem flights_ind {Φ : State → Prop} {now : Int} {multi : List (Bytes × Bytes × Int)}
    (hm : Φ (flightsMid s now multi)) (hl : ∀ s k c ttl, Φ s → Φ (locked s k c ttl now).1) :
    Φ (flights s now multi).1 := by
  rcases flights_fst s now multi with h | ⟨ms, res, h⟩
  · rw [h]; exact hm
  · rw [h]; exact flights2_ind hl multi ms hm res []

theorem inv_flights (h : Inv s) (now : Int) (multi : List (Bytes × Bytes × Int)) :
    Inv (Lru.flights s now multi).1 :=
  flights_ind ((flightsMid_spec s now multi).2.2.2.2 h) fun _ _ _ _ hi => inv_locked hi _ _ _ _

theorem inv_gc (h : Inv s) : Inv (gcHits s) := inv_congr h rfl rfl rfl

theorem inv_update (h : Inv s) (k c : Bytes) (v : Nat) (vsz raw : Int) :
    Inv (Lru.update s k c v vsz raw).1 := by
  -- the eviction loop keeps the difference between accounted size and sum
  have key : ∀ {s' : State} {sz : Int} {l : List Entry}, KeysNodup l → sz = sumC l → s'.closed = false →
      s'.list = (evictLoop s.max sz l).2.1 → s'.size = (evictLoop s.max sz l).1 → Inv s' := by
    intro s' sz l hn hsz hcl hl hs
    refine ⟨hl ▸ hn.sublist (evict_sublist _ _ _), fun _ => ?_, fun hcc => by rw [hcl] at hcc; cases hcc⟩
    have := evict_size s.max sz l
    rw [hl, hs]; omega
  cases update_cases s k c v vsz raw with
  | closed hc hs hp => rw [hs]; exact h
  | absent hc hf hs hp => rw [hs]; exact h
  | fill e hc hf hpend hp hl hsz hd hcl hmx hn =>
    refine key (h.nodup.replace (e := e) (e' := updEntry s e k c v vsz raw) ⟨rfl, rfl⟩) ?_ hcl hl hsz
    rw [sumC_replace (find?_some hf).1, contrib, contrib, if_pos hpend, h.size hc]
    simp [updEntry]
  | stale e hc hf hpend hp hl hsz hd hcl hmx hn => exact key h.nodup (h.size hc) hcl hl hsz

theorem update_mem (hi : Inv s) (k c : Bytes) (v : Nat) (vsz raw : Int) {x : Entry}
    (hx : x ∈ (update s k c v vsz raw).1.list) :
    (x ∈ s.list ∧ (x.pend = true → ¬ (x.key = k ∧ x.cmd = c))) ∨
    ∃ e, find? s.list k c = some e ∧ x = updEntry s e k c v vsz raw := by
  cases update_cases s k c v vsz raw with
  | closed hc hs hp => rw [hs, hi.closedNil hc] at hx; cases hx
  | absent hc hf hs hp => rw [hs] at hx; exact Or.inl ⟨hx, fun _ => find?_none hf x hx⟩
  | fill e hc hf hpend hp hl hsz hd hcl hmx hn =>
    exact (mem_of_fill hi.nodup hf (hl ▸ hx)).symm.imp (fun h => ⟨h.1, fun _ => h.2⟩) fun h => ⟨e, hf, h⟩
  | stale e hc hf hpend hp hl hsz hd hcl hmx hn =>
    have hx := (evict_sublist _ _ _).subset (hl ▸ hx)
    exact Or.inl ⟨hx, fun hp hkc => by rw [hi.nodup.eq_find hf hx hkc, hpend] at hp; cases hp⟩

theorem inv_cancel (h : Inv s) (k c : Bytes) (err : Nat) : Inv (Lru.cancel s k c err) := by
  rcases cancel_cases s k c err with ⟨hs, -⟩ | ⟨e, hc, hf, hp, hs⟩
  · rw [hs]; exact h
  · rw [hs]
    refine inv_gc ⟨h.nodup.erase e, fun _ => ?_, fun hcc => by rw [show s.closed = false from hc] at hcc; cases hcc⟩
    simp [sumC_erase (find?_some hf).1, contrib, hp, h.size hc]

theorem sumC_filter_purge (l : List Entry) (k : Bytes) :
    sumC (l.filter (fun e => !(e.key == k && !e.pend))) =
      sumC l - sumSizes (l.filter fun e => e.key == k && !e.pend) := by
  induction l with
  | nil => rfl
  | cons a l ih =>
    simp only [List.filter_cons]
    cases hk : (a.key == k && !a.pend)
    · simp only [Bool.not_false, if_true, Bool.false_eq_true, if_false, sumC, ih]; omega
    · have hp : a.pend = false := by simpa using (Bool.and_eq_true_iff.1 hk).2
      simp only [Bool.not_true, Bool.false_eq_true, if_false, if_true, sumC, contrib, hp, ih]
      simp only [sumSizes, List.map_cons, List.sum_cons]; omega

theorem inv_purge (h : Inv s) (k : Bytes) : Inv (Lru.purge s k) := by
  unfold Lru.purge
  apply inv_gc
  refine ⟨h.nodup.filter _, ?_, ?_⟩
  · intro hc
    have hc : s.closed = false := hc
    simp only [sumC_filter_purge, h.size hc]
  · intro hc
    have hc : s.closed = true := hc
    simp [h.closedNil hc]

theorem delete_ind {Φ : State → Prop} (hp : ∀ s k, Φ s → Φ (purge s k)) (h : Φ s)
    (keys : Option (List Bytes)) : Φ (delete s keys) := by
  have key : ∀ (ks : List Bytes) {s : State}, Φ s → Φ (ks.foldl purge s) := by
    intro ks
    induction ks with
    | nil => exact fun h => h
    | cons k rest ih => exact fun h => ih (hp _ k h)
  cases keys with
  | none => exact key _ h
  | some ks => exact key _ h

theorem inv_delete (h : Inv s) (keys : Option (List Bytes)) : Inv (Lru.delete s keys) :=
  delete_ind (Φ := Inv) (fun _ k hi => inv_purge hi k) h keys

theorem inv_close (s : State) (err : Nat) : Inv (Lru.close s err) :=
  ⟨by simp [Lru.close, KeysNodup], by simp [Lru.close], by simp [Lru.close]⟩

theorem inv_step (h : Inv s) (op : Op) : Inv (step s op).1 := by
  cases op with
  | flight k c ttl now => exact inv_flight h k c ttl now
  | flights now multi => exact inv_flights h now multi
  | update k c v vsz raw => exact inv_update h k c v vsz raw
  | cancel k c err => exact inv_cancel h k c err
  | delete keys => exact inv_delete h keys
  | close err => exact inv_close s err
  | sethits k n => exact inv_congr h rfl rfl rfl

theorem inv_run (h : Inv s) (ops : List Op) : Inv (run s ops) := by
  induction ops generalizing s with
  | nil => exact h
  | cons op rest ih => exact ih (inv_step h op)

end

/-! ### what no operation but `Close` changes: `max`, `base`, `closed` -/

def SameConf (s s' : State) : Prop := s'.max = s.max ∧ s'.base = s.base ∧ s'.closed = s.closed

theorem SameConf.trans {s s' s'' : State} (h : SameConf s s') (h' : SameConf s' s'') : SameConf s s'' :=
  ⟨h'.1.trans h.1, h'.2.1.trans h.2.1, h'.2.2.trans h.2.2⟩

theorem Frame.conf {s s' : State} (h : Frame s s') : SameConf s s' := ⟨h.2.2.1, h.2.2.2, h.1⟩

theorem update_conf (s : State) (k c : Bytes) (v : Nat) (vsz raw : Int) : SameConf s (update s k c v vsz raw).1 := by
  unfold update; split
  · exact ⟨rfl, rfl, rfl⟩
  · split
    · exact ⟨rfl, rfl, rfl⟩
    · simp only [gcHits]; split <;> exact ⟨rfl, rfl, rfl⟩

theorem cancel_conf (s : State) (k c : Bytes) (err : Nat) : SameConf s (cancel s k c err) := by
  rcases cancel_cases s k c err with ⟨hs, -⟩ | ⟨e, -, -, -, hs⟩ <;> rw [hs] <;> exact ⟨rfl, rfl, rfl⟩

theorem delete_conf (s : State) (keys : Option (List Bytes)) : SameConf s (delete s keys) :=
  delete_ind (Φ := SameConf s) (fun _ _ h => h) ⟨rfl, rfl, rfl⟩ keys

theorem step_conf (s : State) (op : Op) : SameConf s (step s op).1 ∨ ∃ err, op = .close err := by
  cases op with
  | flight k c ttl now => exact Or.inl (flight_cases s k c ttl now).frame.conf
  | flights now multi =>
    exact Or.inl (flights_ind (Φ := SameConf s) (flightsMid_spec s now multi).2.2.2.1.conf
      fun s' k c ttl h => h.trans (locked_cases s' k c ttl now).frame.conf)
  | update k c v vsz raw => exact Or.inl (update_conf s k c v vsz raw)
  | cancel k c err => exact Or.inl (cancel_conf s k c err)
  | delete keys => exact Or.inl (delete_conf s keys)
  | close err => exact Or.inr ⟨err, rfl⟩
  | sethits k n => exact Or.inl ⟨rfl, rfl, rfl⟩

theorem run_max (s : State) (ops : List Op) : (run s ops).max = s.max := by
  induction ops generalizing s with
  | nil => rfl
  | cons op rest ih =>
    refine (ih _).trans ?_
    rcases step_conf s op with h | ⟨err, rfl⟩
    · exact h.1
    · rfl

theorem run_closed {s : State} (hc : s.closed = true) (ops : List Op) : (run s ops).closed = true := by
  induction ops generalizing s with
  | nil => exact hc
  | cons op rest ih =>
    refine ih ?_
    rcases step_conf s op with h | ⟨err, rfl⟩
    · exact h.2.2.trans hc
    · rfl

end Rv.Lru
