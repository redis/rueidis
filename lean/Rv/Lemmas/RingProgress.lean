/-
The progress measure `mu`: it drops on every productive transition; and callers that have arrived
are never `idle` again.
-/
import Rv.Lemmas.RingLive
namespace Rv.Ring

def isReady : Pc → Bool
  | .ready _ => true
  | _ => false

def isBcast : Pc → Bool
  | .bcast _ => true
  | _ => false

def rphase : RPc → Nat
  | .idle => 0
  | .holding _ (some _) => 5
  | .holding _ none => 4
  | .signal _ => 3

/-- progress measure: work that is still to be done for the callers that have arrived -/
def mu (σ : State) : Nat :=
  6 * (σ.ncalls - σ.read2) + 2 * cnt σ.pc isReady σ.ncalls + cnt σ.pc isBcast σ.ncalls +
    (σ.ncalls - σ.read1) + rphase σ.rpc

theorem mu_pc {σ τ : State} {c : Nat} (v : Pc) (hc : c < σ.ncalls) (ep : τ.pc = upd σ.pc c v)
    (en : τ.ncalls = σ.ncalls) (e1 : τ.read1 = σ.read1) (e2 : τ.read2 = σ.read2) :
    mu τ + 2 * (if isReady (σ.pc c) then 1 else 0) + (if isBcast (σ.pc c) then 1 else 0) + rphase σ.rpc =
      mu σ + 2 * (if isReady v then 1 else 0) + (if isBcast v then 1 else 0) + rphase τ.rpc := by
  have r1 := cnt_upd σ.pc isReady c v σ.ncalls hc
  have r2 := cnt_upd σ.pc isBcast c v σ.ncalls hc
  simp only [mu, ep, en, e1, e2]
  omega

theorem mu_decreases {k : Nat} (hk : k ≤ 32) {σ : State} (f : Full k σ) (l : Label)
    (he : enabled k l σ = true) (hpr : productive k l σ = true) : mu (apply k l σ) < mu σ := by
  have hcl : ∀ {c u}, σ.pc c = u → u ≠ .idle → c < σ.ncalls := fun hpc hu => lt_ncalls f.i _ (hpc ▸ hu)
  refine step_cases (motive := fun l τ => productive k l σ = true → mu τ < mu σ) l he
    ?arrive ?fill ?park ?bcast ?take ?sleep ?skip ?rTake ?rMiss ?deliver ?unlock ?wake ?noWake hpr
  case arrive => exact fun _ _ hpr => by cases hpr
  case skip => exact fun _ hm hpr => by simp [productive, hm] at hpr
  case rMiss => exact fun s hs _ hm hpr => by subst hs; simp [productive, hm] at hpr
  case sleep =>
    intro l s hw hl hm hpr
    rcases hl with rfl | hl
    · rcases hw with ⟨_, rfl⟩ | hw
      · simp [productive, hm] at hpr
      · exact absurd (f.w.wk s hw) hm
    · exact absurd (f.w.wk s hl) hm
  case take =>
    intro _ s b hw _ hm _
    obtain ⟨hsN, hgen⟩ := f.i.a.gen_write (f.i.a.wslot hk hw) hm
    have h1 := filled_le_write f.t hsN (by omega)
    have h2 := f.i.b.wn
    simp only [mu, Ring.take]
    omega
  case fill =>
    intro c s hpc _ _ _
    have key : ∀ v, isReady v = false → mu { σ with pc := upd σ.pc c v } < mu σ := by
      intro v hv
      have := mu_pc (τ := { σ with pc := upd σ.pc c v }) v (hcl hpc nofun) rfl rfl rfl rfl
      rw [hpc, hv, show isReady (.ready s) = true from rfl, show isBcast (.ready s) = false from rfl] at this
      by_cases hb : isBcast v = true <;> simp only [hb, if_true, if_false, Bool.false_eq_true] at this <;> omega
    exact key _ (by split <;> rfl)
  case park =>
    intro c s hpc _ _
    have := mu_pc (τ := { σ with pc := upd σ.pc c (.waiting s) }) _ (hcl hpc nofun) rfl rfl rfl rfl
    simp only [hpc, isReady, isBcast, if_true, if_false, Bool.false_eq_true] at this; omega
  case bcast =>
    intro c s hpc _
    have := mu_pc (τ := { σ with pc := upd σ.pc c (.filled s) }) _ (hcl hpc nofun) rfl rfl rfl rfl
    simp only [hpc, isReady, isBcast, if_true, if_false, Bool.false_eq_true] at this
    show mu { σ with pc := upd σ.pc c (.filled s) } < _; omega
  case rTake =>
    intro s hs hidle hm _
    rw [slotOf_eq k _ hk] at hs
    obtain ⟨hsN, hgen⟩ := f.i.a.gen_read hs
    have h1 := filled_le_write f.t hsN (by omega)
    have h2 := f.i.b.wn
    obtain ⟨c0, hc0, _⟩ := f.i.b.occ _ hsN (by omega)
    simp only [mu, hidle, hc0, rphase]
    omega
  case deliver =>
    intro c s r hr hpc _
    have := mu_pc (τ := { σ with pc := upd σ.pc c (.done r), rpc := .holding s none }) _
      (hcl hpc nofun) rfl rfl rfl rfl
    simp only [hpc, hr, isReady, isBcast, rphase, if_false, Bool.false_eq_true] at this
    show mu { σ with pc := upd σ.pc c (.done r), rpc := .holding s none } < _; omega
  case unlock => exact fun s hr _ => by simp only [mu, hr, rphase]; omega
  case wake =>
    intro c s hr hpc _
    have := mu_pc (τ := { σ with rpc := .idle, pc := upd σ.pc c (.ready s) }) _ (hcl hpc nofun) rfl rfl rfl rfl
    simp only [hpc, hr, isReady, isBcast, rphase, if_true, if_false, Bool.false_eq_true] at this; omega
  case noWake => exact fun s hr _ _ => by simp only [mu, hr, rphase]; omega

/-- run a schedule of productive transitions -/
def runP (k : Nat) : State → List Label → Option State
  | σ, [] => some σ
  | σ, l :: ls => if enabled k l σ ∧ productive k l σ then runP k (apply k l σ) ls else none

/-- from a reachable state at most `mu σ` productive transitions can happen before a new caller
    arrives: no livelock among the productive transitions -/
theorem runP_bound {k : Nat} (hk : k ≤ 32) : ∀ (ls : List Label) (σ σ' : State),
    Reachable k σ → runP k σ ls = some σ' → mu σ' + ls.length ≤ mu σ ∧ Reachable k σ' := by
  intro ls
  induction ls with
  | nil => intro σ σ' h r; simp [runP] at r; subst r; exact ⟨by simp, h⟩
  | cons l ls ih =>
    intro σ σ' h r
    simp only [runP] at r
    split at r
    · rename_i he
      have d := mu_decreases hk (Full.of_reachable hk h) l he.1 he.2
      obtain ⟨b, hr'⟩ := ih _ _ (Reachable.step l h he.1) r
      exact ⟨by simp only [List.length_cons]; omega, hr'⟩
    · cases r

theorem arrived_not_idle {k : Nat} {σ : State} (h : Reachable k σ) :
    ∀ c, c < σ.ncalls → σ.pc c ≠ .idle := by
  induction h with
  | init => exact fun c hc => absurd hc (Nat.not_lt_zero c)
  | @step σ l hr he ih =>
    -- every transition that writes a pc writes one other than `idle`
    have pc : ∀ {c v} c', v ≠ Pc.idle → c' < σ.ncalls → upd σ.pc c v c' ≠ .idle :=
      fun c' hv hc' hh => ih c' hc' (upd_eq_old hh hv).2
    apply step_cases (motive := fun _ τ => ∀ c, c < τ.ncalls → τ.pc c ≠ .idle) l he
    case arrive =>
      intro s _ c hc hh
      have ⟨e, hh⟩ := upd_eq_old hh nofun
      exact ih c (by have : c < σ.ncalls + 1 := hc; omega) hh
    case fill => exact fun c s _ _ _ c' => pc c' (by split <;> nofun)
    case park => exact fun c s _ _ c' => pc c' nofun
    case bcast => exact fun c s _ c' => pc c' nofun
    case deliver => exact fun c s r _ _ c' => pc c' nofun
    case wake => exact fun c s _ _ c' => pc c' nofun
    -- the writer and the reader on its own write no pc
    all_goals intros; exact ih _ ‹_›

end Rv.Ring
