/-
Sensitivity of the deadlock-freedom theorems to the wake-up targets.

In the model of ring.go (Rv/Model/Ring.lean) every slot has TWO wait sets:
  c1 — callers in `Pc.waiting s`;  woken by `rSignal (some c)` (FinishResult: c1.Signal, one waiter)
  c2 — the writer in `WPc.sleeping s`; woken by `bcast c` (PutOne/PutMulti: c2.Broadcast)
`C02.no_stuck` / `C02.ring_no_deadlock` / `C02.ring_progress` are theorems about exactly that
assignment. This file defines the variant with ONE wait set per slot (writer and callers park
on the same condition variable; FinishResult's Signal wakes one arbitrary member of it, the
callers' Broadcast wakes all of it) and exhibits a reachable deadlock in it: ring of 2 slots
full of in-flight commands, writer parked on the oldest slot, one more caller parked behind it;
the reader's Signal goes to the writer, which finds mark = 0 and parks again; nobody wakes the
caller. So the theorems do depend on who is signalled by which step.
-/
import Rv.Lemmas.RingLive
namespace Rv.Ring.OneCond
open Rv.Ring

inductive Label1
  | base (l : Label)
  | rSignalWriter        -- FinishResult's Signal picks the writer out of the shared wait set
deriving DecidableEq, Repr

def enabled1 (k : Nat) : Label1 → State → Bool
  | .rSignalWriter, σ => match σ.rpc with
    | .signal s => σ.wpc == .sleeping s
    | _ => false
  | .base (.rSignal none), σ =>
    -- "no waiter" now also requires that the writer is not parked on this slot
    enabled k (.rSignal none) σ && (match σ.rpc with
      | .signal s => σ.wpc != .sleeping s
      | _ => true)
  | .base l, σ => enabled k l σ

def apply1 (k : Nat) : Label1 → State → State
  | .rSignalWriter, σ => match σ.rpc with
    | .signal s => { σ with rpc := .idle, wpc := .woken s }
    | _ => σ
  | .base (.bcast c), σ =>
    -- Broadcast on the shared condition variable wakes the writer and every waiting caller
    match σ.pc c with
    | .bcast s =>
      let σ' := apply k (.bcast c) σ
      { σ' with pc := fun c' => if σ'.pc c' = .waiting s then .ready s else σ'.pc c' }
    | _ => σ
  | .base l, σ => apply k l σ

/-- as `Ring.productive`; in addition a woken writer that finds its slot unfilled just parks again -/
def productive1 (k : Nat) : Label1 → State → Bool
  | .rSignalWriter, _ => true
  | .base .wWake, σ => match σ.wpc with
    | .woken s => (σ.slot s).mark == 1
    | _ => true
  | .base l, σ => productive k l σ

def run1 (k : Nat) : State → List Label1 → Option State
  | σ, [] => some σ
  | σ, l :: ls => if enabled1 k l σ then run1 k (apply1 k l σ) ls else none

/-- every label but `arrive` (never productive), restricted to callers that have arrived (a label
    of a later caller is never enabled) -/
def labels (σ : State) : List Label1 :=
  [.rSignalWriter, .base .wTry, .base .wWait, .base .wWake, .base .rBegin, .base .rUnlock,
   .base (.rSignal none)] ++
  (List.range σ.ncalls).flatMap fun c =>
    [.base (.enter c), .base (.bcast c), .base (.rDeliver c), .base (.rSignal (some c))]

/-- no productive transition is enabled -/
def stuck1 (k : Nat) (σ : State) : Bool :=
  (labels σ).all fun l => !(enabled1 k l σ && productive1 k l σ)

/-- 2 slots: callers 0 and 1 fill both, the writer takes both and parks on slot 1 (mark 2);
    caller 2 (ticket 3 → slot 1) parks behind it; the reader completes position 1 and its Signal
    wakes the writer, which parks again; the reader completes position 2 -/
def deadlockSchedule : List Label1 :=
  [.base .arrive, .base .arrive, .base (.enter 0), .base (.enter 1), .base .wTry, .base .wTry,
   .base .wWait, .base .arrive, .base (.enter 2),
   .base .rBegin, .base (.rDeliver 0), .base .rUnlock, .rSignalWriter, .base .wWake,
   .base .rBegin, .base (.rDeliver 1), .base .rUnlock, .base (.rSignal none)]

/-- the one-condition-variable variant deadlocks: caller 2 waits for ever on a free slot, the
    writer sleeps on that slot, the reader is idle with nothing left to answer -/
theorem one_cond_var_deadlocks :
    (run1 1 (init 1) deadlockSchedule).map
      (fun σ => stuck1 1 σ && σ.pc 2 == .waiting 1 && σ.wpc == .sleeping 1 && σ.rpc == .idle &&
        (σ.slot 1).mark == 0 && σ.read1 == 2 && σ.read2 == 2) = some true := by
  decide

/-- in the model of the code as it is, the same situation cannot lose the wake-up: after the
    reader unlocked slot 1 the only enabled Signal outcome is "caller 2 is woken" -/
theorem two_cond_vars_wake_the_caller :
    (run 1 (init 1)
      [.arrive, .arrive, .enter 0, .enter 1, .wTry, .wTry, .wWait, .arrive, .enter 2,
       .rBegin, .rDeliver 0, .rUnlock]).map
      (fun σ => !enabled 1 (.rSignal none) σ && enabled 1 (.rSignal (some 2)) σ &&
        σ.wpc == .sleeping 1) = some true := by
  decide

end Rv.Ring.OneCond
