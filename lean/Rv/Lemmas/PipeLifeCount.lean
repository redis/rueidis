/-
Pipe life model: the counting invariant. `waits` equals the number of goroutines that have
incremented it and not yet decremented it (callers between `incrWaits` and their decrement,
the abort goroutines, the two PING helpers, Close), and every call that waits on its result
channel owns exactly one slot (a queue entry or the reader's in-flight batch).
-/
import Rv.Lemmas.PipeLifeStep
namespace Rv.PipeLife

section
variable (s : St)

@[simp] theorem startBg_calls : (startBg s).calls = s.calls := by unfold startBg; split <;> rfl
@[simp] theorem startBg_queue : (startBg s).queue = s.queue := by unfold startBg; split <;> rfl
@[simp] theorem startBg_inflight : (startBg s).inflight = s.inflight := by unfold startBg; split <;> rfl
@[simp] theorem startBg_bgPing : (startBg s).bgPing = s.bgPing := by unfold startBg; split <;> rfl
@[simp] theorem startBg_cpOwed : (startBg s).cpOwed = s.cpOwed := by unfold startBg; split <;> rfl
@[simp] theorem startBg_waits : (startBg s).waits = s.waits := by unfold startBg; split <;> rfl
@[simp] theorem startBg_close : (startBg s).close = s.close := by unfold startBg; split <;> rfl
@[simp] theorem startBg_log : (startBg s).log = s.log := by unfold startBg; split <;> rfl
@[simp] theorem startBg_wire : (startBg s).wire = s.wire := by unfold startBg; split <;> rfl
@[simp] theorem startBg_err : (startBg s).err = s.err := by unfold startBg; split <;> rfl
@[simp] theorem startBg_connUp : (startBg s).connUp = s.connUp := by unfold startBg; split <;> rfl

@[simp] theorem stOf_startBg (i : Nat) : stOf (startBg s) i = stOf s i := by simp [stOf]

end

@[simp] theorem ctxDoneOf_startBg (s : St) (i : Nat) : ctxDoneOf (startBg s) i = ctxDoneOf s i := by
  simp [ctxDoneOf]

def wsum : List Call → Nat
  | [] => 0
  | c :: cs => c.st.weight + wsum cs

theorem stOf_some {s : St} {i : Nat} {cs : CS} (h : stOf s i = some cs) :
    ∃ c, s.calls[i]? = some c ∧ c.st = cs := by
  unfold stOf at h
  cases hc : s.calls[i]? with
  | none => simp [hc] at h
  | some c => exact ⟨c, rfl, by simpa [hc] using h⟩

theorem wsum_modify (l : List Call) (i : Nat) (f : Call → Call) (c : Call) (h : l[i]? = some c) :
    wsum (l.modify i f) + c.st.weight = wsum l + (f c).st.weight := by
  induction l generalizing i with
  | nil => simp at h
  | cons a as ih =>
    cases i with
    | zero =>
      simp at h; subst h
      simp [wsum]; omega
    | succ i =>
      simp at h
      have := ih i h
      simp [wsum]; omega

theorem wsum_modify_same (l : List Call) (i : Nat) (f : Call → Call) (hf : ∀ c, (f c).st = c.st) :
    wsum (l.modify i f) = wsum l := by
  induction l generalizing i with
  | nil => simp
  | cons a as ih => cases i <;> simp [wsum, hf, ih]

theorem wsum_ge (l : List Call) (i : Nat) (c : Call) (h : l[i]? = some c) : c.st.weight ≤ wsum l := by
  induction l generalizing i with
  | nil => simp at h
  | cons a as ih =>
    cases i with
    | zero => simp at h; subst h; simp [wsum]
    | succ i => simp at h; have := ih i h; simp [wsum]; omega

theorem stOf_modify {s s' : St} {i : Nat} {cs : CS} (h : s'.calls = s.calls.modify i (setCallSt cs)) (j : Nat) :
    stOf s' j = if i = j then (stOf s j).map (fun _ => cs) else stOf s j := by
  unfold stOf; rw [h, List.getElem?_modify]
  split
  · cases s.calls[j]? <;> simp [setCallSt]
  · cases s.calls[j]? <;> simp

theorem stOf_modify_self {s s' : St} {i : Nat} {a cs : CS} (hst : stOf s i = some a)
    (h : s'.calls = s.calls.modify i (setCallSt cs)) : stOf s' i = some cs := by
  rw [stOf_modify h i, if_pos rfl, hst]; rfl

theorem stOf_modify_same {s s' : St} {i : Nat} {f : Call → Call} (hf : ∀ c, (f c).st = c.st)
    (h : s'.calls = s.calls.modify i f) (j : Nat) : stOf s' j = stOf s j := by
  unfold stOf; rw [h, List.getElem?_modify]
  cases s.calls[j]? <;> simp
  split <;> simp [hf]

/-- the owners of the result channels that will still fire: the reader's in-flight batch, then the queue -/
def slots (s : St) : List Owner := s.inflight.toList ++ s.queue.map (·.owner)

def slotW : Option CS → Nat
  | some .waiting | some .aborted => 1
  | _ => 0

def HS.slot : HS → Nat
  | .waiting => 1
  | _ => 0

def HS.weight : HS → Nat
  | .toPut | .waiting => 1
  | _ => 0

def ClosePc.weight : ClosePc → Nat
  | .idle | .done => 0
  | _ => 1

def b2n (b : Bool) : Nat := if b then 1 else 0

/-- Close has not queued its PING yet -/
def ClosePc.early : ClosePc → Bool
  | .idle | .entered _ | .casDone _ => true
  | _ => false

theorem takeFirst_some {q : List Entry} {o : Owner} {q' : List Entry} (h : takeFirst q = some (o, q')) :
    ∃ pre e post, q = pre ++ e :: post ∧ (∀ x ∈ pre, x.taken = true) ∧ e.taken = false ∧ o = e.owner ∧
      q' = pre ++ { e with taken := true } :: post := by
  induction q generalizing q' with
  | nil => simp [takeFirst] at h
  | cons a as ih =>
    unfold takeFirst at h
    split at h
    · split at h
      · rename_i ha _ o1 es1 heq
        injection h with h; injection h with h1 h2; subst h1 h2
        obtain ⟨pre, e, post, rfl, hp, he, ho, rfl⟩ := ih heq
        exact ⟨a :: pre, e, post, rfl, by simpa [ha] using hp, he, ho, rfl⟩
      · cases h
    · rename_i ha
      injection h with h; injection h with h1 h2; subst h1 h2
      exact ⟨[], a, as, rfl, nofun, by simpa using ha, rfl, rfl⟩

theorem takeFirst_owners {q : List Entry} {o : Owner} {q' : List Entry} (h : takeFirst q = some (o, q')) :
    q'.map (·.owner) = q.map (·.owner) := by
  obtain ⟨pre, e, post, rfl, -, -, -, rfl⟩ := takeFirst_some h
  simp

theorem drainTake_owners (q : List Entry) : (drainTake q).map (·.owner) = q.map (·.owner) := by
  unfold drainTake; split
  · exact takeFirst_owners (by assumption)
  · rfl

theorem drainQueue_owners (c : Bool) (q : List Entry) : (drainQueue c q).map (·.owner) = q.map (·.owner) := by
  unfold drainQueue; split
  · exact drainTake_owners q
  · rfl

/-- `_background` has not reached the `select` that may spawn the wake-up PING -/
def tdEarly (t : Td) : Prop := tdPast t = false ∨ t = .exited

/-- the slots an owner is entitled to: a call one exactly while it (or its abort goroutine) waits on its channel;
    the wake-up PING and Close's PING one from their `PutOne` until their channel fires -/
def own (s : St) : Owner → Nat
  | .call i => slotW (stOf s i)
  | .bgPing => s.bgPing.slot
  | .closePing => b2n s.cpOwed

structure InvC (s : St) : Prop where
  sl : ∀ o, (slots s).count o = own s o
  closeEarly : s.close.early = true → s.cpOwed = false
  bgEarly : tdEarly s.td → s.bgPing = .none
  -- only `_backgroundRead` holds a fetched batch
  readerHolds : s.inflight ≠ none → s.td = .reading
  -- `waits` = callers past `incrWaits` + abort goroutines + the two PING helpers + Close
  w : s.waits = wsum s.calls + s.bgPing.weight + s.close.weight + b2n s.cpOwed

/-- nothing the invariant talks about changed -/
theorem InvC.frame {s s' : St} (h : InvC s) (hsl : slots s' = slots s) (hst : ∀ i, stOf s' i = stOf s i)
    (hws : wsum s'.calls = wsum s.calls) (hb : s'.bgPing = s.bgPing) (hc : s'.cpOwed = s.cpOwed)
    (hw : s'.waits = s.waits) (hcl : s'.close.weight = s.close.weight)
    (he : s'.close.early = true → s.close.early = true)
    (ht : tdEarly s'.td → tdEarly s.td) (h6 : s'.inflight ≠ none → s'.td = .reading) : InvC s' := by
  obtain ⟨sl, closeEarly, bgEarly, readerHolds, w⟩ := h
  refine ⟨fun o => ?_, ?_, ?_, h6, ?_⟩
  · rw [hsl, sl o]; cases o <;> simp only [own, hst, hb, hc]
  · intro h; rw [hc]; exact closeEarly (he h)
  · intro h; rw [hb]; exact bgEarly (ht h)
  · rw [hw, hws, hb, hcl, hc]; exact w

theorem not_early_of_past {t : Td} (hp : tdPast t = true) (he : t ≠ .exited) : ¬ tdEarly t :=
  fun h => h.elim (fun h => by rw [hp] at h; cases h) he

/-- `ht`: `_background` stays where it is or, once past the reader, moves on behind the spawn point -/
theorem InvC.scalars {s : St} (h : InvC s) {t : Td} (ht : t = s.td ∨ s.td ≠ .reading ∧ ¬ tdEarly t)
    {st : Nat} {e : Option Why} {c : Bool} {wr : Wr} {wc rc : Nat} :
    InvC { s with state := st, err := e, connUp := c, writer := wr, td := t, wcnt := wc, rcnt := rc } := by
  refine ⟨h.sl, h.closeEarly, fun he => ?_, fun hi => ?_, h.w⟩
  · rcases ht with rfl | ⟨_, hne⟩
    · exact h.bgEarly he
    · exact absurd he hne
  · rcases ht with rfl | ⟨hr, _⟩
    · exact h.readerHolds hi
    · exact absurd (h.readerHolds hi) hr

/-- `hsl`: call `i` gains or loses slots as `slotW` says and nobody else's slots change -/
theorem InvC.setCallSlots {s : St} (h : InvC s) {i : Nat} {old : CS} (hold : stOf s i = some old) (new : CS)
    {n : Nat} (hw : n + old.weight = s.waits + new.weight) {lg : List (Nat × Res)} {wr : List Nat}
    {inf : Option Owner} {q : List Entry} (h6 : inf ≠ none → s.td = .reading)
    (hsl : ∀ o, (inf.toList ++ q.map (·.owner)).count o + (if o = .call i then slotW (some old) else 0) =
      (slots s).count o + if o = .call i then slotW (some new) else 0) :
    InvC { s with
      calls := s.calls.modify i (setCallSt new), waits := n, log := lg, wire := wr, inflight := inf, queue := q } := by
  obtain ⟨sl, closeEarly, bgEarly, _, w⟩ := h
  obtain ⟨c, hc1, hc2⟩ := stOf_some hold
  have hsum := wsum_modify s.calls i (setCallSt new) c hc1
  refine ⟨fun o => ?_, closeEarly, bgEarly, h6, ?_⟩
  · have hj := hsl o
    rw [sl o] at hj
    rcases o with j | _ | _
    case bgPing | closePing => exact Nat.add_right_cancel hj
    show (inf.toList ++ q.map (·.owner)).count (.call j) = slotW (stOf _ j)
    change _ = slotW (stOf s j) + _ at hj
    rw [stOf_modify (s := s) rfl j]
    by_cases hij : i = j
    · subst hij; rw [if_pos rfl, if_pos rfl, hold] at hj; rw [if_pos rfl, hold]
      show _ = slotW (some new); omega
    · rw [if_neg (fun h => hij (Owner.call.inj h).symm), if_neg (fun h => hij (Owner.call.inj h).symm)] at hj
      rw [if_neg hij]; exact hj
  · show n = wsum (s.calls.modify i (setCallSt new)) + s.bgPing.weight + s.close.weight + b2n s.cpOwed
    simp only [setCallSt] at hsum
    rw [hc2] at hsum
    omega

theorem InvC.setCall {s : St} (h : InvC s) {i : Nat} {old : CS} (hold : stOf s i = some old) (new : CS)
    (hsw : slotW (some new) = slotW (some old)) {n : Nat} (hw : n + old.weight = s.waits + new.weight)
    {lg : List (Nat × Res)} {wr : List Nat} :
    InvC { s with calls := s.calls.modify i (setCallSt new), waits := n, log := lg, wire := wr } :=
  h.setCallSlots hold new hw h.readerHolds (fun _ => by rw [hsw]; rfl)

theorem slotW_pos {x : Option CS} (h : 0 < slotW x) : x = some .waiting ∨ x = some .aborted := by
  unfold slotW at h
  split at h <;> simp_all

theorem HS.slot_pos {x : HS} (h : 0 < x.slot) : x = .waiting := by
  cases x <;> simp_all [HS.slot]

theorem InvC.waits_pos {s : St} (hc : InvC s) {i : Nat} {cs : CS} (h : stOf s i = some cs) (hw : cs.weight = 1) :
    1 ≤ s.waits := by
  obtain ⟨c, h1, h2⟩ := stOf_some h
  have := wsum_ge s.calls i c h1
  rw [h2, hw] at this
  have := hc.w
  omega

theorem InvC.inflight_none {s : St} (hc : InvC s) (h : s.td ≠ .reading) : s.inflight = none :=
  Decidable.of_not_not fun hi => h (hc.readerHolds hi)

/-- a result is delivered to the owner of the first slot -/
theorem InvC.deliver {s : St} (h : InvC s) {o : Owner} {r : Res} {inf : Option Owner} {q : List Entry}
    (hsl : slots s = o :: (inf.toList ++ q.map (·.owner))) (h6 : inf ≠ none → s.td = .reading) :
    InvC (PipeLife.deliver o r { s with inflight := inf, queue := q }) := by
  have head : (inf.toList ++ q.map (·.owner)).count o + 1 = (slots s).count o := by rw [hsl, List.count_cons_self]
  have tail : ∀ x, o ≠ x → (inf.toList ++ q.map (·.owner)).count x = (slots s).count x := fun x hx => by
    rw [hsl, List.count_cons_of_ne hx]
  cases o with
  | call i =>
    have hpos : 0 < slotW (stOf s i) := by have : _ = slotW (stOf s i) := head.trans (h.sl _); omega
    have bal : ∀ {old new : CS}, slotW (some old) = 1 → slotW (some new) = 0 → ∀ o,
        (inf.toList ++ q.map (·.owner)).count o + (if o = .call i then slotW (some old) else 0) =
          (slots s).count o + if o = .call i then slotW (some new) else 0 := fun ho hn o => by
      by_cases hx : o = .call i
      · subst hx; rw [if_pos rfl, if_pos rfl, ho, hn]; exact head
      · rw [if_neg hx, if_neg hx]; exact tail o (Ne.symm hx)
    rcases slotW_pos hpos with hwt | hab
    · -- the caller itself takes the result
      have hd : PipeLife.deliver (.call i) r { s with inflight := inf, queue := q } =
          setSt i (.got r false) { s with inflight := inf, queue := q } := by
        simp only [PipeLife.deliver, show stOf ({ s with inflight := inf, queue := q } : St) i = _ from hwt]
      rw [hd]
      exact h.setCallSlots hwt (.got r false) rfl h6 (bal rfl rfl)
    · -- the abort goroutine takes it and decrements `waits`
      have hd : PipeLife.deliver (.call i) r { s with inflight := inf, queue := q } =
          { (setSt i .done { s with inflight := inf, queue := q }) with waits := s.waits - 1 } := by
        simp only [PipeLife.deliver, show stOf ({ s with inflight := inf, queue := q } : St) i = _ from hab]
      rw [hd]
      have := h.waits_pos hab rfl
      exact h.setCallSlots hab .done (by show s.waits - 1 + 1 = s.waits + 0; omega) h6 (bal rfl rfl)
  | bgPing =>
    obtain ⟨sl, closeEarly, bgEarly, _, w⟩ := h
    have hb2 : _ = s.bgPing.slot := head.trans (sl _)
    have hbw : s.bgPing = .waiting := HS.slot_pos (by omega)
    rw [hbw] at hb2 w
    refine ⟨fun x => ?_, closeEarly, fun h => ?_, h6, ?_⟩
    · cases x with
      | bgPing => show (inf.toList ++ q.map (·.owner)).count .bgPing = HS.slot .done; simp only [HS.slot] at hb2 ⊢; omega
      | _ => exact (tail _ (by nofun)).trans (sl _)
    · have := bgEarly h; rw [hbw] at this; cases this
    · show s.waits - 1 = wsum s.calls + HS.weight .done + s.close.weight + b2n s.cpOwed
      simp only [HS.weight] at w ⊢; omega
  | closePing =>
    obtain ⟨sl, closeEarly, bgEarly, _, w⟩ := h
    have hc2 : _ = b2n s.cpOwed := head.trans (sl _)
    have hco : s.cpOwed = true := by
      cases hx : s.cpOwed with
      | true => rfl
      | false => rw [hx] at hc2; simp [b2n] at hc2
    rw [hco] at hc2 w
    refine ⟨fun x => ?_, fun _ => rfl, bgEarly, h6, ?_⟩
    · cases x with
      | closePing => show (inf.toList ++ q.map (·.owner)).count .closePing = b2n false; simp [b2n] at hc2 ⊢; omega
      | _ => exact (tail _ (by nofun)).trans (sl _)
    · show s.waits - 1 = wsum s.calls + s.bgPing.weight + s.close.weight + b2n false
      simp only [b2n] at w ⊢; simp at w ⊢; omega

theorem tdEarly_startBg (s : St) : tdEarly (startBg s).td → tdEarly s.td := by
  unfold startBg tdEarly
  cases h : s.td <;> simp [tdPast]

theorem startBg_td_reading (s : St) (h : s.inflight ≠ none → s.td = .reading) :
    (startBg s).inflight ≠ none → (startBg s).td = .reading := by
  intro hi; rw [startBg_inflight] at hi
  have := h hi
  unfold startBg; rw [this]

theorem InvC.startBg {s : St} (hc : InvC s) : InvC (startBg s) :=
  InvC.frame hc (by simp [slots]) (by simp) (by simp) (by simp) (by simp) (by simp) (by simp) (by simp)
    (tdEarly_startBg s) (startBg_td_reading s hc.readerHolds)

theorem InvC.leaveSt {i : Nat} {r : Res} {sb : Bool} {s : St} (hst : stOf s i = some (.got r sb)) (hc : InvC s) :
    InvC (leaveSt i r s) := by
  have := hc.waits_pos hst rfl
  exact InvC.setCall hc hst .done rfl (by show s.waits - 1 + 1 = s.waits + 0; omega)

theorem InvC.exitConn {w : Why} {s : St} (hc : InvC s) : InvC (exitConn w s) := InvC.scalars hc (Or.inl rfl)

theorem deliver_inflight (o : Owner) (r : Res) (s : St) : (deliver o r s).inflight = s.inflight := by
  cases o <;> simp only [deliver]
  split <;> rfl

theorem deliver_td (o : Owner) (r : Res) (s : St) : (deliver o r s).td = s.td :=
  congrArg Scal.td (scal_deliver o r s)

theorem deferDeliver_inflight (s : St) : (deferDeliver s).inflight = none := by
  unfold deferDeliver; split
  · rw [deliver_inflight]
  · assumption

theorem deferDeliver_td (s : St) : (deferDeliver s).td = s.td := congrArg Scal.td (scal_deferDeliver s)

theorem InvC.deferDeliver {s : St} (hc : InvC s) : InvC (deferDeliver s) := by
  unfold PipeLife.deferDeliver; split
  · rename_i o hin
    exact hc.deliver (inf := none) (q := s.queue) (by simp [slots, hin]) (fun h => absurd rfl h)
  · exact hc

theorem InvC.casSt {s : St} {w : Nat} (hcl : s.close = .entered w) (hc : InvC s) : InvC (casSt s) :=
  InvC.frame hc rfl (fun _ => rfl) rfl rfl rfl rfl (by rw [hcl]; rfl) (fun _ => by rw [hcl]; rfl) id hc.readerHolds

theorem invC_step {fix : Bool} {s s' : St} {l : Label} (h : step fix s l = some s') (hc : InvC s) : InvC s' := by
  induction step_sound h with
  | enterDone i hst =>
    exact InvC.setCall hc hst .done rfl rfl
  | enter i hst =>
    exact InvC.setCall hc hst (.counted _) rfl rfl
  | toQueue i w hst =>
    exact InvC.setCall hc hst .toQueue rfl rfl
  | toQueueBg i w hst =>
    exact InvC.setCall (InvC.startBg hc) ((stOf_startBg s i).trans hst) .toQueue rfl rfl
  | sync i w hst =>
    exact InvC.setCall hc hst .syncing rfl rfl
  | reject i w hst =>
    exact InvC.setCall hc hst (.got _ _) rfl rfl
  | put i hst =>
    refine hc.setCallSlots hst .waiting rfl (inf := s.inflight) (q := s.queue ++ [{ owner := .call i }]) hc.readerHolds
      (fun o => ?_)
    by_cases ho : o = .call i
    · subst ho; simp [slots, slotW, Nat.add_assoc]
    · simp [slots, ho, Ne.symm ho]
  | putFail i hst =>
    have := hc.waits_pos hst rfl
    exact InvC.setCall hc hst .done rfl (by show s.waits - 1 + 1 = s.waits + 0; omega)
  | syncOk i hst =>
    exact InvC.setCall hc hst (.got _ _) rfl rfl
  | syncErr i hst =>
    have hb : InvC { s with err := latch .broken s.err, connUp := false } := InvC.scalars hc (Or.inl rfl)
    exact InvC.setCall (InvC.startBg hb) ((stOf_startBg _ i).trans hst) (.got _ _) rfl rfl
  | leaveBg i r sb hst => exact InvC.startBg (InvC.leaveSt hst hc)
  | leave i r sb hst => exact InvC.leaveSt hst hc
  | abort i hst =>
    exact InvC.setCall hc hst .aborted rfl rfl
  | cancel i =>
    exact InvC.frame hc rfl (stOf_modify_same (f := setDone) (fun _ => rfl) rfl)
      (wsum_modify_same _ _ _ (fun _ => rfl)) rfl rfl rfl rfl id id hc.readerHolds
  | connBreak | flush => exact InvC.scalars hc (Or.inl rfl)
  | pingFail => exact InvC.exitConn hc
  | wTake d o q _ htf =>
    exact InvC.frame hc (by simp [slots, takeFirst_owners htf]) (fun _ => rfl) rfl rfl rfl rfl rfl id id hc.readerHolds
  | flushErr =>
    exact InvC.scalars (InvC.exitConn (w := .broken) hc) (Or.inl rfl)
  | rFetch e es htd hin hq =>
    exact InvC.frame hc (by simp [slots, hin, hq]) (fun _ => rfl) rfl rfl rfl rfl rfl id
      (fun h => by simpa using h) (fun _ => htd)
  | rDeliver o htd hin =>
    exact hc.deliver (inf := none) (q := s.queue) (by simp [slots, hin]) (fun h => absurd rfl h)
  | rErr htd =>
    have htd' : (deferDeliver s).td = .reading := by rw [deferDeliver_td]; exact htd
    refine InvC.frame (InvC.exitConn (w := .broken) (InvC.deferDeliver hc)) rfl (fun _ => rfl) rfl rfl rfl rfl rfl id ?_ ?_
    · intro _; show tdEarly (deferDeliver s).td; rw [htd']; exact Or.inl rfl
    · intro h; exact absurd (deferDeliver_inflight s) h
  | spawn htd =>
    obtain ⟨sl, closeEarly, bgEarly, readerHolds, w⟩ := hc
    have hb : s.bgPing = .none := bgEarly (Or.inr htd)
    refine ⟨fun x => (sl x).trans ?_, closeEarly, ?_, ?_, ?_⟩
    · cases x <;> simp only [own, hb] <;> rfl
    · exact fun h => absurd h (not_early_of_past rfl nofun)
    · intro h; have := readerHolds h; rw [htd] at this; cases this
    · show s.waits + 1 = wsum s.calls + HS.weight .toPut + s.close.weight + b2n s.cpOwed
      rw [hb] at w; simp only [HS.weight] at w ⊢; omega
  | bgPingPut hb =>
    obtain ⟨sl, closeEarly, bgEarly, readerHolds, w⟩ := hc
    have hsl : slots ({ s with bgPing := .waiting, queue := s.queue ++ [{ owner := .bgPing }] } : St) =
        slots s ++ [.bgPing] := by simp [slots]
    refine ⟨fun x => ?_, closeEarly, ?_, readerHolds, ?_⟩
    · rw [hsl, List.count_append, sl x]; cases x <;> simp [own, hb, HS.slot]
      rfl
    · intro h; have := bgEarly h; rw [hb] at this; cases this
    · show s.waits = wsum s.calls + HS.weight .waiting + s.close.weight + b2n s.cpOwed
      rw [hb] at w; exact w
  | noSpawn htd | loopDone c htd | seeClosed c htd | tdClose htd =>
    exact InvC.scalars hc (Or.inr ⟨by rw [htd]; nofun, by exact not_early_of_past rfl nofun⟩)
  | drain c e es htd _ hq =>
    have hin : s.inflight = none := hc.inflight_none (by rw [htd]; nofun)
    have hown := drainQueue_owners (seenClosed c s) s.queue
    rw [hq] at hown
    refine (InvC.scalars hc (t := .draining (seenClosed c s)) (rc := s.rcnt + 1) (Or.inr ⟨by rw [htd]; nofun, not_early_of_past rfl nofun⟩)).deliver
      (inf := s.inflight) (q := es) ?_ (fun h => absurd hin h)
    simp only [slots, hin]; rw [← hown]; simp
  | closeEnter w hcl =>
    obtain ⟨sl, closeEarly, bgEarly, readerHolds, hw⟩ := hc
    refine ⟨sl, ?_, bgEarly, readerHolds, ?_⟩
    · intro _; exact closeEarly (by rw [hcl]; rfl)
    · show s.waits + 1 = wsum s.calls + s.bgPing.weight + ClosePc.weight (.entered _) + b2n s.cpOwed
      rw [hcl] at hw; simp only [ClosePc.weight] at hw ⊢; omega
  | casBg w hcl => exact InvC.startBg (InvC.casSt hcl hc)
  | cas w hcl => exact InvC.casSt hcl hc
  | ping b hcl =>
    obtain ⟨sl, closeEarly, bgEarly, readerHolds, w⟩ := hc
    have hco : s.cpOwed = false := closeEarly (by rw [hcl]; rfl)
    have hsl0 : ∀ x : St, x.inflight = s.inflight → x.queue = s.queue ++ [{ owner := .closePing }] →
        slots x = slots s ++ [.closePing] := fun x h1 h2 => by simp [slots, h1, h2]
    have hsl := hsl0 { s with waits := s.waits + 1, cpOwed := true, close := .pingWait, queue := s.queue ++ [{ owner := .closePing }] } rfl rfl
    refine ⟨fun x => ?_, ?_, bgEarly, readerHolds, ?_⟩
    · rw [hsl, List.count_append, sl x]; cases x <;> simp [own, hco, b2n]
      rfl
    · intro h; cases h
    · show s.waits + 1 = wsum s.calls + s.bgPing.weight + ClosePc.weight .pingWait + b2n true
      rw [hcl, hco] at w; simp only [ClosePc.weight, b2n] at w ⊢; simp at w ⊢; omega
  | noPing b hcl | closeGot hcl | closeGrace hcl =>
    exact InvC.frame hc rfl (fun _ => rfl) rfl rfl rfl rfl (by rw [hcl]; rfl) (fun h => by cases h) id hc.readerHolds
  | closeTail hcl =>
    obtain ⟨sl, closeEarly, bgEarly, readerHolds, w⟩ := hc
    refine ⟨sl, ?_, bgEarly, readerHolds, ?_⟩
    · intro h; cases h
    · show s.waits - 1 = wsum s.calls + s.bgPing.weight + ClosePc.weight .done + b2n s.cpOwed
      rw [hcl] at w; simp only [ClosePc.weight] at w ⊢; omega

theorem wsum_idle (calls : List Call) (h : ∀ c ∈ calls, c.st = .idle) : wsum calls = 0 := by
  induction calls with
  | nil => rfl
  | cons c cs ih =>
    have h1 := h c (by simp)
    have h2 := ih (fun c hc => h c (by simp [hc]))
    simp [wsum, h1, h2, CS.weight]

theorem slotW_idle (calls : List Call) (h : ∀ c ∈ calls, c.st = .idle) (i : Nat) :
    slotW ((calls[i]?).map (·.st)) = 0 := by
  cases hc : calls[i]? with
  | none => rfl
  | some c =>
    have := h c (List.mem_of_getElem? hc)
    simp [this, slotW]

theorem invC_init (calls : List Call) (p b : Bool) (h : ∀ c ∈ calls, c.st = .idle) : InvC (init calls p b) := by
  have h0 : InvC ({ calls := calls, blockFree := b } : St) := by
    refine ⟨fun o => ?_, fun _ => rfl, fun _ => rfl, fun h => absurd rfl h, ?_⟩
    · cases o with
      | call i => exact (slotW_idle calls h i).symm
      | _ => rfl
    · show 0 = wsum calls + 0 + 0 + 0; rw [wsum_idle calls h]
  unfold init; split
  · exact InvC.startBg h0
  · exact h0

theorem Reachable.invC {fix : Bool} {s : St} (h : Reachable fix s) : InvC s := by
  induction h with
  | init calls p b hi => exact invC_init calls p b hi
  | step l _ hs ih => exact invC_step hs ih

end Rv.PipeLife
