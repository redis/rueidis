/-
The two logs as lists of queue positions: `wlog` is duplicate free, `clog` is the doubled prefix
of `wlog`, and each transition maps to events of the FIFO specification, the enqueue being
linearised immediately before the dequeue.
-/
import Rv.Lemmas.RingInvB
import Rv.Spec.Fifo
namespace Rv.Ring
open Rv.Spec

theorem posList_take {f : Nat → Nat} {n m : Nat} (h : n ≤ m) : (posList f m).take n = posList f n := by
  unfold posList
  rw [← List.map_take, List.take_range, Nat.min_eq_left h]

theorem posList_length (f : Nat → Nat) (n : Nat) : (posList f n).length = n := by simp [posList]

theorem mem_posList {f : Nat → Nat} {n c : Nat} : c ∈ posList f n ↔ ∃ p, 1 ≤ p ∧ p ≤ n ∧ f p = c := by
  simp only [posList, List.mem_map, List.mem_range]
  exact ⟨fun ⟨i, hi, e⟩ => ⟨i + 1, Nat.succ_pos i, hi, e⟩,
    fun ⟨p, h1, h2, e⟩ => ⟨p - 1, by omega, by rw [Nat.sub_add_cancel h1]; exact e⟩⟩

theorem posList_nodup (f g : Nat → Nat) (n : Nat) (h : ∀ p, 1 ≤ p → p ≤ n → g (f p) = p) :
    (posList f n).Nodup := by
  induction n with
  | zero => simp [posList]
  | succ n ih =>
    rw [posList_succ, List.nodup_append]
    refine ⟨ih (fun p a b => h p a (by omega)), by simp, ?_⟩
    intro a ha b hb
    simp at hb; subst hb
    simp [posList] at ha
    obtain ⟨i, hi, e⟩ := ha
    intro e2
    have h1 := h (i + 1) (by omega) (by omega)
    have h2 := h (n + 1) (by omega) (by omega)
    rw [e, e2, h2] at h1; omega

section
variable {k : Nat} {σ : State}

theorem clog_length (h : Inv k σ) : σ.clog.length = ndeliv σ := by
  rw [h.b.clog_eq, List.length_map, posList_length]

theorem clog_le_wlog (h : Inv k σ) : σ.clog.length ≤ σ.wlog.length := by
  rw [clog_length h, h.b.wlog_eq, posList_length]; exact Nat.le_trans (ndeliv_le σ) h.a.r21

theorem clog_prefix (h : Inv k σ) :
    σ.clog = (σ.wlog.take σ.clog.length).map fun c => (c, c) := by
  rw [clog_length h, h.b.wlog_eq, posList_take (Nat.le_trans (ndeliv_le σ) h.a.r21)]; exact h.b.clog_eq

/-- what a single transition does to the two observable logs -/
theorem log_step (hk : k ≤ 32) (h : Inv k σ) (l : Label) (he : enabled k l σ = true) :
    ((apply k l σ).wlog = σ.wlog ∧ (apply k l σ).clog = σ.clog) ∨
    (∃ c, (apply k l σ).wlog = σ.wlog ++ [c] ∧ (apply k l σ).clog = σ.clog) ∨
    (∃ c, (apply k l σ).clog = σ.clog ++ [(c, c)] ∧ (apply k l σ).wlog = σ.wlog) := by
  apply step_cases (motive := fun _ τ => (τ.wlog = σ.wlog ∧ τ.clog = σ.clog) ∨
    (∃ c, τ.wlog = σ.wlog ++ [c] ∧ τ.clog = σ.clog) ∨ (∃ c, τ.clog = σ.clog ++ [(c, c)] ∧ τ.wlog = σ.wlog)) l he
  case take =>
    intro _ s b hw _ hm
    obtain ⟨c, hc, _⟩ := h.b.occ s (h.a.gen_write (h.a.wslot hk hw) hm).1 (by omega)
    exact .inr (.inl ⟨c, by simp only [Ring.take, hc, Option.toList], rfl⟩)
  case deliver =>
    intro c s r hr hpc
    obtain rfl := (h.b.deliver h.a c s r hr hpc).1
    exact .inr (.inr ⟨c, rfl, rfl⟩)
  all_goals intros; exact .inl ⟨rfl, rfl⟩

end

/-- simulation relation between a ring state and (history, state) of the FIFO specification -/
structure Sim (σ : State) (evs : List Fifo.Ev) (q : Fifo.Q) : Prop where
  run : Fifo.run Fifo.empty evs = some q
  deqs : Fifo.deqs evs = σ.wlog
  fins : Fifo.fins evs = σ.clog
  enqs : Fifo.enqs evs = σ.wlog.map fun c => (c, c)
  pend : q.pending = []
  writ : q.written = (σ.wlog.drop σ.clog.length).map fun c => (c, c)

theorem sim_step {k : Nat} (hk : k ≤ 32) {σ : State} {l : Label} (h : Inv k σ)
    (he : enabled k l σ = true) {evs : List Fifo.Ev} {q : Fifo.Q} (sim : Sim σ evs q) :
    ∃ evs' q', Sim (apply k l σ) (evs ++ evs') q' := by
  rcases log_step hk h l he with ⟨e1, e2⟩ | ⟨c, e1, e2⟩ | ⟨c, e1, e2⟩
  · refine ⟨[], q, ?_⟩
    simp only [List.append_nil]
    exact ⟨sim.run, by rw [e1]; exact sim.deqs, by rw [e2]; exact sim.fins, by rw [e1]; exact sim.enqs,
      sim.pend, by rw [e1, e2]; exact sim.writ⟩
  · have hle := clog_le_wlog h
    refine ⟨[.enq c c, .deq c], { pending := [], written := q.written ++ [(c, c)] }, ?_⟩
    refine ⟨?_, ?_, ?_, ?_, rfl, ?_⟩
    · rw [Fifo.run_append, sim.run]
      simp [Fifo.run, Fifo.step, sim.pend]
    · rw [Fifo.deqs_append, sim.deqs, e1]; rfl
    · rw [Fifo.fins_append, sim.fins, e2]; simp [Fifo.fins]
    · rw [Fifo.enqs_append, sim.enqs, e1]; simp [Fifo.enqs]
    · rw [e1, e2, List.drop_append_of_le_length hle, List.map_append, sim.writ]; rfl
  · have hp := clog_prefix ⟨h.a.step hk l he, h.b.step hk h.a l he⟩
    rw [e1, e2] at hp
    simp only [List.length_append, List.length_cons, List.length_nil] at hp
    have hlt : σ.clog.length < σ.wlog.length := by
      have := congrArg List.length hp
      simp at this; omega
    have hget : σ.wlog[σ.clog.length] = c := by
      rw [List.take_succ_eq_append_getElem hlt, List.map_append, ← clog_prefix h] at hp
      have := List.append_cancel_left hp
      simp at this; exact this.symm
    have hdrop : σ.wlog.drop σ.clog.length = c :: σ.wlog.drop (σ.clog.length + 1) := by
      rw [← hget]; exact List.drop_eq_getElem_cons hlt
    refine ⟨[.fin c c], { q with written := (σ.wlog.drop (σ.clog.length + 1)).map fun c => (c, c) }, ?_⟩
    refine ⟨?_, ?_, ?_, ?_, sim.pend, ?_⟩
    · rw [Fifo.run_append, sim.run]
      have : q.written = (c, c) :: (σ.wlog.drop (σ.clog.length + 1)).map fun c => (c, c) := by
        rw [sim.writ, hdrop]; rfl
      simp [Fifo.run, Fifo.step, this]
    · rw [Fifo.deqs_append, sim.deqs, e2]; simp [Fifo.deqs]
    · rw [Fifo.fins_append, sim.fins, e1]; rfl
    · rw [Fifo.enqs_append, sim.enqs, e2]; simp [Fifo.enqs]
    · rw [e1, e2]; simp

end Rv.Ring
