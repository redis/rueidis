/-
Lemmas about the classification of one batch (`classify`, `missKeys` of Rv/Model/MGetCache.lean):
duplicates of an absent key wait on the flight created at its first occurrence.
-/
import Rv.Lemmas.MGetWalk
namespace Rv.MGetCache
open Rv.MGetCache.Spec

theorem expected_cases {K : Type} {P : Res → Prop} (closed : Bool) (st : K → Ent) (out : K → Res) (k : K)
    (hout : P (out k)) (hhit : ∀ v, P (.ofMsg v)) (hfl : ∀ w, st k = .inflight w → P w) :
    P (expected closed st out k) := by
  unfold expected
  split
  · exact hout
  · split
    · exact hhit _
    · exact hfl _ ‹_›
    · exact hout

variable {K : Type} [DecidableEq K] (closed : Bool) (own out : K → Res) (st : K → Ent) (seen ks : List K)

theorem spec_classify (hseen : ∀ k ∈ seen, st k = .absent ∧ own k = out k)
    (hown : ∀ k ∈ ks, st k = .absent → own k = out k) :
    spec (classify closed own st seen ks) ((missKeys closed st seen ks).map out)
      = ks.map (expected closed st out) := by
  fun_induction classify closed own st seen ks with
  | case1 => rfl
  | case2 seen k ks hc ih =>
    simp only [missKeys, expected, if_pos hc, List.map_cons, spec, ih hseen (List.forall_mem_cons.1 hown).2]
  | case3 seen k ks hc hs ih =>
    simp only [missKeys, expected, if_neg hc, hs, if_true, List.map_cons, spec, hseen k hs,
      ih hseen (List.forall_mem_cons.1 hown).2]
  | case4 seen k ks hc hs _ hk ih | case5 seen k ks hc hs _ hk ih =>
    simp only [missKeys, expected, if_neg hc, hs, hk, if_false, List.map_cons, spec, ih hseen (List.forall_mem_cons.1 hown).2]
  | case6 seen k ks hc hs hk ih =>
    obtain ⟨h1, h2⟩ := List.forall_mem_cons.1 hown
    simp only [missKeys, expected, if_neg hc, hs, hk, if_false, List.map_cons, spec,
      ih (List.forall_mem_cons.2 ⟨⟨hk, h1 hk⟩, hseen⟩) h2]

theorem count_classify :
    ((classify closed own st seen ks).filter Cls.isMiss).length = (missKeys closed st seen ks).length := by
  fun_induction classify closed own st seen ks <;>
    simp_all [missKeys, List.filter_cons]

theorem missKeys_sublist :
    (missKeys closed st seen ks).Sublist ks := by
  fun_induction missKeys closed st seen ks with
  | case1 => exact .slnil
  | case2 _ _ _ _ ih | case4 _ _ _ _ _ _ ih => exact ih.cons_cons _
  | case3 _ _ _ _ _ ih | case5 _ _ _ _ _ _ ih => exact ih.cons _

theorem mem_missKeys (k : K)
    (ha : st k = .absent) (hm : k ∈ ks) (hs : k ∉ seen) : k ∈ missKeys closed st seen ks := by
  fun_induction missKeys closed st seen ks with
  | case1 => cases hm
  | case2 seen k0 ks _ ih =>
    rcases List.mem_cons.1 hm with rfl | hm
    · exact List.mem_cons_self
    · exact List.mem_cons_of_mem _ (ih hm hs)
  | case3 seen k0 ks _ h0 ih =>
    rcases List.mem_cons.1 hm with rfl | hm
    · exact absurd h0 hs
    · exact ih hm hs
  | case4 seen k0 ks _ _ _ ih =>
    rcases List.mem_cons.1 hm with rfl | hm
    · exact List.mem_cons_self
    · by_cases hk : k = k0
      · exact hk ▸ List.mem_cons_self
      · exact List.mem_cons_of_mem _ (ih hm (by simp [hk, hs]))
  | case5 seen k0 ks _ _ h0 ih =>
    rcases List.mem_cons.1 hm with rfl | hm
    · exact absurd ha h0
    · exact ih hm hs

theorem pending_mem_spec {cls : List Cls} (part : List Res) {w : Res} (h : Cls.pending w ∈ cls) :
    w ∈ spec cls part := by
  fun_induction spec cls part with
  | case1 => cases h
  | case5 w' cs part ih =>
    rcases List.mem_cons.1 h with h | h
    · cases h; exact List.mem_cons_self
    · exact List.mem_cons_of_mem _ (ih h)
  | _ => rename_i ih; exact List.mem_cons_of_mem _ (ih (by simpa using h))

theorem lookup_zip_map {α β} [DecidableEq α] (l : List α) (f : α → β) (k : α) (h : k ∈ l) :
    (l.zip (l.map f)).lookup k = some (f k) := by
  induction l with
  | nil => simp at h
  | cons a l ih =>
    simp only [List.map_cons, List.zip_cons_cons, List.lookup_cons]
    by_cases hk : k = a
    · subst hk; simp
    · have : (k == a) = false := by simpa using hk
      rw [this]; exact ih (by simpa [hk] using h)

end Rv.MGetCache
