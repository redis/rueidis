/-
Lemmas about the batch model (`Rv.Model.ClusterMulti`): the pending map, grouping with index
lists, ASKING interleaving, transaction search, the round loop's induction principle.
-/
import Rv.Model.ClusterMulti
namespace Rv.ClusterMultiL
open Rv Rv.Topology Rv.ClusterRoute Rv.ClusterMulti

theorem pget_pset (cc cc' : Conn) (r : Retry) (p : Pending) :
    pget cc' (pset cc r p) = if cc' = cc then r else pget cc' p := by
  unfold pget pset
  split
  · rename_i hany
    have hf : ((fun e : Conn × Retry => decide (e.1 = cc')) ∘ fun e => if e.1 = cc then (cc, r) else e) =
        fun e => decide (e.1 = cc') :=
      funext fun e => by by_cases h : e.1 = cc <;> simp [h]
    rw [List.find?_map, hf]
    cases hx : p.find? (fun e => decide (e.1 = cc')) with
    | none =>
      have hne : cc' ≠ cc := fun e => by
        obtain ⟨x, hxm, hx1⟩ := List.any_eq_true.mp hany
        exact List.find?_eq_none.mp hx x hxm (e ▸ hx1)
      rw [if_neg hne]; rfl
    | some x =>
      have hx1 : x.1 = cc' := by simpa using List.find?_some hx
      by_cases h : cc' = cc
      · simp [h, hx1.trans h]
      · have h' : ¬ x.1 = cc := fun e => h (hx1.symm.trans e)
        simp [h, h']
  · rename_i hany
    rw [List.find?_append]
    by_cases h : cc' = cc
    · subst h
      rw [List.find?_eq_none.mpr fun x hx hx1 => hany (List.any_eq_true.mpr ⟨x, hx, hx1⟩)]
      simp
    · have h' : ¬ cc = cc' := fun e => h e.symm
      simp [h, h']

theorem mem_pset (cc : Conn) (r : Retry) (p : Pending) (x : Conn × Retry) (hx : x ∈ pset cc r p) :
    x = (cc, r) ∨ x ∈ p := by
  unfold pset at hx
  split at hx
  · obtain ⟨e, he, hf⟩ := List.mem_map.mp hx
    by_cases hc : e.1 = cc
    · rw [if_pos hc] at hf; exact Or.inl hf.symm
    · rw [if_neg hc] at hf; exact Or.inr (hf ▸ he)
  · rcases List.mem_append.mp hx with h | h
    · exact Or.inr h
    · exact Or.inl (List.mem_singleton.mp h)

theorem pget_empty_or_mem (cc : Conn) (p : Pending) : pget cc p = {} ∨ ∃ x ∈ p, x.2 = pget cc p := by
  unfold pget
  cases h : p.find? (fun e => decide (e.1 = cc)) with
  | none => exact Or.inl rfl
  | some x => exact Or.inr ⟨x, List.mem_of_find?_eq_some h, rfl⟩

theorem addCmds_cmds (cc : Conn) (es : List Entry) (p : Pending) :
    (pget cc (addCmds cc es p)).cmds = (pget cc p).cmds ++ es ∧ (pget cc (addCmds cc es p)).asks = (pget cc p).asks := by
  unfold addCmds
  simp only [pget_pset, if_pos]
  exact ⟨trivial, trivial⟩

theorem addCmds_other (cc cc' : Conn) (es : List Entry) (p : Pending) (h : cc' ≠ cc) :
    pget cc' (addCmds cc es p) = pget cc' p := by
  unfold addCmds
  exact (pget_pset cc cc' _ p).trans (if_neg h)

theorem addAsks_asks (cc : Conn) (es : List Entry) (p : Pending) :
    (pget cc (addAsks cc es p)).asks = (pget cc p).asks ++ es := by
  unfold addAsks
  rw [pget_pset, if_pos rfl]

theorem groupBy_spec (cc : Conn) : ∀ (L : List (Entry × Conn)) (p : Pending),
    (pget cc (groupBy L p)).cmds = (pget cc p).cmds ++ ((L.filter fun x => decide (x.2 = cc)).map (·.1)) ∧
    (pget cc (groupBy L p)).asks = (pget cc p).asks := by
  intro L
  induction L with
  | nil => intro p; simp [groupBy]
  | cons x rest ih =>
    intro p
    obtain ⟨e, c0⟩ := x
    unfold groupBy
    obtain ⟨h1, h2⟩ := ih (addCmds c0 [e] p)
    by_cases hc : c0 = cc
    · subst hc
      obtain ⟨a1, a2⟩ := addCmds_cmds c0 [e] p
      rw [h1, h2, a1, a2]
      simp
    · have := addCmds_other c0 cc [e] p (fun h => hc h.symm)
      rw [h1, h2, this]
      simp [hc]

theorem scanLoop_spec (c : Client) : ∀ (ys : List Cmd) (a b : Nat), scanLoop c true ys a = .go b →
    (a = initSlot ∨ a = b) ∧ ∀ cmd ∈ ys, cmd.slot ≠ initSlot → cmd.slot = b
  | [], _, _, h => ⟨Or.inr (Scan.go.inj h), fun _ hc => nomatch hc⟩
  | y :: ys, a, b, h => by
    unfold scanLoop at h
    split at h
    · rename_i hy
      obtain ⟨h1, h2⟩ := scanLoop_spec c ys a b h
      exact ⟨h1, fun cmd hc hne => (List.mem_cons.mp hc).elim (fun e => absurd (e ▸ hy) hne) (h2 cmd · hne)⟩
    · rename_i hy
      split at h
      · cases h
      · rename_i hmix
        simp only at h
        split at h
        · cases h
        · obtain ⟨h1, h2⟩ := scanLoop_spec c ys _ b h
          -- `y` is keyed: it sets the slot if there was none, else it must agree with it
          have hyb : y.slot = b ∧ (a = initSlot ∨ a = b) := by
            by_cases ha : a = initSlot
            · rw [if_pos ha] at h1
              exact ⟨h1.resolve_left hy, Or.inl ha⟩
            · rw [if_neg ha] at h1
              have hab := h1.resolve_left ha
              exact ⟨hab ▸ Decidable.byContradiction fun hn => hmix ⟨ha, rfl, fun e => hn e.symm⟩, Or.inr hab⟩
          exact ⟨hyb.2, fun cmd hc hne => (List.mem_cons.mp hc).elim (fun e => e ▸ hyb.1) (h2 cmd · hne)⟩

theorem enumFrom_getElem? {α : Type} : ∀ (xs : List α) (k j : Nat),
    (enumFrom k xs)[j]? = (xs[j]?).map fun x => (k + j, x) := by
  intro xs
  induction xs with
  | nil => intro k j; simp [enumFrom]
  | cons x rest ih =>
    intro k j
    cases j with
    | zero => simp [enumFrom]
    | succ j =>
      simp only [enumFrom, List.getElem?_cons_succ]
      rw [ih (k + 1) j]
      cases rest[j]? <;> simp <;> omega

theorem enumFrom_length {α : Type} : ∀ (xs : List α) (k : Nat), (enumFrom k xs).length = xs.length := by
  intro xs
  induction xs with
  | nil => intro k; rfl
  | cons x rest ih => intro k; simp [enumFrom, ih]

theorem mem_enumFrom {α : Type} : ∀ (xs : List α) (k : Nat) (e : Nat × α), e ∈ enumFrom k xs →
    ∃ j, e.1 = k + j ∧ xs[j]? = some e.2
  | [], _, _, h => nomatch h
  | x :: xs, k, e, h => by
    rcases List.mem_cons.mp h with rfl | h
    · exact ⟨0, rfl, rfl⟩
    · obtain ⟨j, h1, h2⟩ := mem_enumFrom xs (k + 1) e h
      exact ⟨j + 1, by rw [h1, Nat.add_assoc, Nat.add_comm 1], h2⟩

theorem enumZip_sorted {α β : Type} : ∀ (xs : List α) (ys : List β) (k : Nat),
    ((enumFrom k xs).zip ys).Pairwise fun a b => a.1.1 < b.1.1 := by
  intro xs
  induction xs with
  | nil => intro ys k; simp [enumFrom]
  | cons x rest ih =>
    intro ys k
    cases ys with
    | nil => simp
    | cons y ys =>
      simp only [enumFrom, List.zip_cons_cons, List.pairwise_cons]
      refine ⟨?_, ih ys (k + 1)⟩
      intro a ha
      obtain ⟨j, hj, _⟩ := mem_enumFrom rest (k + 1) a.1 (List.of_mem_zip (a := a.1) (b := a.2) ha).1
      omega

theorem askingItems_strip : ∀ (es : List Entry) (b : Bool),
    (askingItems b es).filter (fun it => !decide (it = Item.asking)) = es.map fun e => Item.cmd e.2.id := by
  intro es
  induction es with
  | nil => intro b; cases b <;> rfl
  | cons e rest ih =>
    intro b
    cases b with
    | true =>
      simp only [askingItems, List.map_cons]
      rw [List.filter_cons_of_pos (by simp), ih]
    | false =>
      simp only [askingItems, List.map_cons]
      rw [List.filter_cons_of_neg (by simp), List.filter_cons_of_pos (by simp), ih]

/-- inside a transaction no ASKING is inserted until the EXEC has passed -/
theorem askingItems_inTx (members : List Entry) (x : Entry) (rest : List Entry)
    (hm : ∀ e ∈ members, e.2.isExec = false) (hx : x.2.isExec = true) :
    askingItems true (members ++ x :: rest) =
      (members.map fun e => Item.cmd e.2.id) ++ Item.cmd x.2.id :: askingItems false rest := by
  induction members with
  | nil => simp [askingItems, hx]
  | cons e ms ih =>
    have he : e.2.isExec = false := hm e (List.mem_cons_self ..)
    simp only [List.cons_append, askingItems, he, Bool.not_false, List.map_cons]
    rw [ih (fun e' h' => hm e' (List.mem_cons_of_mem _ h'))]

def marker (cs : List Entry) (k : Nat) : Bool := isM cs k || isE cs k

theorem scanDown_spec (cs : List Entry) (m : Nat) (hm : marker cs m = true) : ∀ (j : Nat), m ≤ j →
    (∀ k, m < k → k ≤ j → marker cs k = false) → scanDown cs j = some m
  | 0, h, _ => by
    cases Nat.le_zero.mp h
    unfold scanDown
    rw [show (isM cs 0 || isE cs 0) = true from hm]
    rfl
  | j + 1, h, hno => by
    unfold scanDown
    rcases Nat.eq_or_lt_of_le h with rfl | hlt
    · rw [show (isM cs (j + 1) || isE cs (j + 1)) = true from hm]
      rfl
    · rw [show (isM cs (j + 1) || isE cs (j + 1)) = false from hno (j + 1) hlt (Nat.le_refl _)]
      exact scanDown_spec cs m hm j (Nat.le_of_lt_succ hlt) (fun k h1 h2 => hno k h1 (Nat.le_succ_of_le h2))

theorem scanUp_spec (cs : List Entry) (e : Nat) (he : e < cs.length) (hm : marker cs e = true) : ∀ (fuel i : Nat),
    i ≤ e → e - i < fuel → (∀ k, i ≤ k → k < e → marker cs k = false) → scanUp cs fuel i = e
  | 0, _, _, h, _ => absurd h (Nat.not_lt_zero _)
  | fuel + 1, i, hi, hf, hno => by
    unfold scanUp
    rcases Nat.eq_or_lt_of_le hi with rfl | hlt
    · rw [show (isM cs i || isE cs i) = true from hm]
      exact if_neg fun h => Bool.false_ne_true h.2
    · rw [show (isM cs i || isE cs i) = false from hno i (Nat.le_refl _) hlt, if_pos ⟨Nat.lt_trans hlt he, rfl⟩]
      exact scanUp_spec cs e he hm fuel (i + 1) hlt
        (Nat.lt_of_lt_of_le (Nat.sub_succ_lt_self e i hlt) (Nat.le_of_lt_succ hf)) (fun k h1 h2 => hno k (Nat.le_of_succ_le h1) h2)

def askMode : Mode → Bool
  | .ask _ => true
  | _ => false

def target (c : Client) (cc : Conn) (cm : Cmd) : Mode → Conn × Client
  | .move addr => redirectOrNew c addr cc cm.slot true
  | .ask addr => redirectOrNew c addr cc cm.slot false
  | _ => (cc, c)

/-- `decideStep` with its local definitions named -/
theorem decideStep_eq (o : Opt) (cache hasInit : Bool) (attempts : Nat) (cc : Conn) (cs : List Entry) (resps : List Reply)
    (c : Client) (t : Tx) (i ii : Nat) (cm : Cmd) (resp : Reply) :
    decideStep o cache hasInit attempts cc cs resps c t i ii cm resp =
      if skips o cache attempts cm (classify resp) then { c := c, t := t }
      else
        { c := (target c cc cm (classify resp)).2, t := searchTx hasInit cache cs t i,
          rq := if txFound hasInit cache cs resps t (searchTx hasInit cache cs t i) i then
                  mkRq (askMode (classify resp)) (target c cc cm (classify resp)).1 (txBlock cs (searchTx hasInit cache cs t i))
                else if txInside hasInit cache cs (searchTx hasInit cache cs t i) i then .nothing
                else mkRq (askMode (classify resp)) (target c cc cm (classify resp)).1 [(ii, cm)],
          redirInc := txFound hasInit cache cs resps t (searchTx hasInit cache cs t i) i ||
            (!txInside hasInit cache cs (searchTx hasInit cache cs t i) i && classify resp ≠ .retry),
          delay := !txFound hasInit cache cs resps t (searchTx hasInit cache cs t i) i &&
            !txInside hasInit cache cs (searchTx hasInit cache cs t i) i && classify resp = .retry } := by
  unfold decideStep askMode target
  rfl

/-- at the first acting position `i` of a block `cs[m..e]` (MULTI at `m`, EXEC at `e`, no marker in between,
    `m < i ≤ e`) the search finds exactly `(m, e)` -/
theorem searchTx_block (cs : List Entry) (t : Tx) (i m e : Nat) (hme : m < i ∧ i ≤ e) (he : e < cs.length)
    (hM : isM cs m = true) (hE : isE cs e = true) (hmid : ∀ k, m < k → k < e → marker cs k = false)
    (hfirst : eiLt t i = true) : searchTx true false cs t i = { mi := some m, ei := some e } := by
  have hmM : marker cs m = true := by rw [marker, hM]; rfl
  have heM : marker cs e = true := by rw [marker, hE, Bool.or_true]
  have hup : scanUp cs (cs.length + 1) i = e :=
    scanUp_spec cs e he heM (cs.length + 1) i hme.2
      (Nat.lt_succ_of_le (Nat.le_trans (Nat.sub_le e i) (Nat.le_of_lt he)))
      (fun k h1 h2 => hmid k (Nat.lt_of_lt_of_le hme.1 h1) h2)
  have hdown : scanStart cs i = some m := by
    unfold scanStart
    rcases Nat.eq_or_lt_of_le hme.2 with rfl | hlt
    · rw [if_pos hE]
      cases i with
      | zero => exact absurd hme.1 (Nat.not_lt_zero _)
      | succ k => exact scanDown_spec cs m hmM k (Nat.le_of_lt_succ hme.1) (fun j h1 h2 => hmid j h1 (Nat.lt_succ_of_le h2))
    · have hni : isE cs i = false := (Bool.or_eq_false_iff.mp (hmid i hme.1 hlt)).2
      rw [hni, if_neg Bool.false_ne_true]
      exact scanDown_spec cs m hmM i (Nat.le_of_lt hme.1) (fun j h1 h2 => hmid j h1 (Nat.lt_of_le_of_lt h2 hlt))
  unfold searchTx
  rw [hfirst, hdown, hup]
  rfl

def phaseIf (o : Opt) (cache hasInit : Bool) (attempts : Nat) (cc : Conn) (kind : CallKind) (items : List Item)
    (es : List Entry) (s : Acc × World) : Acc × World :=
  if es ≠ [] then phase o cache hasInit attempts cc kind items es s.1 s.2 else s

theorem doRetryCore_eq (o : Opt) (cache hasInit : Bool) (attempts : Nat) (cc : Conn) (re : Retry) (a : Acc) (w : World) :
    doRetryCore o cache hasInit attempts cc re a w =
      phaseIf o cache hasInit attempts cc .multi (if cache then askingCacheItems re.asks else askingItems false re.asks)
        re.asks (phaseIf o cache hasInit attempts cc (callKind cache) (re.cmds.map fun e => Item.cmd e.2.id) re.cmds (a, w)) :=
  rfl

theorem mem_insertP (x y : Conn × Retry) : ∀ (p : Pending), y ∈ insertP x p ↔ y = x ∨ y ∈ p
  | [] => by simp [insertP]
  | z :: rest => by
    unfold insertP
    split
    · exact List.mem_cons
    · rw [List.mem_cons, mem_insertP x y rest, List.mem_cons]; exact or_left_comm

theorem mem_sortP (p : Pending) (y : Conn × Retry) : y ∈ sortP p ↔ y ∈ p := by
  have : ∀ (l acc : Pending), y ∈ l.foldl (fun acc x => insertP x acc) acc ↔ y ∈ acc ∨ y ∈ l := by
    intro l
    induction l with
    | nil => intro acc; simp
    | cons x rest ih =>
      intro acc
      rw [List.foldl_cons, ih, mem_insertP, List.mem_cons, or_comm (a := y = x), or_assoc]
  rw [sortP, this]
  simp

/-- one pass of the `retry:` loop -/
def round (o : Opt) (cache hasInit : Bool) (attempts : Nat) (p : Pending) (a : Acc) (w : World) : Acc × World :=
  runRound o cache hasInit attempts (sortP p) { a with next := [], redirects := 0, hasDelay := false } w

theorem ite_ind {α : Sort _} (M : α → Prop) {c : Prop} [Decidable c] {x y : α} (hx : M x) (hy : M y) :
    M (if c then x else y) := by
  split <;> assumption

/-- the loop runs one round and then either stops or goes on with what that round queued -/
theorem rounds_succ (o : Opt) (cache hasInit : Bool) (fuel : Nat) (p : Pending) (a : Acc) (w : World)
    (attempts redirects : Nat) (M : Acc × World → Prop) (hstop : M (round o cache hasInit attempts p a w))
    (hgo : ∀ att red, M (rounds o cache hasInit fuel (round o cache hasInit attempts p a w).1.next
        (round o cache hasInit attempts p a w).1 (round o cache hasInit attempts p a w).2 att red)) :
    M (rounds o cache hasInit (fuel + 1) p a w attempts redirects) :=
  ite_ind M (ite_ind M (ite_ind M hstop (hgo _ _)) (ite_ind M (hgo _ _) hstop)) hstop

theorem rounds_ind (o : Opt) (cache hasInit : Bool) (P : Pending → Prop) (Q : Acc → World → Prop)
    (hstep : ∀ p a w attempts, P p → Q a w →
      P (round o cache hasInit attempts p a w).1.next ∧
      Q (round o cache hasInit attempts p a w).1 (round o cache hasInit attempts p a w).2) :
    ∀ (fuel : Nat) (p : Pending) (a : Acc) (w : World) (attempts redirects : Nat), P p → Q a w →
      Q (rounds o cache hasInit fuel p a w attempts redirects).1 (rounds o cache hasInit fuel p a w attempts redirects).2 := by
  intro fuel
  induction fuel with
  | zero => intro p a w _ _ _ h; exact h
  | succ fuel ih =>
    intro p a w attempts redirects hp hq
    obtain ⟨hp', hq'⟩ := hstep p a w attempts hp hq
    exact rounds_succ o cache hasInit fuel p a w attempts redirects (fun out => Q out.1 out.2) hq'
      (fun _ _ => ih _ _ _ _ _ hp' hq')

end Rv.ClusterMultiL
