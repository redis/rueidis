/-
Lemmas for C16 `model_conv_eq_spec`: the model of the scalar conversions
(Rv/Model/Accessors.lean, following the code's control flow) agrees with the declarative
specification Rv/Spec/Conv.lean.
-/
import Rv.Lemmas.AccPanic
import Rv.Spec.Conv
namespace Rv.Acc
open Rv.Conv

/-- model result vs. specification result: equal, except that the specification does not say
    which strconv error (syntax / range) a non-numeric text gives -/
inductive Agree {α : Type} : Res α → Res α → Prop
  | ok (v : α) : Agree (.ok v) (.ok v)
  | err (e : String) : Agree (.err e) (.err e)
  | num (fn : String) (k : NumErr) : Agree (.err (numErrTag fn k)) (.err eNum)

theorem digitVal_of_isDigit {c : UInt8} (h : Conv.isDigit c) : digitVal c = some (c.toNat - 48) := by
  unfold Conv.isDigit at h
  simp [digitVal, h]

theorem digit_lt_ten {c : UInt8} (h : Conv.isDigit c) : c.toNat - 48 < 10 := by
  unfold Conv.isDigit at h
  have h2 : c.toNat ≤ 57 := by have := h.2; simpa [UInt8.le_iff_toNat_le] using this
  omega

theorem digit_ne_95 {c : UInt8} (h : Conv.isDigit c) : c ≠ 95 := by
  intro e; subst e; revert h; decide

theorem digitVal_not_digit {c : UInt8} (h : ¬ Conv.isDigit c) : digitVal c = none ∨ ∃ d, digitVal c = some d ∧ d ≥ 10 := by
  unfold Conv.isDigit at h
  unfold digitVal
  simp only [h, if_false]
  split
  · right; rename_i hl; refine ⟨_, rfl, ?_⟩; omega
  · left; rfl

theorem decFold_ge : ∀ (cs : Bytes) (n v : Nat), decFold cs n = some v → n ≤ v
  | [], n, v, h => by simp [decFold] at h; omega
  | c :: cs, n, v, h => by
    unfold decFold at h
    split at h
    · have := decFold_ge cs _ v h; omega
    · simp at h

theorem uintLoop_spec : ∀ (cs : Bytes) (n : Nat) (u : Bool), n < 18446744073709551616 →
    match decFold cs n with
    | some v =>
      if v < 18446744073709551616 then uintLoop 10 false cs n u = .ok (v, u) else ∃ k, uintLoop 10 false cs n u = .error k
    | none => ∃ k, uintLoop 10 false cs n u = .error k
  | [], n, u, hn => by simp [decFold, uintLoop, hn]
  | c :: cs, n, u, hn => by
    by_cases hd : Conv.isDigit c
    · have hdv := digitVal_of_isDigit hd
      have h10 := digit_lt_ten hd
      have h95 := digit_ne_95 hd
      simp only [decFold, hd, if_true]
      by_cases hov : n * 10 + (c.toNat - 48) ≥ 18446744073709551616
      · have hr : ∃ k, uintLoop 10 false (c :: cs) n u = .error k := ⟨.range, by simp [uintLoop, h95, hdv, hov]; omega⟩
        cases hf : decFold cs (n * 10 + (c.toNat - 48)) with
        | none => exact hr
        | some v =>
          have := decFold_ge _ _ _ hf
          simp only [show ¬ v < 18446744073709551616 by omega, if_false]
          exact hr
      · have hstep : uintLoop 10 false (c :: cs) n u = uintLoop 10 false cs (n * 10 + (c.toNat - 48)) u := by
          have a : ¬ (10 ≤ c.toNat - 48) := by omega
          have b : ¬ (18446744073709551616 ≤ n * 10 + (c.toNat - 48)) := hov
          simp [uintLoop, h95, hdv, a, b]
        rw [hstep]
        exact uintLoop_spec cs _ u (by omega)
    · simp only [decFold, hd, if_false]
      rcases digitVal_not_digit hd with h | ⟨d, h, hge⟩
      · exact ⟨.syntax, by by_cases h95 : c = 95 <;> simp [uintLoop, h]⟩
      · exact ⟨.syntax, by simp [uintLoop, h, hge]⟩

theorem parseUint_spec (s : Bytes) :
    match decUint64 s with
    | some v => parseUint s 10 = .ok v
    | none => ∃ k, parseUint s 10 = .error k := by
  by_cases hs : s = []
  · subst hs; exact ⟨.syntax, rfl⟩
  · have hl := uintLoop_spec s 0 false (by omega)
    have hcfg : uintCfg s 10 = (10, s, false) := by simp [uintCfg]
    have herr : (∃ k, uintLoop 10 false s 0 false = .error k) → ∃ k, parseUint s 10 = .error k :=
      fun ⟨k, hk⟩ => ⟨k, by simp [parseUint, hs, hcfg, hk]⟩
    simp only [decUint64, decNat, hs, if_false]
    cases hf : decFold s 0 with
    | none => rw [hf] at hl; exact herr hl
    | some w =>
      rw [hf] at hl
      by_cases hw : w < 18446744073709551616
      · simp only [hw, if_true] at hl ⊢
        simp [parseUint, hs, hcfg, hl]
      · simp only [hw, if_false] at hl ⊢
        exact herr hl

theorem liftNum_agree_uint (s : Bytes) : Agree (liftNum "ParseUint" (parseUint s 10)) (numOf (decUint64 s)) := by
  have h := parseUint_spec s
  split at h
  · rename_i v hd; rw [hd, h]; exact Agree.ok v
  · rename_i hd; obtain ⟨k, hk⟩ := h; rw [hd, hk]; exact Agree.num _ k

theorem signed_agree (neg : Bool) (r : Bytes) :
    Agree (liftNum "ParseInt" (intOfUint neg (parseUint r 10))) (numOf (signed neg (decNat r))) := by
  have h := parseUint_spec r
  unfold decUint64 at h
  cases hd : decNat r with
  | none =>
    obtain ⟨k, hk⟩ : ∃ k, parseUint r 10 = .error k := by simpa only [hd] using h
    simp only [hk, liftNum, numOf, intOfUint, signed]; exact Agree.num _ k
  | some v =>
    by_cases hv : v < 18446744073709551616
    · rw [show parseUint r 10 = .ok v by simpa only [hd, hv, if_true] using h]
      cases neg
      · by_cases h63 : v < 9223372036854775808
        · simp [intOfUint, signed, Nat.not_le.mpr h63, h63, liftNum, numOf]; exact Agree.ok _
        · simp [intOfUint, signed, Nat.le_of_not_lt h63, h63, liftNum, numOf]; exact Agree.num _ _
      · by_cases h63 : v ≤ 9223372036854775808
        · simp [intOfUint, signed, Nat.not_lt.mpr h63, h63, liftNum, numOf]; exact Agree.ok _
        · simp [intOfUint, signed, Nat.lt_of_not_le h63, h63, liftNum, numOf]; exact Agree.num _ _
    · obtain ⟨k, hk⟩ : ∃ k, parseUint r 10 = .error k := by simpa only [hd, hv, if_false] using h
      have h1 : ¬ v < 9223372036854775808 := by omega
      have h2 : ¬ v ≤ 9223372036854775808 := by omega
      cases neg <;> simp [hk, liftNum, numOf, intOfUint, signed, h1, h2] <;> exact Agree.num _ k

theorem liftNum_agree_int (s : Bytes) : Agree (liftNum "ParseInt" (parseInt s 10)) (numOf (decInt64 s)) := by
  match s with
  | [] => simp [parseInt, decInt64, decNat, signed, liftNum, numOf]; exact Agree.num _ _
  | c :: r =>
    by_cases h43 : c = 43
    · subst h43; simpa [parseInt, signSplit, decInt64] using signed_agree false r
    · by_cases h45 : c = 45
      · subst h45; simpa [parseInt, signSplit, decInt64] using signed_agree true r
      · have e1 : signSplit (c :: r) = (false, c :: r) := by
          unfold signSplit; split <;> simp_all
        have e2 : decInt64 (c :: r) = signed false (decNat (c :: r)) := by
          unfold decInt64; split <;> simp_all
        simpa [parseInt, e1, e2] using signed_agree false (c :: r)

theorem trimErr_eq_stripErr (s : Bytes) : trimErr s = stripErr s := by
  unfold trimErr stripErr errPrefix
  split
  · have hs := List.take_append_drop 4 s
    rw [‹List.take 4 s = _›] at hs
    rw [← hs]; rfl
  · split
    · exact absurd rfl ‹¬ _›
    · rfl

section
variable (fp : FP) (m : Msg)

theorem errOf_eq_replyError : errOf m = replyError m := by
  unfold errOf replyError isNullK isErrK; rw [trimErr_eq_stripErr]; rfl

theorem Agree.ite {α} {c : Prop} {i j : Decidable c} {a b a' b' : Res α} (h1 : c → Agree a a') (h2 : ¬ c → Agree b b') :
    Agree (@_root_.ite _ c i a b) (@_root_.ite _ c j a' b') := by
  cases i <;> cases j <;> first | exact h1 ‹_› | exact h2 ‹_› | contradiction

theorem toStr_agree (h : InRange m) : Agree (toStr m) (specToString m) := by
  have hk := h.kids
  simp only [isAggK] at hk
  rcases Decidable.em (m.typ = 36 ∨ m.typ = 43 ∨ m.typ = 58 ∨ m.typ = 95 ∨ m.typ = 45 ∨ m.typ = 33 ∨ m.typ = 42 ∨
    m.typ = 37 ∨ m.typ = 126 ∨ m.typ = 62 ∨ m.typ = 124) with (ht|ht|ht|ht|ht|ht|ht|ht|ht|ht|ht) | ht
  all_goals
    simp_all [toStr, specToString, errOf, replyError, isNullK, isErrK, isString, hasArray, isAggTyp, isIntK, isAggK,
      tBlob, tSimple, tInt, tArray, tMap, tSet, tPush, tAttr, tNull, tErr, tBlobErr, trimErr_eq_stripErr]
  all_goals first | exact Agree.err _ | exact Agree.ok _

theorem asBool_agree : Agree (asBool m) (specAsBool m) := by
  unfold asBool specAsBool; rw [errOf_eq_replyError]
  cases replyError m
  · exact .ite (fun _ => .ok _) fun _ => .ite (fun _ => .ok _) fun _ => .ite (fun _ => .ok _) fun _ => .err _
  · exact .err _

theorem toBool_agree : Agree (Acc.toBool m) (specToBool m) := by
  unfold Acc.toBool specToBool errOrParse; rw [errOf_eq_replyError]
  exact .ite (fun _ => .ok _) fun _ => by cases replyError m <;> exact .err _

theorem toInt64_agree : Agree (toInt64 m) (specToInt64 m) := by
  unfold toInt64 specToInt64 errOrParse; rw [errOf_eq_replyError]
  exact .ite (fun _ => .ok _) fun _ => by cases replyError m <;> exact .err _

theorem utilFloat_eq_floatOf (s : Bytes) : utilFloat fp s = floatOf fp s := by
  by_cases h : fp.ok s = true <;> by_cases h2 : s = [45, 110, 97, 110] <;> simp [utilFloat, floatOf, minusNan, h, h2]

theorem floatOf_agree (s : Bytes) : Agree (floatOf fp s) (floatOf fp s) := by
  unfold floatOf; repeat' split
  all_goals first | exact Agree.err _ | exact Agree.ok _

theorem toFloat64_agree : Agree (toFloat64 fp m) (specToFloat64 fp m) := by
  unfold toFloat64 specToFloat64 errOrParse; rw [errOf_eq_replyError, utilFloat_eq_floatOf]
  exact .ite (fun _ => floatOf_agree _ _) fun _ => by cases replyError m <;> exact .err _

/-- the text-based conversions factor through ToString on both sides -/
theorem via_text {α} (m : Msg) (h : InRange m) {f g : Bytes → Res α}
    (hfg : ∀ s, Agree (f s) (g s)) :
    Agree (match toStr m with | .ok v => f v | .err e => .err e | .panic => .panic | .oom => .oom)
          (match specToString m with | .ok s => g s | .err e => .err e | _ => .err "unreachable") := by
  have := toStr_agree m h
  revert this
  cases toStr m <;> cases specToString m <;> intro ha <;> cases ha
  · exact hfg _
  · exact Agree.err _
  · exact Agree.num _ _

theorem asFloat64_agree (h : InRange m) : Agree (asFloat64 fp m) (specAsFloat64 fp m) := by
  unfold asFloat64 specAsFloat64
  by_cases hf : m.typ = 44
  · have hs : specToString m = .ok m.str := by
      simp [specToString, replyError, isNullK, isErrK, isIntK, isAggK, hf]
    simp [hf, tFloat, hs, utilFloat_eq_floatOf]; exact floatOf_agree _ _
  · simp only [tFloat, hf, if_false]
    exact via_text m h (fun s => by rw [utilFloat_eq_floatOf]; exact floatOf_agree fp s)

theorem mapR_agree {α} (f g : Msg → Res α) (vs : List Msg) (h : ∀ v ∈ vs, Agree (f v) (g v)) :
    Agree (mapR f vs)
      (vs.foldr (fun v acc =>
        match g v, acc with
        | .ok x, .ok xs => .ok (x :: xs)
        | .ok _, r => r
        | .err e, _ => .err e
        | _, _ => .err "unreachable") (.ok [])) := by
  induction vs with
  | nil => exact Agree.ok _
  | cons v r ih =>
    have hv := h v (by simp)
    have hr := ih (fun x hx => h x (by simp [hx]))
    simp only [List.foldr_cons, mapR]
    revert hv hr
    generalize f v = a
    generalize g v = b
    generalize mapR f r = c
    generalize (r.foldr _ _) = d
    intro hv hr
    cases hv <;> cases hr <;> first | exact Agree.ok _ | exact Agree.err _ | exact Agree.num _ _

theorem slice_agree {α} (f g : Msg → Res α) (m : Msg) (h : ∀ v ∈ m.arr, Agree (f v) (g v)) :
    Agree (match toArray m with | .ok vs => mapR f vs | .err e => .err e | .panic => .panic | .oom => .oom)
      (sliceOf g m) := by
  unfold toArray errOrParse sliceOf; rw [errOf_eq_replyError]
  by_cases ha : isArray m
  · rw [if_pos ha, if_pos (show m.typ = 42 ∨ m.typ = 126 from ha)]; exact mapR_agree f g m.arr h
  · rw [if_neg ha, if_neg (show ¬ (m.typ = 42 ∨ m.typ = 126) from ha)]; cases replyError m <;> exact .err _

theorem intElem_agree (v : Msg) (h : InRange v) (ha : ¬ isAggK v) : Agree (intElem v) (elemInt v) := by
  unfold intElem elemInt
  refine .ite (fun _ => liftNum_agree_int _) fun hs => ?_
  by_cases hk : isIntK v ∨ isBoolK v
  · rw [if_pos hk]; exact .ok _
  · rw [if_neg hk, h.textLen (fun x => hk (.inl x)) (fun x => hk (.inr x)) ha (Decidable.of_not_not hs)]; exact .ok _

theorem floatElem_agree (v : Msg) (h : InRange v) (ha : ¬ isAggK v) :
    Agree (floatElem fp v) (elemFloat fp v) := by
  unfold floatElem elemFloat
  refine .ite (fun _ => utilFloat_eq_floatOf fp _ ▸ floatOf_agree _ _) fun hs => ?_
  by_cases hk : isIntK v ∨ isBoolK v
  · rw [if_pos hk]; exact .ok _
  · rw [if_neg hk, h.textLen (fun x => hk (.inl x)) (fun x => hk (.inr x)) ha (Decidable.of_not_not hs)]; exact .ok _

theorem boolElem_agree (v : Msg) : Agree (orZero (asBool v) false) (elemBool v) := by
  have := asBool_agree v
  unfold elemBool orZero
  revert this
  cases asBool v <;> cases specAsBool v <;> intro ha <;> cases ha <;> exact Agree.ok _

theorem asStrSlice_agree : Agree (asStrSlice m) (specAsStrSlice m) := by
  have h := slice_agree (fun v => Res.ok v.str) elemStr m (fun v _ => Agree.ok _)
  have hm : ∀ vs : List Msg, mapR (fun v => Res.ok v.str) vs = .ok (vs.map Msg.str) := by
    intro vs; induction vs with
    | nil => rfl
    | cons x r ih => simp [mapR, ih]
  unfold asStrSlice specAsStrSlice
  cases ht : toArray m <;> simp only [ht, hm] at h ⊢ <;> exact h

end

end Rv.Acc
