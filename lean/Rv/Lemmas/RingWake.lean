/-
The writer's side of the wake-up protocol (c2): `slept` is set exactly while the writer is parked
or just woken, and a caller that filled a slot with `slept` set owes the Broadcast, with the
writer still parked there, until it has sent it.
-/
import Rv.Lemmas.RingInvB
namespace Rv.Ring

/-- no lost wake-up between `slept`, c2.Wait and c2.Broadcast -/
structure InvW (k : Nat) (σ : State) : Prop where
  sl : ∀ s, (σ.slot s).slept = true → σ.wpc = .sleeping s ∨ σ.wpc = .woken s
  sl' : ∀ s, σ.wpc = .sleeping s → (σ.slot s).slept = true
  bc : ∀ c s, σ.pc c = .bcast s → σ.wpc = .sleeping s ∧ (σ.slot s).mark = 1
  wk : ∀ s, σ.wpc = .woken s → (σ.slot s).mark = 1
  lw2 : ∀ s, σ.wpc = .sleeping s → (σ.slot s).mark = 1 → ∃ c, (σ.slot s).cmd = some c ∧ σ.pc c = .bcast s

theorem InvW.init (k : Nat) : InvW k (init k) := by
  refine ⟨?_, ?_, ?_, ?_, ?_⟩ <;> simp [Ring.init]

section
variable {k : Nat} {σ : State}

theorem InvW.pcOnly {τ : State} (h : InvW k σ) (es : τ.slot = σ.slot) (ew : τ.wpc = σ.wpc)
    {c : Nat} {v : Pc} (ep : τ.pc = upd σ.pc c v) (hu : ∀ s, σ.pc c ≠ .bcast s) (hv : ∀ s, v ≠ .bcast s) :
    InvW k τ := by
  refine ⟨es ▸ ew ▸ h.sl, es ▸ ew ▸ h.sl', ?_, es ▸ ew ▸ h.wk, ?_⟩
  · intro c' s hh; rw [es, ew]; rw [ep] at hh; exact h.bc c' s (upd_eq_old hh (hv s)).2
  · intro s hw hm; rw [es, ep]; rw [ew] at hw; rw [es] at hm
    obtain ⟨c', h1, h2⟩ := h.lw2 s hw hm
    exact ⟨c', h1, upd_eq_keep (hu s) h2⟩

theorem InvW.not_slept (h : InvW k σ) (hw : σ.wpc = .idle) (s : Nat) :
    (σ.slot s).slept = false := by
  cases e : (σ.slot s).slept
  · rfl
  · have := h.sl s e; rw [hw] at this; rcases this with t | t <;> cases t

theorem InvW.take (h : InvW k σ) (s : Nat) (b : Bool)
    (hw : σ.wpc = .idle ∨ σ.wpc = .woken s) (hb : b = false ∨ σ.wpc = .idle ∧ b = (σ.slot s).slept) :
    InvW k (take σ s b) := by
  have hb : b = false := hb.elim id fun hb => hb.2.trans (h.not_slept hb.1 s)
  subst hb
  refine ⟨?_, nofun, ?_, nofun, nofun⟩
  · intro s' hh; simp only [Ring.take, upd_apply] at hh
    split at hh
    · cases hh
    · rename_i e
      rcases hw with hw | hw
      · rw [h.not_slept hw] at hh; cases hh
      · have := h.sl s' hh; rw [hw] at this
        rcases this with t | t
        · cases t
        · injection t with t; exact absurd t.symm e
  · intro c s' hh; have := (h.bc c s' hh).1; rcases hw with hw | hw <;> rw [hw] at this <;> cases this

theorem InvW.step (hi : Inv k σ) (h : InvW k σ) (l : Label)
    (he : enabled k l σ = true) : InvW k (apply k l σ) := by
  apply step_cases (motive := fun _ τ => InvW k τ) l he
  case arrive =>
    exact fun s _ => h.pcOnly rfl rfl rfl (by rw [hi.b.fresh _ (Nat.le_refl _)]; nofun) nofun
  case park => exact fun c s hpc _ => h.pcOnly rfl rfl rfl (by rw [hpc]; nofun) nofun
  case deliver => exact fun c s r _ hpc => h.pcOnly rfl rfl rfl (by rw [hpc]; nofun) nofun
  case wake => exact fun c s _ hpc => h.pcOnly rfl rfl rfl (by rw [hpc]; nofun) nofun
  case take => exact fun _ s b hw hb _ => h.take s b (hw.imp And.left id) hb
  case fill =>
    intro c s hpc _ hm
    refine ⟨?_, ?_, ?_, ?_, ?_⟩
    · intro s'; dsimp only; rw [upd_keep (·.slept)]; exact h.sl s'
    · intro s' hw; dsimp only; rw [upd_keep (·.slept)]; exact h.sl' s' hw
    · intro c' s'; simp only [upd_apply]
      by_cases e : c' = c
      · subst e; simp only [if_true]
        intro hh
        split at hh
        · rename_i hsl
          injection hh with hh; subst hh
          simp only [if_true]
          refine ⟨?_, trivial⟩
          rcases h.sl s hsl with t | t
          · exact t
          · have := h.wk s t; omega
        · cases hh
      · simp only [e, if_false]
        intro hh
        obtain ⟨b1, b2⟩ := h.bc c' s' hh
        have : s' ≠ s := by intro e2; subst e2; omega
        simp only [this, if_false]; exact ⟨b1, b2⟩
    · intro s' hw
      have := h.wk s' hw
      have : s' ≠ s := by intro e2; subst e2; omega
      simp only [upd_apply, this, if_false]; assumption
    · intro s' hw; simp only [upd_apply]
      by_cases e : s' = s
      · subst e; simp only [if_true]
        intro _
        exact ⟨c, rfl, by simp [h.sl' s' hw]⟩
      · simp only [e, if_false]
        intro hm'
        obtain ⟨c', h1, h2⟩ := h.lw2 s' hw hm'
        exact ⟨c', h1, upd_eq_keep (by rw [hpc]; nofun) h2⟩
  case bcast =>
    intro c s hpc
    obtain ⟨hw, hm⟩ := h.bc c s hpc
    simp only [hw, if_true]
    refine ⟨?_, nofun, ?_, ?_, nofun⟩
    · intro s' hh
      have := h.sl s' hh; rw [hw] at this
      rcases this with t | t
      · injection t with t; subst t; exact Or.inr rfl
      · cases t
    · -- a second caller owing a Broadcast for the same slot would be a second owner of the slot
      intro c' s' hh
      obtain ⟨e, hh⟩ := upd_eq_old hh nofun
      exfalso
      have b1 := (h.bc c' s' hh).1
      rw [hw] at b1; injection b1 with b1; subst b1
      exact e (hi.b.owner_unique hi.a (.inr hh) (.inr hpc))
    · intro s' hh; injection hh with hh; subst hh; exact hm
  case sleep =>
    intro _ s hw _ hm
    have hw : σ.wpc = .idle := by
      rcases hw with hw | hw
      · exact hw.1
      · exact absurd (h.wk s hw) hm
    refine ⟨?_, ?_, ?_, nofun, ?_⟩
    · intro s'; simp only [upd_apply]; split
      · rename_i e; subst e; intro _; exact Or.inl rfl
      · intro hh; rw [h.not_slept hw s'] at hh; cases hh
    · intro s' hh; injection hh with hh; subst hh; simp only [upd_same]
    · intro c s' hh; have := (h.bc c s' hh).1; rw [hw] at this; cases this
    · intro s' hh; injection hh with hh; subst hh; simp only [upd_same]; intro hm'; exact absurd hm' hm
  case rTake =>
    intro s _ _ hm
    refine ⟨?_, ?_, ?_, ?_, ?_⟩
    · intro s'; dsimp only; rw [upd_keep (·.slept)]; exact h.sl s'
    · intro s' hw; dsimp only; rw [upd_keep (·.slept)]; exact h.sl' s' hw
    · intro c s' hh
      obtain ⟨b1, b2⟩ := h.bc c s' hh
      refine ⟨b1, ?_⟩
      simp only [upd_apply]; split
      · rename_i e; subst e; omega
      · exact b2
    · intro s' hw
      have := h.wk s' hw
      simp only [upd_apply]; split
      · rename_i e; subst e; omega
      · exact this
    · intro s' hw; simp only [upd_apply]; split
      · nofun
      · exact h.lw2 s' hw
  -- `skip` and the reader on its own write nothing that InvW reads
  all_goals intros; exact ⟨h.sl, h.sl', h.bc, h.wk, h.lw2⟩

end

end Rv.Ring
