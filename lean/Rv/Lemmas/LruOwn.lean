/-
`Flight`/`Flights` of the LRU model answer a command only with the entry filed under exactly that
command's (key, cmd): positional identity of batch lookups.
-/
import Rv.Lemmas.LruFlights
namespace Rv.Lru

theorem outcome_own_entry {s s' : State} {k c : Bytes} {ttl now : Int} {r : FRes}
    (o : Outcome4 s k c ttl now s' r) (hr : r ≠ .send) :
    ∃ e ∈ s.list, e.key = k ∧ e.cmd = c ∧ valid e (unixMilli now) = true ∧ r = resOf e := by
  obtain ⟨-, e, hf, hv, hre⟩ := o.of_ne_send hr
  have := find?_some hf
  exact ⟨e, this.1, this.2.1, this.2.2, hv, hre⟩

theorem flights2_keeps_valid (multi : List (Bytes × Bytes × Int)) (now : Int) (ms : List Nat) (s : State)
    (res : List (Option FRes)) (out : List Nat) {x : Entry} (hx : x ∈ s.list) (hv : valid x (unixMilli now) = true) :
    x ∈ (flights2 multi now ms s res out).1.list :=
  flights2_ind (Φ := fun s => x ∈ s.list) (fun s k c ttl hx => (locked_cases s k c ttl now).keeps_valid hx hv)
    multi ms hx res out

/-- the second loop of `Flights` files every answer under the identity of the command at that position -/
theorem flights2_own (multi : List (Bytes × Bytes × Int)) (now : Int) (ms : List Nat) (s : State)
    (res : List (Option FRes)) (out : List Nat) (j : Nat) (r : FRes) (hr : r ≠ .send)
    (h : (flights2 multi now ms s res out).2.1[j]? = some (some r)) :
    res[j]? = some (some r) ∨ ∃ k c ttl, multi[j]? = some (k, c, ttl) ∧
      ∃ e ∈ (flights2 multi now ms s res out).1.list, e.key = k ∧ e.cmd = c ∧ r = resOf e := by
  refine (flights2_slot (Φ := fun _ => True) (fun _ _ _ _ _ => trivial) multi ms trivial res out h).imp_right ?_
  rintro ⟨s', k, c, ttl, ms', res', out', -, hm, hr', heq⟩
  have o := locked_cases s' k c ttl now
  obtain ⟨e, he, hk, hc, hv, hre⟩ := outcome_own_entry o (hr' ▸ hr)
  exact ⟨k, c, ttl, hm, e, heq ▸ flights2_keeps_valid _ _ _ _ _ _ (o.keeps_valid he hv) hv, hk, hc, hr'.trans hre⟩

/-- **`Flights` never answers a command with another command's entry**: whatever it puts at position `j` (a hit in
    `results[j]` or a pending entry in `entries[j]`) is the answer `resOf e` of an entry `e` of the resulting store
    whose (key, cmd) is that of the j-th command of the batch. -/
theorem flights_own (s : State) (now : Int) (multi : List (Bytes × Bytes × Int)) (j : Nat) (r : FRes) (hr : r ≠ .send)
    (h : (flights s now multi).2.1[j]? = some (some r)) :
    ∃ k c ttl, multi[j]? = some (k, c, ttl) ∧
      ∃ e ∈ (flights s now multi).1.list, e.key = k ∧ e.cmd = c ∧ r = resOf e := by
  have hspec := flightsMid_spec s now multi
  have t1 := flights1_res (unixMilli now) multi 0 { s := s, res := [], moves := [], missed := [] }
  unfold flights at h ⊢
  unfold flightsMid at hspec
  generalize flights1 (unixMilli now) multi 0 { s := s, res := [], moves := [], missed := [] } = a at h t1 hspec
  simp only [List.nil_append] at t1
  have hmem := hspec.1
  -- an entry found by the first loop is valid and in the list after the moves; `l` is the final list
  have hphase1 : ∀ l : List Entry,
      (∀ e ∈ a.moves.foldl moveToBack a.s.list, valid e (unixMilli now) = true → e ∈ l) → a.res[j]? = some (some r) →
      ∃ k c ttl, multi[j]? = some (k, c, ttl) ∧ ∃ e ∈ l, e.key = k ∧ e.cmd = c ∧ r = resOf e := by
    intro l hl hh
    rw [t1, List.getElem?_map] at hh
    obtain ⟨⟨k, c, ttl⟩, g1, hs⟩ := Option.map_eq_some_iff.1 hh
    obtain ⟨e, g3, g4, g5⟩ := slot1_some hs
    have := find?_some g3
    exact ⟨k, c, ttl, g1, e, hl e ((hmem e).2 this.1) g4, this.2.1, this.2.2, g5⟩
  simp only at h ⊢
  by_cases hm : a.missed.isEmpty = true
  · rw [if_pos hm] at h ⊢; exact hphase1 _ (fun _ he _ => he) h
  · rw [if_neg hm] at h ⊢
    by_cases hcl : a.s.closed = true
    · rw [if_pos hcl] at h ⊢; exact hphase1 _ (fun _ he _ => he) h
    · rw [if_neg hcl] at h ⊢
      rcases flights2_own multi now a.missed _ a.res [] j r hr h with hh | hh
      · exact hphase1 _ (fun e he hv => flights2_keeps_valid _ _ _ _ _ _ he hv) hh
      · exact hh

end Rv.Lru
