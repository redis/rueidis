/-
C29 helper: the C12 reader model only looks at the bytes it consumes, and more fuel does not
change a successful read: whatever it returns on `bs` with fuel `f`, it returns on `bs ++ x`
with any fuel `g ≥ f`, leaving `x` behind as well (`stable_all`).
-/
import Rv.Model.Resp
namespace Rv.StreamL
open Rv Rv.Resp

def Ext {α : Type} (x : List UInt8) (a b : Res (α × List UInt8)) : Prop :=
  ∀ y r, a = .ok (y, r) → b = .ok (y, r ++ x)

theorem Ext.of_err {α : Type} {x : List UInt8} {a b : Res (α × List UInt8)} (h : ∀ y, a ≠ .ok y) : Ext x a b :=
  fun y r e => absurd e (h (y, r))

theorem splitLine_ext (x : List UInt8) : ∀ bs l r, splitLine bs = some (l, r) → splitLine (bs ++ x) = some (l, r ++ x)
  | [], _, _, h => by simp [splitLine] at h
  | b :: bs, l, r, h => by
    rw [List.cons_append, splitLine]
    rw [splitLine] at h
    split at h
    · rename_i hb; cases h; rw [if_pos hb]
    · rename_i hb
      rw [if_neg hb]
      cases hs : splitLine bs with
      | none => rw [hs] at h; cases h
      | some p => rw [hs] at h; cases h; rw [splitLine_ext x bs _ _ hs]

def extI (x : List UInt8) : IRes → IRes
  | .num v r => .num v (r ++ x)
  | .chunked r => .chunked (r ++ x)
  | .fail e => .fail e

theorem readI_ext (B : Nat) (bs x : List UInt8) (h : ∀ e, readI B bs ≠ .fail e) :
    readI B (bs ++ x) = extI x (readI B bs) := by
  cases hs : splitLine bs with
  | none => exact absurd (by unfold readI; rw [hs]) (h _)
  | some p =>
    unfold readI
    rw [hs, splitLine_ext x bs p.1 p.2 hs]
    dsimp only
    simp only [apply_ite (extI x)]
    cases digitsVal _ 0 <;> rfl

theorem grow_mono {a a' : Nat} (ha : a ≤ a') : ∀ f n len, grow f n len a = .ok () → grow f n len a' = .ok ()
  | 0, _, _, _ => rfl
  | f + 1, n, len, h => by
    rw [grow] at h ⊢
    split
    · rename_i hlt
      rw [if_pos hlt] at h
      cases hal : alloc (min (len - n) n : Nat) n capBytes <;> rw [hal] at h <;> try cases h
      simp only at h ⊢
      split at h
      · cases h
      · rename_i hav
        rw [if_neg (by omega)]
        exact grow_mono ha f _ len h
    · rfl

def extB (x : List UInt8) : BRes → BRes
  | .str s r => .str s (r ++ x)
  | .oldNull r => .oldNull (r ++ x)
  | .chunked r => .chunked (r ++ x)
  | .fail z => .fail z

theorem readB_ext (B : Nat) (bs x : List UInt8) (h : ∀ z, readB B bs ≠ .fail z) :
    readB B (bs ++ x) = extB x (readB B bs) := by
  unfold readB at h ⊢
  cases hI : readI B bs with
  | fail e => rw [hI] at h; exact absurd rfl (h _)
  | chunked r => rw [readI_ext B bs x (by simp [hI]), hI]; rfl
  | num len r =>
    rw [readI_ext B bs x (by simp [hI]), hI]
    rw [hI] at h
    simp only [extI] at h ⊢
    by_cases h1 : len = -1
    · simp only [h1, if_true]; rfl
    by_cases h2 : len < 0
    · simp only [h1, h2, if_false, if_true] at h; exact absurd rfl (h _)
    simp only [h1, h2, if_false] at h ⊢
    cases ha : alloc (min len.toNat capBytes : Nat) 0 capBytes <;> simp only [ha] at h ⊢ <;>
      try exact absurd rfl (h _)
    by_cases h3 : r.length < min len.toNat capBytes
    · simp only [h3, if_true] at h; exact absurd rfl (h _)
    have h3' : ¬ (r ++ x).length < min len.toNat capBytes := by rw [List.length_append]; omega
    simp only [h3, h3', if_false] at h ⊢
    cases hg : grow len.toNat (min len.toNat capBytes) len.toNat r.length <;> simp only [hg] at h <;>
      try exact absurd rfl (h _)
    rw [grow_mono (a' := (r ++ x).length) (by simp) _ _ _ hg]
    simp only
    by_cases h4 : (r.drop len.toNat).length < 2
    · simp only [h4, if_true] at h; exact absurd rfl (h _)
    rw [List.length_drop] at h4
    have h4' : ¬ ((r ++ x).drop len.toNat).length < 2 := by rw [List.length_drop, List.length_append]; omega
    rw [if_neg h4', if_neg (by rw [List.length_drop]; exact h4), List.take_append_of_le_length (by omega),
      List.drop_append_of_le_length (by omega)]
    rfl

theorem readChunks_ext (B : Nat) (x : List UInt8) : ∀ f g, f ≤ g → ∀ acc bs,
    Ext x (readChunks B f acc bs) (readChunks B g acc (bs ++ x))
  | 0, _, _, _, _ => .of_err (by rw [readChunks]; exact fun _ e => nomatch e)
  | f + 1, 0, hfg, _, _ => by omega
  | f + 1, g + 1, hfg, acc, [] => .of_err (by rw [readChunks]; exact fun _ e => nomatch e)
  | f + 1, g + 1, hfg, acc, _ :: bs => by
    intro s r' h
    rw [List.cons_append, readChunks]
    rw [readChunks] at h
    cases hI : readI B bs <;> rw [hI] at h <;> try cases h
    rename_i len r
    rw [readI_ext B bs x (by simp [hI]), hI]
    simp only [extI] at h ⊢
    by_cases h1 : len = 0
    · rw [if_pos h1] at h ⊢; cases h; rfl
    by_cases h2 : len < 0
    · rw [if_neg h1, if_pos h2] at h; cases h
    rw [if_neg h1, if_neg h2] at h ⊢
    cases ha : alloc (min len capBytes) 0 capBytes <;> rw [ha] at h <;> try cases h
    dsimp only at h ⊢
    by_cases h3 : r.length < len.toNat
    · rw [if_pos h3] at h; cases h
    by_cases h4 : (r.drop len.toNat).length < 2
    · rw [if_neg h3, if_pos h4] at h; cases h
    rw [if_neg h3, if_neg h4] at h
    rw [List.length_drop] at h4
    rw [if_neg (by rw [List.length_append]; omega), if_neg (by rw [List.length_drop, List.length_append]; omega),
      List.take_append_of_le_length (by omega), List.drop_append_of_le_length (by omega)]
    exact readChunks_ext B x f g (by omega) _ _ s r' h

theorem readS_ext (bs x : List UInt8) : Ext x (readS bs) (readS (bs ++ x)) := by
  intro s r h
  unfold readS at h ⊢
  cases hs : splitLine bs with
  | none => rw [hs] at h; cases h
  | some p =>
    obtain ⟨l, r'⟩ := p
    rw [hs] at h
    rw [splitLine_ext x bs l r' hs]
    simp only at h ⊢
    split at h
    · cases h
    · rename_i hl; cases h; rw [if_neg hl]

theorem discard2_ext (bs x : List UInt8) (r : List UInt8) (h : discard2 bs = .ok r) : discard2 (bs ++ x) = .ok (r ++ x) := by
  unfold discard2 at h ⊢
  split at h
  · cases h
  · rename_i hl; cases h
    rw [if_neg (by rw [List.length_append]; omega), List.drop_append_of_le_length (by omega)]

theorem wrapFixed_ext {x : List UInt8} (t : UInt8) (len : Int) {a b : Res (List Msg × List UInt8)} (h : Ext x a b) :
    Ext x (wrapFixed t len a) (wrapFixed t len b) := by
  intro y r e
  cases a with
  | ok p => rw [h p.1 p.2 rfl]; cases e; rfl
  | _ => cases e

theorem wrapStream_ext {x : List UInt8} (t : UInt8) {a b : Res (List Msg × List UInt8)} (h : Ext x a b) :
    Ext x (wrapStream t a) (wrapStream t b) := by
  intro y r e
  cases a with
  | ok p => rw [h p.1 p.2 rfl]; cases e; rfl
  | _ => cases e

theorem fixedBody_ext {x : List UInt8} (t : UInt8) (len : Int) {k k' : Nat → Res (List Msg × List UInt8)}
    (h : ∀ n, Ext x (k n) (k' n)) : Ext x (fixedBody t len k) (fixedBody t len k') := by
  unfold fixedBody
  cases preFixed len with
  | ok _ => exact wrapFixed_ext t len (h _)
  | _ => exact fun _ _ e => nomatch e

theorem arrCase_ext {x : List UInt8} (t : UInt8) (ri : IRes) {kA kA' : Nat → List UInt8 → Res (List Msg × List UInt8)}
    {kE kE' : List UInt8 → Res (List Msg × List UInt8)}
    (hA : ∀ n r, Ext x (kA n r) (kA' n (r ++ x))) (hE : ∀ r, Ext x (kE r) (kE' (r ++ x))) :
    Ext x (arrCase t ri kA kE) (arrCase t (extI x ri) kA' kE') := by
  cases ri with
  | num len r =>
    unfold arrCase extI
    simp only
    split
    · intro y r' e; cases e; rfl
    · exact fixedBody_ext t len (fun n => hA n r)
  | chunked r0 => exact wrapStream_ext t (hE r0)
  | fail e => exact fun _ _ e => nomatch e

theorem mapCase_ext {x : List UInt8} (t : UInt8) (ri : IRes) {kA kA' : Nat → List UInt8 → Res (List Msg × List UInt8)}
    {kE kE' : List UInt8 → Res (List Msg × List UInt8)}
    (hA : ∀ n r, Ext x (kA n r) (kA' n (r ++ x))) (hE : ∀ r, Ext x (kE r) (kE' (r ++ x))) :
    Ext x (mapCase t ri kA kE) (mapCase t (extI x ri) kA' kE') := by
  cases ri with
  | num len r => exact fixedBody_ext t _ (fun n => hA n r)
  | chunked r0 => exact wrapStream_ext t (hE r0)
  | fail e => exact fun _ _ e => nomatch e

/-- leaf readers do not look at the fuel; the aggregate readers extend when the loops they call do -/
theorem body_ext (B : Nat) (x : List UInt8) (f g : Nat) (t : UInt8) (rk : RK) (bs : List UInt8)
    (hf : 0 < f → (∀ n r, Ext x (readArr B (f - 1) n r) (readArr B (g - 1) n (r ++ x))) ∧
      ∀ acc r, Ext x (readEnd B (f - 1) acc r) (readEnd B (g - 1) acc (r ++ x))) (hfg : f ≤ g) :
    Ext x (readBody B f t rk bs) (readBody B g t rk (bs ++ x)) := by
  have agg : rk = .array ∨ rk = .map → Ext x (readBody B f t rk bs) (readBody B g t rk (bs ++ x)) := by
    intro hrk
    cases f with
    | zero => exact .of_err (by rcases hrk with e | e <;> subst e <;> rw [readBody] <;> exact fun _ e => nomatch e)
    | succ f =>
      obtain ⟨g, rfl⟩ : ∃ g', g = g' + 1 := ⟨g - 1, by omega⟩
      obtain ⟨hA, hE⟩ := hf (Nat.succ_pos f)
      cases hI : readI B bs with
      | fail e => exact .of_err (by rcases hrk with e | e <;> subst e <;> rw [readBody, hI] <;> exact fun _ e => nomatch e)
      | _ =>
        rcases hrk with e | e <;> subst e <;> rw [readBody, readBody, readI_ext B bs x (by simp [hI]), hI]
        · exact arrCase_ext t _ hA (fun r => hE [] r)
        · exact mapCase_ext t _ hA (fun r => hE [] r)
  intro y r h
  cases rk with
  | blob =>
    rw [readBody] at h ⊢
    cases hB : readB B bs with
    | fail z => rw [hB] at h; cases z <;> cases h
    | str _ r1 | oldNull r1 => rw [readB_ext B bs x (by simp [hB]), hB]; rw [hB] at h; cases h; rfl
    | chunked r0 =>
      rw [readB_ext B bs x (by simp [hB]), hB]
      rw [hB] at h
      simp only [extB] at h ⊢
      cases hc : readChunks B (r0.length + 1) [] r0 <;> rw [hc] at h <;> try cases h
      rename_i p
      rw [readChunks_ext B x _ _ (by simp) [] r0 p.1 p.2 hc]
  | simple =>
    rw [readBody] at h ⊢
    cases hS : readS bs <;> rw [hS] at h <;> try cases h
    rename_i p
    rw [readS_ext bs x p.1 p.2 hS]
  | integer =>
    rw [readBody] at h ⊢
    cases hI : readI B bs <;> rw [hI] at h <;> try cases h
    rw [readI_ext B bs x (by simp [hI]), hI]; rfl
  | null =>
    rw [readBody] at h ⊢
    cases hD : discard2 bs <;> rw [hD] at h <;> try cases h
    rw [discard2_ext bs x _ hD]
  | bool =>
    cases bs with
    | nil => rw [readBody] at h; cases h
    | cons b r0 =>
      rw [List.cons_append, readBody]
      rw [readBody] at h
      cases hD : discard2 r0 <;> rw [hD] at h <;> try cases h
      rw [discard2_ext r0 x _ hD]
  | array => exact agg (.inl rfl) y r h
  | map => exact agg (.inr rfl) y r h

def Stable (B : Nat) (x : List UInt8) (f : Nat) : Prop :=
  (∀ g, f ≤ g → ∀ ats bs, Ext x (readNext B f ats bs) (readNext B g ats (bs ++ x))) ∧
  (∀ g, f ≤ g → ∀ t rk bs, Ext x (readBody B f t rk bs) (readBody B g t rk (bs ++ x))) ∧
  (∀ g, f ≤ g → ∀ n bs, Ext x (readArr B f n bs) (readArr B g n (bs ++ x))) ∧
  (∀ g, f ≤ g → ∀ acc bs, Ext x (readEnd B f acc bs) (readEnd B g acc (bs ++ x)))

theorem stable_all (B : Nat) (x : List UInt8) : ∀ f, Stable B x f := by
  intro f
  induction f with
  | zero =>
    refine ⟨?_, ?_, ?_, ?_⟩
    · intro g _ ats bs; exact .of_err (by rw [readNext]; exact fun _ e => nomatch e)
    · exact fun g hg t rk bs => body_ext B x 0 g t rk bs (fun h => absurd h (Nat.lt_irrefl 0)) hg
    · intro g _ n bs
      cases n with
      | zero => intro y r h; rw [readArr] at h ⊢; cases h; rfl
      | succ n => exact .of_err (by rw [readArr]; exact fun _ e => nomatch e)
    · intro g _ acc bs; exact .of_err (by rw [readEnd]; exact fun _ e => nomatch e)
  | succ f ih =>
    obtain ⟨ihN, ihB, ihA, ihE⟩ := ih
    refine ⟨?_, ?_, ?_, ?_⟩ <;> intro g hfg <;>
      obtain ⟨g, rfl⟩ : ∃ g', g = g' + 1 := ⟨g - 1, by omega⟩ <;>
      have hfg' : f ≤ g := by omega
    · intro ats bs y r h
      cases bs with
      | nil => rw [readNext] at h; cases h
      | cons t bs =>
        rw [List.cons_append, readNext]
        rw [readNext] at h
        cases hr : readerOf t with
        | none => rw [hr] at h; cases h
        | some rk =>
          rw [hr] at h
          simp only at h ⊢
          cases hb : readBody B f t rk bs <;> rw [hb] at h <;> try cases h
          rename_i p
          obtain ⟨om, r1⟩ := p
          rw [ihB g hfg' t rk bs om r1 hb]
          cases om with
          | none => cases h; rfl
          | some m =>
            simp only at h ⊢
            split
            · rename_i ht; rw [if_pos ht] at h; exact ihN g hfg' _ _ y r h
            · rename_i ht; rw [if_neg ht] at h; cases h; rfl
    · exact fun t rk bs => body_ext B x _ _ t rk bs (fun _ => ⟨ihA g hfg', ihE g hfg'⟩) (by omega)
    · intro n bs y r h
      cases n with
      | zero => rw [readArr] at h ⊢; cases h; rfl
      | succ n =>
        rw [readArr] at h ⊢
        cases h1 : readNext B f [] bs <;> rw [h1] at h <;> try cases h
        rename_i p
        rw [ihN g hfg' [] bs p.1 p.2 h1]
        simp only at h ⊢
        cases h2 : readArr B f n p.2 <;> rw [h2] at h <;> try cases h
        rename_i q
        rw [ihA g hfg' n p.2 q.1 q.2 h2]
    · intro acc bs y r h
      rw [readEnd] at h ⊢
      cases h1 : readNext B f [] bs <;> rw [h1] at h <;> try cases h
      rename_i p
      rw [ihN g hfg' [] bs p.1 p.2 h1]
      simp only at h ⊢
      split
      · rename_i ht; rw [if_pos ht] at h; cases h; rfl
      · rename_i ht; rw [if_neg ht] at h; exact ihE g hfg' _ _ y r h

end Rv.StreamL
