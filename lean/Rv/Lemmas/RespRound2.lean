/-
C12 round trip, part 2: list loops, aggregates, attributes, and the induction over the wire tree (`wire_ok`).
-/
import Rv.Lemmas.RespRound
namespace Rv.RespL
open Rv Rv.Resp Rv.Spec

theorem readerOf_end : readerOf 46 = some .null := by decide
section
variable (B : Nat) (hb : 32 ≤ B)
include hb

omit hb in
theorem readNext_end (f : Nat) (rest : List UInt8) :
    readNext B (f + 1) [] (46 :: 13 :: 10 :: rest) = .ok (Msg.mk 46 [] 0 [] [], rest) := by
  have hlen : ¬ (rest.length + 1 + 1 < 2) := by omega
  simp only [readNext, readerOf_end, readBody, discard2, List.length_cons, hlen, if_false, List.drop]
  simp [Msg.leafInt, Msg.withAttr]

omit hb in
theorem ok_nil : ListOK B [] := by
  refine ⟨?_, ?_⟩
  · intro f rest _
    cases f <;> simp [readArr, bytesL, valueL]
  · intro f acc rest hf
    simp only [needE] at hf
    cases f with
    | zero => omega
    | succ f =>
      cases f with
      | zero => omega
      | succ f =>
        rw [readEnd]
        simp only [bytesL, List.nil_append, readNext_end B f rest, Msg.typ, if_true, valueL, List.append_nil]

omit hb in
theorem ok_cons (x : Wire) (xs : List Wire) (hx : WireOK B x) (hxs : WFL xs = true → ListOK B xs)
    (hwf : WFL (x :: xs) = true) : ListOK B (x :: xs) := by
  simp only [WFL, Bool.and_eq_true] at hwf
  obtain ⟨hwx, hwxs⟩ := hwf
  obtain ⟨hx1, hx2, _⟩ := hx
  obtain ⟨hl1, hl2⟩ := hxs hwxs
  refine ⟨?_, ?_⟩
  · intro f rest hf
    simp only [needL] at hf
    cases f with
    | zero => omega
    | succ f =>
      simp only [List.length_cons, bytesL, List.append_assoc]
      rw [readArr, hx1 hwx f [] _ (by omega)]
      simp only [hl1 f rest (by omega), valueL]
  · intro f acc rest hf
    simp only [needE] at hf
    cases f with
    | zero => omega
    | succ f =>
      simp only [bytesL, List.append_assoc]
      rw [readEnd, hx1 hwx f [] _ (by omega)]
      simp only [hx2 hwx [], if_false]
      rw [hl2 f _ rest (by omega)]
      simp [valueL]
omit hb in
theorem preFixed_ok (n : Nat) : preFixed (n : Int) = .ok () := by
  unfold preFixed
  have : ¬ ((n : Int) < 0) := by omega
  simp only [this, if_false]
  exact alloc_ok (by omega) (by omega)

omit hb in
theorem fixedBody_ok (t : UInt8) (n : Nat) (k : Nat → Res (List Msg × List UInt8)) :
    fixedBody t (n : Int) k = wrapFixed t n (k n) := by
  unfold fixedBody
  rw [preFixed_ok]
  simp only [Int.toNat_natCast]

omit hb in
theorem arrCase_num (t : UInt8) (n : Nat) (r : List UInt8) (kA kE) :
    arrCase t (.num (n : Int) r) kA kE = wrapFixed t n (kA n r) := by
  unfold arrCase
  have h1 : ¬ ((n : Int) = -1) := by omega
  simp only [h1, if_false, fixedBody_ok]

omit hb in
theorem mapCase_num (t : UInt8) (n : Nat) (heven : n % 2 = 0) (hlen : n < 9223372036854775808)
    (r : List UInt8) (kA kE) :
    mapCase t (.num ((n / 2 : Nat) : Int) r) kA kE = wrapFixed t n (kA n r) := by
  unfold mapCase
  have hw : wrap64 (((n / 2 : Nat) : Int) * 2) = (n : Int) := by unfold wrap64; omega
  simp only [hw, fixedBody_ok]

omit hb in
theorem arrCase_chunked (t : UInt8) (r0 : List UInt8) (kA kE) :
    arrCase t (.chunked r0) kA kE = wrapStream t (kE r0) := rfl
omit hb in
theorem mapCase_chunked (t : UInt8) (r0 : List UInt8) (kA kE) :
    mapCase t (.chunked r0) kA kE = wrapStream t (kE r0) := rfl

theorem arr_body (t : UInt8) (xs : List Wire) (hxs : ListOK B xs)
    (hlen : xs.length < 9223372036854775808) (f : Nat) (rest : List UInt8) (hf : needL xs ≤ f) :
    readBody B (f + 1) t .array (digits xs.length ++ (crlf ++ (bytesL xs ++ rest)))
      = .ok (some (Msg.mk t [] xs.length (valueL xs) []), rest) := by
  have hI := readI_digits B xs.length hb hlen (bytesL xs ++ rest)
  simp only [List.append_assoc] at hI
  rw [readBody, hI, arrCase_num, hxs.1 f rest hf]
  rfl

theorem map_body (t : UInt8) (xs : List Wire) (hxs : ListOK B xs)
    (heven : xs.length % 2 = 0) (hlen : xs.length < 9223372036854775808) (f : Nat) (rest : List UInt8)
    (hf : needL xs ≤ f) :
    readBody B (f + 1) t .map (digits (xs.length / 2) ++ (crlf ++ (bytesL xs ++ rest)))
      = .ok (some (Msg.mk t [] xs.length (valueL xs) []), rest) := by
  have hI := readI_digits B (xs.length / 2) hb (by omega) (bytesL xs ++ rest)
  simp only [List.append_assoc] at hI
  rw [readBody, hI, mapCase_num t xs.length heven hlen, hxs.1 f rest hf]
  rfl

theorem stream_body (t : UInt8) (rk : RK) (hrk : rk = .array ∨ rk = .map) (xs : List Wire) (hxs : ListOK B xs)
    (f : Nat) (rest : List UInt8) (hf : needE xs ≤ f) :
    readBody B (f + 1) t rk (63 :: 13 :: 10 :: (bytesL xs ++ (46 :: 13 :: 10 :: rest)))
      = .ok (some (Msg.mk t [] xs.length (valueL xs) []), rest) := by
  have hE := hxs.2 f [] rest hf
  rcases hrk with h | h <;> subst h
  · rw [readBody, readI_q B hb, arrCase_chunked, hE]
    simp [wrapStream, Msg.agg, valueL_length]
  · rw [readBody, readI_q B hb, mapCase_chunked, hE]
    simp [wrapStream, Msg.agg, valueL_length]

theorem ok_arr (t : UInt8) (xs : List Wire) (hxs : WFL xs = true → ListOK B xs) : WireOK B (.arr t xs) := by
  refine ⟨?_, ?_, ?_⟩
  · intro hwf f ats rest hf
    simp only [WF, Bool.and_eq_true] at hwf
    obtain ⟨⟨ht, hlen⟩, hw⟩ := hwf
    have hlen := of_decide_eq_true hlen
    simp only [lim] at hlen
    obtain ⟨hr, h124, _⟩ := readerOf_arr ht
    simp only [need] at hf
    cases f with
    | zero => omega
    | succ f =>
      cases f with
      | zero => omega
      | succ f =>
        simp only [bytes, List.cons_append, List.append_assoc]
        rw [readNext]
        simp only [hr]
        rw [arr_body B hb t xs (hxs hw) hlen f rest (by omega)]
        simp [h124, value, Msg.withAttr]
  · intro hwf ats
    simp only [WF, Bool.and_eq_true] at hwf
    simp only [value, Msg.typ]
    exact (readerOf_arr hwf.1.1).2.2
  · intro h; simp [attrOK] at h

theorem ok_map (t : UInt8) (xs : List Wire) (hxs : WFL xs = true → ListOK B xs) : WireOK B (.map t xs) := by
  refine ⟨?_, ?_, ?_⟩
  · intro hwf f ats rest hf
    simp only [WF, Bool.and_eq_true, beq_iff_eq, decide_eq_true_eq, lim] at hwf
    obtain ⟨⟨⟨rfl, heven⟩, hlen⟩, hw⟩ := hwf
    simp only [need] at hf
    cases f with
    | zero => omega
    | succ f =>
      cases f with
      | zero => omega
      | succ f =>
        have hr : readerOf 37 = some .map := by decide
        simp only [bytes, List.cons_append, List.append_assoc]
        rw [readNext]
        simp only [hr]
        rw [map_body B hb 37 xs (hxs hw) heven (of_decide_eq_true hlen) f rest (by omega)]
        simp [value, Msg.withAttr]
  · intro hwf ats
    simp only [WF, Bool.and_eq_true, beq_iff_eq] at hwf
    simp only [value, Msg.typ, hwf.1.1.1]
    decide
  · intro h
    simp only [attrOK, Bool.and_eq_true, beq_iff_eq, decide_eq_true_eq, lim] at h
    obtain ⟨⟨⟨rfl, heven⟩, hlen⟩, hw⟩ := h
    refine ⟨digits (xs.length / 2) ++ crlf ++ bytesL xs, by simp [bytes], ?_⟩
    intro f rest hf
    simp only [need] at hf
    cases f with
    | zero => omega
    | succ f =>
      have := map_body B hb 124 xs (hxs hw) heven (of_decide_eq_true hlen) f rest (by omega)
      simp only [List.append_assoc]
      rw [this]; simp [value]

theorem ok_stream (t : UInt8) (xs : List Wire) (hxs : WFL xs = true → ListOK B xs) : WireOK B (.stream t xs) := by
  refine ⟨?_, ?_, ?_⟩
  · intro hwf f ats rest hf
    simp only [WF, Bool.and_eq_true] at hwf
    obtain ⟨ht, hw⟩ := hwf
    simp only [need] at hf
    have hrk : ∃ rk, readerOf t = some rk ∧ (rk = .array ∨ rk = .map) ∧ t ≠ 124 := by
      simp only [isStreamT, Bool.or_eq_true, beq_iff_eq] at ht
      rcases ht with ht | ht
      · exact ⟨.array, (readerOf_arr ht).1, Or.inl rfl, (readerOf_arr ht).2.1⟩
      · subst ht; exact ⟨.map, by decide, Or.inr rfl, by decide⟩
    obtain ⟨rk, hr, hrk, h124⟩ := hrk
    cases f with
    | zero => omega
    | succ f =>
      cases f with
      | zero => omega
      | succ f =>
        have hshape : bytes (.stream t xs) ++ rest = t :: 63 :: 13 :: 10 :: (bytesL xs ++ (46 :: 13 :: 10 :: rest)) := by
          simp [bytes, crlf, List.append_assoc]
        rw [hshape, readNext]
        simp only [hr]
        rw [stream_body B hb t rk hrk xs (hxs hw) f rest (by omega)]
        simp [h124, value, Msg.withAttr]
  · intro hwf ats
    simp only [WF, Bool.and_eq_true] at hwf
    simp only [value, Msg.typ]
    intro h; subst h
    have := hwf.1
    revert this; decide
  · intro h
    simp only [attrOK, Bool.and_eq_true, beq_iff_eq] at h
    obtain ⟨ht, hw⟩ := h
    subst ht
    refine ⟨63 :: 13 :: 10 :: (bytesL xs ++ [46, 13, 10]), by simp [bytes, crlf], ?_⟩
    intro f rest hf
    simp only [need] at hf
    cases f with
    | zero => omega
    | succ f =>
      have := stream_body B hb 124 .map (Or.inr rfl) xs (hxs hw) f rest (by omega)
      simp only [List.cons_append, List.append_assoc, List.nil_append]
      rw [this]; simp [value]

omit hb in
theorem ok_attr (a w : Wire) (ha : WireOK B a) (hw : WireOK B w) : WireOK B (.attr a w) := by
  obtain ⟨_, _, ha3⟩ := ha
  obtain ⟨hw1, hw2, _⟩ := hw
  refine ⟨?_, ?_, ?_⟩
  · intro hwf f ats rest hf
    simp only [WF, Bool.and_eq_true] at hwf
    obtain ⟨hao, hww⟩ := hwf
    obtain ⟨tl, htl, hbody⟩ := ha3 hao
    simp only [need] at hf
    cases f with
    | zero => omega
    | succ f =>
      have hr : readerOf 124 = some .map := by decide
      simp only [bytes, htl, List.cons_append, List.append_assoc]
      rw [readNext]
      simp only [hr]
      rw [hbody f (bytes w ++ rest) (by omega)]
      simp only [if_true]
      rw [hw1 hww f _ rest (by omega)]
      simp [value]
  · intro hwf ats
    simp only [WF, Bool.and_eq_true] at hwf
    simp only [value]
    exact hw2 hwf.2 _
  · intro h; simp [attrOK] at h

theorem wire_ok (w : Wire) : WireOK B w :=
  Wire.rec (motive_1 := WireOK B) (motive_2 := fun xs => WFL xs = true → ListOK B xs)
    (ok_blob B hb) (ok_chunked B hb) (ok_nullBlob B hb) (ok_line B) (ok_int B hb) (ok_null B)
    (ok_bool B) (ok_arr B hb) (ok_map B hb) (ok_stream B hb) (ok_nullArr B hb) (ok_attr B)
    (fun _ => ok_nil B) (ok_cons B) w

end
end Rv.RespL
