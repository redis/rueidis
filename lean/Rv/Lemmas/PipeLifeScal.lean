/-
Pipe life model: every step preserves the invariant over the scalar fields (`InvA`); it holds in every reachable state.
-/
import Rv.Lemmas.PipeLifeScalA
import Rv.Lemmas.PipeLifeStep
namespace Rv.PipeLife

theorem invA_step {fix : Bool} {s s' : St} {l : Label} (h : step fix s l = some s') (ha : InvA (scal s)) :
    InvA (scal s') := by
  have hmove : ∀ {cur : Td} t, s.td = cur → tdPast cur = true → cur ≠ .finished → t ≠ .off ∧ t ≠ .finished →
      InvA { scal s with td := t } :=
    fun {cur} t htd hp hf ht =>
      ha.setTd htd t ⟨fun h => (nomatch h ▸ hp), hf, ht⟩ (fun _ => ha.past htd hp)
  induction step_sound h with
  | toQueueBg | leaveBg => exact scal_startBg _ ▸ ha.startBg
  | syncErr =>
    have hb : InvA { scal s with err := latch .broken s.err, connUp := false } :=
      ha.mono rfl rfl rfl (Or.inl rfl) (fun _ => rfl) (fun _ => latch_ne _ _)
    exact scal_startBg _ ▸ hb.startBg
  | connBreak => exact ha.mono rfl rfl rfl (Or.inl rfl) (fun _ => rfl) id
  | pingFail => exact ha.exit _
  | wTake d o q hw => exact ha.setWriter hw (.run true) nofun nofun
  | flush hw => exact ha.setWriter hw (.run false) nofun nofun
  | flushErr hw => exact (ha.exit .broken).setWriter hw .exited nofun (fun _ => ⟨rfl, latch_ne _ _⟩)
  | rDeliver => rw [scal_deliver]; exact ha
  | rErr htd =>
    have hd : InvA (scal (deferDeliver s)) := scal_deferDeliver s ▸ ha
    have htd' : (scal (deferDeliver s)).td = .reading := scal_deferDeliver s ▸ htd
    refine (hd.exit .broken).setTd htd' .exited ⟨nofun, nofun, nofun, nofun⟩ (fun _ => ⟨?_, rfl, latch_ne _ _⟩)
    show 2 ≤ if (deferDeliver s).state = 1 then 2 else (deferDeliver s).state
    have h12 : (deferDeliver s).state ≠ 0 := hd.a12 (by rw [htd']; nofun)
    have h10 : (deferDeliver s).state = 0 ∨ _ := hd.a10
    split <;> omega
  | noSpawn htd | spawn htd => exact hmove (.draining false) htd rfl nofun ⟨nofun, nofun⟩
  | loopDone c htd => exact hmove .loopDone htd rfl nofun ⟨nofun, nofun⟩
  | drain c e es htd => rw [scal_deliver]; exact hmove (.draining _) htd rfl nofun ⟨nofun, nofun⟩
  | seeClosed c htd => exact hmove (.draining _) htd rfl nofun ⟨nofun, nofun⟩
  | tdClose htd hwr =>
    have h2 := ha.past htd rfl
    exact ⟨fun _ => h2.2.2, fun _ => ⟨(by decide : 2 ≤ 4), h2.2.1, h2.2.2⟩, ⟨nofun, fun h => nomatch hwr ▸ h⟩, nofun,
      ha.a5, ⟨fun _ => rfl, fun _ => rfl⟩, ha.a7, fun _ => (by decide : 2 ≤ 4), ha.a9, Or.inr (Or.inr (Or.inr rfl)),
      fun _ => hwr, fun _ => nofun, nofun⟩
  | closeEnter w hcl =>
    exact (ha.mono (v' := { scal s with err := latch w s.err }) rfl rfl rfl (Or.inl rfl) id (fun _ => latch_ne _ _)).setClose
      _ nofun (fun _ => latch_ne _ _) (fun h => by rcases h with ⟨b, h⟩ | h | h | h <;> cases h)
      (fun h _ => ha.a13 h (Or.inl hcl))
  | casBg w hcl => exact scal_startBg _ ▸ (ha.cas hcl).startBg
  | cas w hcl => exact ha.cas hcl
  | ping b hcl => exact ha.closeLate (Or.inl ⟨_, hcl⟩) .pingWait (Or.inl rfl)
  | noPing b hcl => exact ha.closeLate (Or.inl ⟨_, hcl⟩) .tail (Or.inr (Or.inl rfl))
  | closeGot hcl | closeGrace hcl => exact ha.closeLate (Or.inr (Or.inl hcl)) .tail (Or.inr (Or.inl rfl))
  | closeTail hcl =>
    exact (ha.mono (v' := { scal s with connUp := false }) rfl rfl rfl (Or.inl rfl) (fun _ => rfl) id).closeLate
      (Or.inr (Or.inr hcl)) .done (Or.inr (Or.inr ⟨rfl, rfl⟩))
  | _ => exact ha

theorem invA_init (calls : List Call) (p b : Bool) : InvA (scal (init calls p b)) := by
  have h0 : InvA (scal { calls := calls, blockFree := b }) := by constructor <;> simp [scal, tdPast]
  unfold init; split
  · rw [scal_startBg]; exact h0.startBg
  · exact h0

theorem Reachable.invA {fix : Bool} {s : St} (h : Reachable fix s) : InvA (scal s) := by
  induction h with
  | init calls p b _ => exact invA_init calls p b
  | step l _ hs ih => exact invA_step hs ih

end Rv.PipeLife
