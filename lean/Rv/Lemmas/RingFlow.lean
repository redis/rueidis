/-
Invariants of the flow-buffer model (Rv/Model/FlowBuffer.lean) and its simulation by the
FIFO specification.
-/
import Rv.Lemmas.RingFlowU
import Rv.Spec.Fifo
namespace Rv.Flow
open Rv.Spec

/-- the command whose reply the reader still has to send -/
def pcur (σ : State) : List Nat :=
  match σ.cur, σ.delivered with
  | some (_, c), false => [c]
  | _, _ => []

/-- caller c is inside PutOne (holds a token) or waits for its reply -/
def pending (σ : State) (c : Nat) : Prop := (∃ ch, (c, ch) ∈ σ.hold) ∨ (∃ ch, σ.pc c = .filled ch)

variable {size : Nat} {σ τ : State}

theorem pcur_idle (h : σ.cur = none ∨ σ.delivered = true) : pcur σ = [] := by
  rcases h with h | h
  · simp only [pcur, h]
  · cases hc : σ.cur <;> simp only [pcur, h, hc]

def absq (σ : State) : Fifo.Q where
  pending := σ.w.map (fun t => (t.2, t.2))
  written := (pcur σ ++ σ.r.map (·.2)).map (fun c => (c, c))

/-- `send` is the linearisation point of enqueue -/
structure Sim (σ : State) (evs : List Fifo.Ev) : Prop where
  run : Fifo.run Fifo.empty evs = some (absq σ)
  deqs : Fifo.deqs evs = σ.wlog
  fins : Fifo.fins evs = σ.clog
  enqs : Fifo.enqs evs = σ.elog.map (fun c => (c, c))

theorem Sim.append {evs : List Fifo.Ev} (s : Sim σ evs) (e : Fifo.Ev)
    (hr : Fifo.step (absq σ) e = some (absq τ)) (hd : σ.wlog ++ Fifo.deqs [e] = τ.wlog)
    (hf : σ.clog ++ Fifo.fins [e] = τ.clog)
    (he : σ.elog.map (fun c => (c, c)) ++ Fifo.enqs [e] = τ.elog.map (fun c => (c, c))) :
    Sim τ (evs ++ [e]) :=
  ⟨by rw [Fifo.run_append, s.run]; simp only [Option.bind_some, Fifo.run, hr],
   by rw [Fifo.deqs_append, s.deqs, hd], by rw [Fifo.fins_append, s.fins, hf],
   by rw [Fifo.enqs_append, s.enqs, he]⟩

structure Logs (σ : State) : Prop where
  enq : σ.elog = σ.wlog ++ σ.w.map (·.2)
  wr : σ.wlog = σ.clog.map (·.1) ++ pcur σ ++ σ.r.map (·.2)
  diag : ∀ p, p ∈ σ.clog → p.1 = p.2
  sim : ∃ evs, Sim σ evs

theorem Logs.init (size : Nat) : Logs (init size) :=
  ⟨rfl, rfl, fun _ hp => (nomatch hp), [], rfl, rfl, rfl, rfl⟩

theorem Logs.silent (h : Logs σ) (hw : τ.w = σ.w)
    (hr : pcur τ ++ τ.r.map (·.2) = pcur σ ++ σ.r.map (·.2))
    (h1 : τ.wlog = σ.wlog) (h2 : τ.clog = σ.clog) (h3 : τ.elog = σ.elog) : Logs τ := by
  obtain ⟨evs, s⟩ := h.sim
  refine ⟨?_, ?_, ?_, evs, ?_, ?_, ?_, ?_⟩
  · rw [h3, h1, hw]; exact h.enq
  · rw [h1, h2, List.append_assoc, hr, ← List.append_assoc]; exact h.wr
  · rw [h2]; exact h.diag
  · rw [s.run, absq, absq, hw, hr]
  · rw [h1]; exact s.deqs
  · rw [h2]; exact s.fins
  · rw [h3]; exact s.enqs

theorem Logs.step (h : Logs σ) (hu : InvU size σ) (l : Label) (he : enabled l σ = true) :
    Logs (apply l σ) := by
  obtain ⟨evs, s⟩ := h.sim
  apply step_cases (motive := Logs) l he
  case recv => intro ch rest _; exact h.silent rfl rfl rfl rfl rfl
  case send =>
    intro c ch _
    refine ⟨?_, h.wr, h.diag, _, s.append (.enq c c) ?_ (List.append_nil _) (List.append_nil _) ?_⟩
    · simp only [h.enq, List.map_append, List.append_assoc]; rfl
    · simp only [absq, Fifo.step, List.map_append]; rfl
    · simp only [List.map_append]; rfl
  case wTake =>
    intro t rest hw
    refine ⟨?_, ?_, h.diag, _, s.append (.deq t.2) ?_ rfl (List.append_nil _) (List.append_nil _)⟩
    · simp only [h.enq, hw, List.map_cons, List.append_assoc]; rfl
    · simp only [h.wr, List.map_append, List.append_assoc]; rfl
    · simp only [absq, Fifo.step, hw, List.map_cons, if_true, List.map_append, List.append_assoc]; rfl
  case rBegin =>
    intro t rest hc hr
    obtain ⟨ch, cmd⟩ := t
    refine h.silent rfl ?_ rfl rfl rfl
    simp only [pcur, hc, hr, List.map_cons]; rfl
  case rDeliver =>
    intro c ch cmd hcur hd hpc
    have hcc : c = cmd := hu.deliver_eq hcur hpc
    subst hcc
    refine ⟨h.enq, ?_, ?_, _, s.append (.fin c c) ?_ (List.append_nil _) rfl (List.append_nil _)⟩
    · simp only [h.wr, pcur, hcur, hd, List.map_append, List.append_assoc]; rfl
    · intro p hp
      rcases List.mem_append.1 hp with hp | hp
      · exact h.diag p hp
      · rw [List.mem_singleton.1 hp]
    · simp only [absq, Fifo.step, pcur, hcur, hd, List.map_cons, List.cons_append, List.nil_append, and_self, if_true]
  case rFinish =>
    intro ch cmd hcur hd
    refine h.silent rfl ?_ rfl rfl rfl
    rw [pcur_idle (.inr hd), pcur_idle (.inl rfl)]

theorem Logs.of_reachable (h : Reachable size σ) : Logs σ := by
  induction h with
  | init => exact Logs.init size
  | step l hr he ih => exact ih.step (InvU.of_reachable hr) l he

/-- a holder can send; otherwise the reader's side of the oldest token in flight can move, or,
    when everything in flight is still in `w`, the writer -/
theorem no_deadlock (h : Reachable size σ) (c : Nat) (hc : pending σ c) :
    ∃ l, l ≠ .recv ∧ enabled l σ = true := by
  have u := InvU.of_reachable h
  obtain ⟨hw, hr, hf⟩ := u.room
  rcases hc with ⟨ch, hm⟩ | ⟨ch, hp⟩
  · refine ⟨.send c, nofun, ?_⟩
    cases hf : σ.hold.find? (fun p => p.1 == c) with
    | none => simpa using List.find?_eq_none.1 hf (c, ch) hm
    | some p => simpa only [enabled, hf, decide_eq_true_eq] using hw c ch hm
  · have hm := (u.pcf c ch).1 hp
    cases hcur : σ.cur with
    | some t =>
      cases hd : σ.delivered with
      | false =>
        have := (u.pcf t.2 t.1).2 (flight_cur hcur hd ▸ List.mem_cons_self)
        exact ⟨.rDeliver t.2, nofun, by simp [enabled, hcur, hd, this]⟩
      | true => exact ⟨.rFinish, nofun, by simpa [enabled, hcur, hd] using hf (hcur ▸ rfl)⟩
    | none =>
      rw [flight_idle (.inl hcur)] at hm
      cases hr' : σ.r with
      | cons t rest => exact ⟨.rBegin, nofun, by simp [enabled, hcur, hr']⟩
      | nil =>
        rw [hr', List.nil_append] at hm
        have hne := List.ne_nil_of_mem hm
        exact ⟨.wTake, nofun, by simpa [enabled, hne] using hr hne⟩

end Rv.Flow
