/-
Lemmas for C15: none of the accessor models reaches a `.panic` arm. "Does not panic" is
closed under the few forms the models are built from (the error-propagating match, `if`, `mapR`,
an index behind a length guard, the pair loops); the lemma for an accessor follows its
definition with these.
-/
import Rv.Model.AccessorsShape
namespace Rv.Acc

theorem ok_np {α} {a : α} : Res.ok a ≠ .panic := nofun
theorem err_np {α} {e : String} : (Res.err e : Res α) ≠ .panic := nofun
theorem oom_np {α} : (Res.oom : Res α) ≠ .panic := nofun

/-- `ok_np` in the shape of `bind_np`'s `ok` premise, for a continuation that returns at once -/
theorem oks_np {α β} {f : α → β} (a : α) : Res.ok (f a) ≠ .panic := ok_np

/-- `err_np` and `oom_np` in the shape of `bind_np`'s `fail` premise: the arms of
    `x, err := f(); if err != nil { return err }` -/
theorem fail_np {α} (e : String) : (Res.err e : Res α) ≠ .panic ∧ (Res.oom : Res α) ≠ .panic := ⟨err_np, oom_np⟩

/-- Case analysis on a result that does not panic. With the motive
    `fun r => (match r with | .ok a => k a | .err e => .err e | .panic => .panic | .oom => .oom) ≠ .panic`
    this is "the error-propagating match does not panic if `r` and `k` do not"; it is an eliminator
    and not a lemma about that `match` because every model file compiles its own matcher for it. -/
@[elab_as_elim] theorem bind_np {α} {motive : Res α → Prop} {r : Res α} (hr : r ≠ .panic)
    (ok : ∀ a, motive (.ok a)) (fail : ∀ e, motive (.err e) ∧ motive .oom) : motive r := by
  cases r with
  | ok a => exact ok a
  | err e => exact (fail e).1
  | panic => exact absurd rfl hr
  | oom => exact (fail "").2

theorem ite_np {α} {c : Prop} [Decidable c] {a b : Res α} (ha : c → a ≠ .panic) (hb : ¬ c → b ≠ .panic) :
    (if c then a else b) ≠ .panic := by
  split
  · exact ha ‹_›
  · exact hb ‹_›

theorem idx_lt {α} {xs : List α} {i : Nat} (h : i < xs.length) : idx xs i = .ok xs[i] := by
  unfold idx; rw [List.getElem?_eq_getElem h]

theorem slice2_ok {α} {xs : List α} {j : Nat} {p : List α} (h : slice2 xs j = .ok p) : p = (xs.drop j).take 2 ∧ j + 2 ≤ xs.length := by
  unfold slice2 at h; split at h <;> simp_all

theorem slice2_le {α} {xs : List α} {j : Nat} (h : j + 2 ≤ xs.length) : slice2 xs j = .ok ((xs.drop j).take 2) :=
  if_pos h

theorem orZero_np {α} {r : Res α} {d : α} (h : r ≠ .panic) : orZero r d ≠ .panic := by
  unfold orZero; exact bind_np h oks_np fun _ => ⟨ok_np, oom_np⟩

theorem mapR_np {α β} {f : α → Res β} (hf : ∀ x, f x ≠ .panic) : ∀ xs, mapR f xs ≠ .panic
  | [] => ok_np
  | x :: r => by
    unfold mapR
    exact bind_np (hf x) (fun _ => bind_np (mapR_np hf r) oks_np fail_np) fail_np

theorem pairs_induction {α} {P : List α → Prop} (nil : P []) (cons : ∀ k v r, P r → P (k :: v :: r)) :
    ∀ xs : List α, xs.length % 2 = 0 → P xs
  | [], _ => nil
  | [_], h => absurd h Nat.one_ne_zero
  | k :: v :: r, h => cons k v r (pairs_induction nil cons r ((Nat.add_mod_right _ 2).symm.trans h))

theorem liftNum_np {α} {fn : String} {r : Except NumErr α} : liftNum fn r ≠ .panic := by
  cases r
  · exact err_np
  · exact ok_np

section
variable (fp : FP) (m : Msg)

theorem utilFloat_np (s : Bytes) : utilFloat fp s ≠ .panic :=
  ite_np (fun _ => ok_np) fun _ => ite_np (fun _ => ok_np) fun _ => err_np

theorem toStr_np : toStr m ≠ .panic := by
  unfold toStr
  refine ite_np (fun _ => ok_np) fun _ => ite_np (fun _ => err_np) fun _ => ?_
  cases errOf m
  · exact ok_np
  · exact err_np

theorem viaStr_np {α} {m : Msg} {f : Bytes → Res α} (hf : ∀ v, f v ≠ .panic) :
    (match toStr m with | .ok v => f v | .err e => .err e | .panic => .panic | .oom => .oom) ≠ .panic :=
  bind_np (toStr_np m) hf fail_np

theorem errFirst_np {α} {m : Msg} {x : Res α} (hx : x ≠ .panic) :
    (match errOf m with | some e => Res.err e | none => x) ≠ .panic := by
  cases errOf m
  · exact hx
  · exact err_np

theorem asUint64_np : asUint64 m ≠ .panic :=
  ite_np (fun _ => ok_np) fun _ => viaStr_np fun _ => liftNum_np

theorem asBool_np : asBool m ≠ .panic :=
  errFirst_np (ite_np (fun _ => ok_np) fun _ => ite_np (fun _ => ok_np) fun _ => ite_np (fun _ => ok_np) fun _ => err_np)

theorem asFloat64_np : asFloat64 fp m ≠ .panic :=
  ite_np (fun _ => utilFloat_np fp _) fun _ => viaStr_np (utilFloat_np fp)

theorem asFloat64V_np : asFloat64V fp m ≠ .panic := by
  unfold asFloat64V
  exact ite_np (fun _ => ok_np) fun _ => bind_np (toStr_np m) oks_np fun _ => ⟨ok_np, oom_np⟩

/-- ToInt64 / ToBool / ToFloat64 / ToArray / ToMap: the reply's own type, or `errOrParse` -/
theorem strict_np {α} {c : Prop} [Decidable c] {x : Res α} (hx : x ≠ .panic) {m : Msg} :
    (if c then x else errOrParse m) ≠ .panic :=
  ite_np (fun _ => hx) fun _ => by unfold errOrParse; cases errOf m <;> exact err_np

theorem toArray_np : toArray m ≠ .panic := strict_np ok_np

theorem viaArray_np {α} {m : Msg} {f : List Msg → Res α} (hf : ∀ vs, f vs ≠ .panic) :
    (match toArray m with | .ok vs => f vs | .err e => .err e | .panic => .panic | .oom => .oom) ≠ .panic :=
  bind_np (toArray_np m) hf fail_np

theorem asStrSlice_np : asStrSlice m ≠ .panic := viaArray_np oks_np

theorem strPairs_np : ∀ xs, xs.length % 2 = 0 → strPairs xs ≠ .panic :=
  pairs_induction ok_np fun k v r ih => by
    unfold strPairs; exact bind_np ih oks_np fail_np

theorem asStrMap_np : asStrMap m ≠ .panic :=
  errFirst_np (ite_np (fun h => strPairs_np _ h.2) fun _ => err_np)

theorem asStrMapOpt_np : asStrMapOpt m ≠ .panic := by
  unfold asStrMapOpt; exact bind_np (asStrMap_np m) oks_np fun _ => ⟨ok_np, oom_np⟩

theorem intPairs_np : ∀ xs, xs.length % 2 = 0 → intPairs xs ≠ .panic :=
  pairs_induction ok_np fun k v r ih => by
    unfold intPairs
    exact ite_np (fun _ => ite_np
        (fun _ => bind_np (liftNum_np) (fun _ => bind_np ih oks_np fail_np) fail_np)
        fun _ => ite_np (fun _ => bind_np ih oks_np fail_np) fun _ => ih)
      fun _ => ih

theorem toMapPairs_np : ∀ xs, xs.length % 2 = 0 → toMapPairs xs ≠ .panic :=
  pairs_induction ok_np fun k v r ih => by
    unfold toMapPairs; exact ite_np (fun _ => bind_np ih oks_np fail_np) fun _ => err_np

theorem toMapV_np {xs : List Msg} : toMapV xs ≠ .panic :=
  ite_np (fun _ => err_np) fun h => toMapPairs_np _ (Decidable.of_not_not h)

theorem asXRangeEntry_np : asXRangeEntry m ≠ .panic := by
  refine viaArray_np fun vs => ite_np (fun _ => err_np) fun h => ?_
  have h : vs.length = 2 := Decidable.of_not_not h
  rw [idx_lt (h ▸ Nat.zero_lt_two), idx_lt (h ▸ Nat.one_lt_two)]
  dsimp only
  exact bind_np (toStr_np _) (fun _ => bind_np (asStrMap_np _) (fun _ => ok_np)
    fun _ => ⟨ite_np (fun _ => ok_np) fun _ => err_np, oom_np⟩) fail_np

theorem asXRange_np : asXRange m ≠ .panic := viaArray_np (mapR_np asXRangeEntry_np)

theorem xreadPairs_np {α} {f : Msg → Res α} (hf : ∀ m, f m ≠ .panic) :
    ∀ xs, xs.length % 2 = 0 → xreadPairs f xs ≠ .panic :=
  pairs_induction ok_np fun k v r ih => by
    unfold xreadPairs; exact bind_np (hf v) (fun _ => bind_np ih oks_np fail_np) fail_np

theorem xreadElem_np {α} {f : Msg → Res α} (hf : ∀ m, f m ≠ .panic) (v : Msg) : xreadElem f v ≠ .panic := by
  unfold xreadElem
  refine ite_np (fun _ => err_np) fun h => ?_
  have h : v.arr.length = 2 := Decidable.of_not_not fun h' => h (Or.inr h')
  rw [idx_lt (h ▸ Nat.zero_lt_two), idx_lt (h ▸ Nat.one_lt_two)]
  dsimp only
  exact bind_np (hf _) oks_np fail_np

theorem xreadWith_np {α} {f : Msg → Res α} (hf : ∀ m, f m ≠ .panic) (m : Msg) : xreadWith f m ≠ .panic :=
  errFirst_np (ite_np (fun _ => ite_np (fun _ => err_np) fun h => xreadPairs_np hf _ (Decidable.of_not_not h))
    fun _ => ite_np (fun _ => mapR_np (xreadElem_np hf) _) fun _ => err_np)

theorem fvLoop_np (fa : List Msg) : ∀ (n i : Nat), (i + n) * 2 ≤ fa.length → fvLoop fa n i ≠ .panic
  | 0, _, _ => ok_np
  | n + 1, i, h => by
    have ⟨h0, h1, hn⟩ : i * 2 < fa.length ∧ i * 2 + 1 < fa.length ∧ (i + 1 + n) * 2 ≤ fa.length := by omega
    unfold fvLoop
    rw [idx_lt h0, idx_lt h1]
    exact bind_np (fvLoop_np fa n (i + 1) hn) oks_np fail_np

theorem asXRangeSlice_np : asXRangeSlice m ≠ .panic := by
  refine viaArray_np fun vs => ite_np (fun _ => err_np) fun h => ?_
  have h : vs.length = 2 := Decidable.of_not_not h
  rw [idx_lt (h ▸ Nat.zero_lt_two), idx_lt (h ▸ Nat.one_lt_two)]
  dsimp only
  refine bind_np (toStr_np _) (fun _ => bind_np (toArray_np _) (fun fa => ?_)
    fun _ => ⟨ite_np (fun _ => ok_np) fun _ => err_np, oom_np⟩) fail_np
  dsimp only
  exact bind_np (fvLoop_np fa _ 0 (by omega)) oks_np fail_np

theorem asXRangeSlices_np : asXRangeSlices m ≠ .panic := viaArray_np (mapR_np asXRangeSlice_np)

theorem toZScore_np (vs : List Msg) : toZScore fp vs ≠ .panic := by
  unfold toZScore
  refine ite_np (fun h => ?_) fun _ => err_np
  rw [idx_lt (h ▸ Nat.zero_lt_two), idx_lt (h ▸ Nat.one_lt_two)]
  dsimp only
  exact bind_np (toStr_np _) (fun _ => bind_np (asFloat64_np fp _) oks_np fail_np) fail_np

theorem flatScores_np (arr : List Msg) : ∀ (n i : Nat), (i + n) * 2 ≤ arr.length → flatScores fp arr n i ≠ .panic
  | 0, _, _ => ok_np
  | n + 1, i, h => by
    have ⟨h0, hn⟩ : i * 2 + 2 ≤ arr.length ∧ (i + 1 + n) * 2 ≤ arr.length := by omega
    unfold flatScores
    rw [slice2_le h0]
    dsimp only
    exact bind_np (toZScore_np fp _) (fun _ => bind_np (flatScores_np arr n (i + 1) hn) oks_np fail_np) fail_np

theorem asZScores_np : asZScores fp m ≠ .panic := by
  refine viaArray_np fun arr => ?_
  have hf := flatScores_np fp arr (arr.length / 2) 0 (by omega)
  refine ite_np (fun h => ?_) fun _ => hf
  rw [idx_lt h]
  exact ite_np (fun _ => mapR_np (fun v => toZScore_np fp v.arr) arr) fun _ => hf

theorem asScanEntry_np : asScanEntry m ≠ .panic := by
  refine viaArray_np fun ms => ite_np (fun h => ?_) fun _ => err_np
  rw [idx_lt (Nat.lt_of_lt_of_le Nat.zero_lt_two h), idx_lt (Nat.lt_of_lt_of_le Nat.one_lt_two h)]
  dsimp only
  exact bind_np (asUint64_np _) (fun _ => bind_np (asStrSlice_np _) oks_np fail_np) fail_np

theorem popWith_np {α} {f : Msg → Res α} (hf : ∀ m, f m ≠ .panic) (m : Msg) : popWith f m ≠ .panic := by
  refine errFirst_np (ite_np (fun h => ?_) fun _ => err_np)
  rw [idx_lt (Nat.lt_of_lt_of_le Nat.zero_lt_two h), idx_lt (Nat.lt_of_lt_of_le Nat.one_lt_two h)]
  dsimp only
  exact bind_np (hf _) oks_np fail_np

theorem ftRecord_np : ∀ xs, xs.length % 2 = 0 → ∀ d, ftRecord fp xs d ≠ .panic :=
  pairs_induction (fun _ => ok_np) fun k v r ih d => by
    unfold ftRecord
    exact ite_np (fun _ => ih _) fun _ =>
      ite_np (fun _ => bind_np (asStrMapOpt_np v) (fun _ => ih _) fail_np) fun _ => ite_np (fun _ => ih _) fun _ => ih _

theorem ftRecords_np (rs : List Msg) : ftRecords fp rs ≠ .panic :=
  mapR_np (fun _ => ite_np (fun _ => err_np) fun h => ftRecord_np fp _ (Decidable.of_not_not h) _) rs

theorem ftTop_np {α} {recs : List Msg → Res (List α)} (hr : ∀ xs, recs xs ≠ .panic) :
    ∀ xs, xs.length % 2 = 0 → ∀ t ds, ftTop recs xs t ds ≠ .panic :=
  pairs_induction (fun _ _ => ok_np) fun k v r ih t ds => by
    unfold ftTop
    refine ite_np (fun _ => ih _ _) fun _ => ite_np (fun _ => bind_np (hr _) (fun _ => ih _ _) fail_np) fun _ =>
      ite_np (fun _ => ?_) fun _ => ih _ _
    cases v.arr
    · exact ih _ _
    · exact err_np

theorem ftDocsKS_np : ∀ xs, ftDocsKS xs ≠ .panic
  | [] => ok_np
  | [_] => err_np
  | k :: s :: r => by unfold ftDocsKS; exact bind_np (ftDocsKS_np r) oks_np fail_np

theorem ftDocsKA_np : ∀ xs, ftDocsKA xs ≠ .panic
  | [] => ok_np
  | [_] => err_np
  | k :: a :: r => by
    unfold ftDocsKA
    exact bind_np (asStrMapOpt_np a) (fun _ => bind_np (ftDocsKA_np r) oks_np fail_np) fail_np

theorem ftDocsKSA_np : ∀ xs, ftDocsKSA xs ≠ .panic
  | [] => ok_np
  | [_] => err_np
  | [_, _] => err_np
  | k :: s :: a :: r => by
    unfold ftDocsKSA
    exact bind_np (asStrMapOpt_np a) (fun _ => bind_np (ftDocsKSA_np r) oks_np fail_np) fail_np

theorem ftDocs2_np (ws wa : Bool) (xs : List Msg) : ftDocs2 ws wa xs ≠ .panic := by
  cases ws <;> cases wa
  · exact ok_np
  · exact ftDocsKA_np xs
  · exact ftDocsKS_np xs
  · exact ftDocsKSA_np xs

theorem ftDetect_np (vs : List Msg) : ftDetect fp vs ≠ .panic := by
  unfold ftDetect
  extract_lets first
  have hf : first ≠ .panic := by
    refine ite_np (fun h => ?_) fun _ => ok_np
    rw [idx_lt h]
    refine ite_np (fun _ => ok_np) fun _ => ?_
    rw [idx_lt (Nat.lt_trans Nat.one_lt_two h)]
    exact ok_np
  refine bind_np hf (fun (ws, wa) => ite_np (fun h => ?_) fun _ => ok_np) fail_np
  rw [idx_lt h]
  exact ite_np (fun _ => ok_np) fun _ => ok_np

theorem asFtSearch_np : asFtSearch fp m ≠ .panic := by
  refine errFirst_np (ite_np (fun _ => ite_np (fun _ => err_np) fun h =>
    ftTop_np (ftRecords_np fp) _ (Decidable.of_not_not h) _ _) fun _ => ite_np (fun h => ?_) fun _ => err_np)
  rw [idx_lt h]
  dsimp only
  refine bind_np (ftDetect_np fp _) (fun (ws, wa) => ?_) fail_np
  dsimp only
  exact bind_np (ftDocs2_np ws wa _) oks_np fail_np

theorem aggRecord_np : ∀ xs, xs.length % 2 = 0 → ∀ d, aggRecord xs d ≠ .panic :=
  pairs_induction (fun _ => ok_np) fun k v r ih d => by
    unfold aggRecord
    exact ite_np (fun _ => bind_np (asStrMapOpt_np v) (fun _ => ih _) fail_np) fun _ => ih _

theorem aggRecords_np (rs : List Msg) : aggRecords rs ≠ .panic :=
  mapR_np (fun _ => ite_np (fun _ => err_np) fun h => aggRecord_np _ (Decidable.of_not_not h) _) rs

theorem asFtAggregate_np : asFtAggregate m ≠ .panic := by
  refine errFirst_np (ite_np (fun _ => ite_np (fun _ => err_np) fun h =>
    ftTop_np aggRecords_np _ (Decidable.of_not_not h) _ _) fun _ => ite_np (fun h => ?_) fun _ => err_np)
  rw [idx_lt h, tail1, if_pos (show 1 ≤ m.arr.length from h)]
  dsimp only
  exact bind_np (mapR_np asStrMapOpt_np _) oks_np fail_np

theorem asFtAggregateCursor_np : asFtAggregateCursor m ≠ .panic := by
  unfold asFtAggregateCursor
  refine ite_np (fun h => ?_) fun _ => bind_np (asFtAggregate_np m) (fun (_, _) => ok_np) fail_np
  rw [idx_lt (h.2 ▸ Nat.zero_lt_two), idx_lt (h.2 ▸ Nat.one_lt_two)]
  exact ite_np (fun _ => bind_np (asFtAggregate_np _) (fun (_, _) => ok_np) fail_np) fun _ =>
    bind_np (asFtAggregate_np m) (fun (_, _) => ok_np) fail_np

theorem geoCoord_np {fp : FP} {info : List Msg} {i : Nat} {loc : GeoLoc} : geoCoord fp info i loc ≠ .panic := by
  unfold geoCoord
  refine ite_np (fun h => ?_) fun _ => ok_np
  rw [idx_lt h]
  refine ite_np (fun _ => ite_np (fun _ => err_np) fun h2 => ?_) fun _ => ok_np
  have h2 := Nat.le_of_not_lt h2
  rw [idx_lt (Nat.lt_of_lt_of_le Nat.zero_lt_two h2), idx_lt (Nat.lt_of_lt_of_le Nat.one_lt_two h2)]
  dsimp only
  exact bind_np (asFloat64V_np fp _) (fun _ => bind_np (asFloat64V_np fp _) oks_np fail_np) fail_np

theorem geoHash_np {fp : FP} {info : List Msg} {i : Nat} {loc : GeoLoc} : geoHash fp info i loc ≠ .panic := by
  unfold geoHash
  refine ite_np (fun h => ?_) fun _ => geoCoord_np
  rw [idx_lt h]
  exact ite_np (fun _ => geoCoord_np) fun _ => geoCoord_np

theorem geoDist_np {fp : FP} {info : List Msg} {loc : GeoLoc} : geoDist fp info loc ≠ .panic := by
  unfold geoDist
  refine ite_np (fun h => ?_) fun _ => geoHash_np
  rw [idx_lt h]
  exact ite_np (fun _ => bind_np (utilFloat_np fp _) (fun _ => geoHash_np) fail_np) fun _ => geoHash_np

theorem geoElem_np (v : Msg) : geoElem fp v ≠ .panic := by
  unfold geoElem
  refine ite_np (fun _ => ok_np) fun _ => ite_np (fun _ => err_np) fun h => ?_
  rw [idx_lt (Nat.pos_of_ne_zero h)]
  exact geoDist_np

theorem anyElem_np {r : Res AnyV} (h : r ≠ .panic) : anyElem r ≠ .panic := by
  unfold anyElem; exact bind_np h oks_np fun _ => ⟨ite_np (fun _ => ok_np) fun _ => ok_np, oom_np⟩

theorem toAnyList_np : ∀ xs, (∀ x ∈ xs, toAny fp x ≠ .panic) → toAnyList fp xs ≠ .panic
  | [], _ => by rw [toAnyList]; exact ok_np
  | x :: r, h => by
    have h := List.forall_mem_cons.mp h
    rw [toAnyList]
    exact bind_np (anyElem_np h.1) (fun _ => bind_np (toAnyList_np r h.2) oks_np fail_np) fail_np

theorem toAnyPairs_np : ∀ xs, xs.length % 2 = 0 → (∀ x ∈ xs, toAny fp x ≠ .panic) → toAnyPairs fp xs ≠ .panic :=
  pairs_induction (fun _ => by rw [toAnyPairs]; exact ok_np) fun k v r ih h => by
    have h := List.forall_mem_cons.mp (List.forall_mem_cons.mp h).2
    rw [toAnyPairs]
    exact bind_np (anyElem_np h.1) (fun _ => bind_np (ih h.2) (fun (_, _) => ok_np) fail_np) fail_np

theorem toAny_np : toAny fp m ≠ .panic := by
  refine Msg.rec (motive_1 := fun m => toAny fp m ≠ .panic)
    (motive_2 := fun xs => ∀ x ∈ xs, toAny fp x ≠ .panic) ?mk ?nil ?cons m
  case nil => exact fun _ h => nomatch h
  case cons => exact fun _ _ ih1 ih2 => List.forall_mem_cons.mpr ⟨ih1, ih2⟩
  case mk =>
    intro t s i xs a ihx _
    rw [toAny]
    exact ite_np (fun _ => err_np) fun _ => ite_np (fun _ => err_np) fun _ =>
      ite_np (fun _ => bind_np (utilFloat_np fp s) oks_np fail_np) fun _ =>
      ite_np (fun _ => ok_np) fun _ => ite_np (fun _ => ok_np) fun _ => ite_np (fun _ => ok_np) fun _ =>
      ite_np (fun _ => ite_np (fun _ => err_np) fun h =>
        bind_np (toAnyPairs_np fp xs (Decidable.of_not_not h) ihx) (fun (_, _) => ok_np) fail_np) fun _ =>
      ite_np (fun _ => bind_np (toAnyList_np fp xs ihx) oks_np fail_np) fun _ => err_np

end

end Rv.Acc
