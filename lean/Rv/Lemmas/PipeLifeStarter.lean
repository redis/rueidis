/-
Pipe life model, repaired tail (`fix = true`, pipe.go since eac8ecc): while the `_background`
goroutine does not exist and somebody holds `waits`, a *starter* exists — a caller that holds wait
number 1 and has not passed its tail (`counted 1`, in the sync path, or holding its result with the
tail still to run), or Close holding wait number 1 before its CAS. A starter's next statement is
always enabled and either starts `_background` or keeps a starter. Hence no deadlock without the
hypothesis that `_background` was started.
-/
import Rv.Lemmas.PipeLifeProgress
import Rv.Lemmas.PipeLifeLatch
namespace Rv.PipeLife

theorem deliver_waits_le (o : Owner) (r : Res) (s : St) : (deliver o r s).waits ≤ s.waits := by
  cases o <;> simp only [deliver]
  · split
    · exact Nat.le_refl _
    · exact Nat.sub_le _ _
    · exact Nat.le_refl _
  · exact Nat.sub_le _ _
  · exact Nat.sub_le _ _

/-- which steps can raise `waits` -/
def WaitsUp (s s' : St) (l : Label) : Prop :=
  s'.waits ≤ s.waits ∨
  (∃ i, l = .enter i ∧ stOf s' i = some (.counted (s.waits + 1))) ∨
  (∃ w, l = .closeEnter w ∧ s'.close = .entered (s.waits + 1)) ∨
  l = .tdSpawn ∨ l = .closePing

theorem step_waits {fix : Bool} {s s' : St} {l : Label} (h : step fix s l = some s') : WaitsUp s s' l := by
  induction step_sound h with
  | enter i hst =>
    exact Or.inr (Or.inl ⟨i, rfl, stOf_modify_self hst rfl⟩)
  | noSpawn | spawn => exact Or.inr (Or.inr (Or.inr (Or.inl rfl)))
  | closeEnter w => exact Or.inr (Or.inr (Or.inl ⟨w, rfl, rfl⟩))
  | ping | noPing => exact Or.inr (Or.inr (Or.inr (Or.inr rfl)))
  | putFail | leave | closeTail => exact Or.inl (Nat.sub_le _ _)
  | leaveBg => exact Or.inl (Nat.le_trans (Nat.le_of_eq (startBg_waits _)) (Nat.sub_le _ _))
  | toQueueBg | syncErr | casBg => exact Or.inl (Nat.le_of_eq (startBg_waits _))
  | rDeliver | drain => exact Or.inl (deliver_waits_le _ _ _)
  | rErr =>
    refine Or.inl ?_
    show (deferDeliver s).waits ≤ s.waits
    unfold deferDeliver; split
    · exact deliver_waits_le _ _ _
    · exact Nat.le_refl _
  | _ => exact Or.inl (Nat.le_refl _)

/-- Close's program counter moves only at Close's own statements, and from `entered` only at the CAS -/
theorem step_close {fix : Bool} {s s' : St} {l : Label} (h : step fix s l = some s') :
    s'.close = s.close ∨ l = .closeCas ∨ ∀ w, s.close ≠ .entered w := by
  induction step_sound h with
  | casBg | cas => exact Or.inr (Or.inl rfl)
  | closeEnter _ hcl | ping _ hcl | noPing _ hcl | closeGot hcl | closeGrace hcl | closeTail hcl =>
    exact Or.inr (Or.inr fun w hw => nomatch hcl ▸ hw)
  | toQueueBg | syncErr | leaveBg => exact Or.inl (startBg_close _)
  | rDeliver | drain => exact Or.inl (deliver_close _ _ _)
  | rErr => exact Or.inl (congrArg Scal.close (scal_deferDeliver s))
  | _ => exact Or.inl rfl

/-- the caller holds wait number 1 and its tail `waits == 1 && left != 0 { background() }` is still ahead -/
def CS.isStarter : CS → Bool
  | .counted w => w == 1
  | .syncing => true
  | .got _ sb => sb
  | _ => false

def HasStarter (s : St) : Prop :=
  (∃ j cs, stOf s j = some cs ∧ cs.isStarter = true) ∨ s.close = .entered 1

/-- no background goroutine, somebody holds `waits`: a starter exists -/
def InvJ (s : St) : Prop := s.td = .off → 1 ≤ s.waits → HasStarter s

theorem td_off_stable {fix : Bool} {s s' : St} {l : Label} (h : step fix s l = some s') (h' : s'.td = .off) :
    s.td = .off := by
  by_cases htd : s.td = .off
  · exact htd
  · have hl : Latched s false false true := ⟨fun x => (by cases x), fun x => (by cases x), fun _ => htd⟩
    exact absurd h' ((latched_step h hl).t rfl)

theorem trans_starter {l : Label} {j : Nat} {a b : CS} (h : Trans l j a b) (hs : a.isStarter = true) :
    (l = .decide j ∧ a = .counted 1) ∨ b.isStarter = true ∨ (l = .leave j ∧ ∃ r, a = .got r true) := by
  cases h <;> simp_all [CS.isStarter]

/-- the starter's own `decide` keeps it a starter or starts `_background` (repaired tail) -/
theorem decide_keeps_starter {s s' : St} {j : Nat} (h : step true s (.decide j) = some s')
    (hst : stOf s j = some (.counted 1)) (ha : InvA (scal s)) (htd : s.td = .off) (htd' : s'.td = .off) :
    ∃ cs, stOf s' j = some cs ∧ cs.isStarter = true := by
  simp only [step, decide, hst] at h
  have h1 : ¬ s.state = 1 := fun h1 => (ha.a4 h1) htd
  simp only [h1, if_false] at h
  split at h
  · simp only [ne_eq, not_true_eq_false, if_false] at h
    split at h
    · injection h with h; subst h
      have : (setSt j .toQueue (startBg s)).td = (startBg s).td := rfl
      rw [this] at htd'
      exact absurd htd' (startBg_td_ne_off s)
    · injection h with h; subst h
      exact ⟨.syncing, stOf_modify_self hst rfl, rfl⟩
  · injection h with h; subst h
    exact ⟨.got (latched s.err) true, stOf_modify_self hst rfl, rfl⟩

theorem invJ_step {s s' : St} {l : Label} (h : step true s l = some s') (ha : InvA (scal s)) (hc : InvC s)
    (hj : InvJ s) : InvJ s' := by
  intro htd' hw'
  have htd := td_off_stable h htd'
  have hc' := invC_step h hc
  by_cases hw : 1 ≤ s.waits
  · -- a starter existed before the step
    rcases hj htd hw with ⟨j, cs, hst, hs⟩ | hcl
    · rcases step_change h j with ⟨h1, _⟩ | ⟨a, b, ha1, hb1, ht, _⟩ | ⟨a, b, ha1, _, hdl, _⟩
      · exact Or.inl ⟨j, cs, by rw [h1]; exact hst, hs⟩
      · rw [hst] at ha1; injection ha1 with ha1; subst ha1
        rcases trans_starter ht hs with ⟨rfl, rfl⟩ | hb | ⟨rfl, r, rfl⟩
        · obtain ⟨c2, h2, h3⟩ := decide_keeps_starter h hst ha htd htd'
          exact Or.inl ⟨j, c2, h2, h3⟩
        · exact Or.inl ⟨j, b, hb1, hb⟩
        · -- the tail runs: either it starts `_background`, or nobody is left
          simp only [step, leave, hst, Bool.true_and] at h
          split at h
          · injection h with h; subst h
            exact absurd htd' (startBg_td_ne_off _)
          · rename_i hz
            injection h with h; subst h
            have : s.waits - 1 = 0 := by simpa using hz
            have hw2 : (leaveSt j r s).waits = s.waits - 1 := rfl
            omega
      · rw [hst] at ha1; injection ha1 with ha1; subst ha1
        cases hdl <;> simp [CS.isStarter] at hs
    · -- Close holds wait number 1 and has not done its CAS yet
      rcases step_close h with hsame | rfl | hne
      · exact Or.inr (by rw [hsame]; exact hcl)
      · have hs0 : s.state = 0 := ha.a13 htd (Or.inr ⟨1, hcl⟩)
        simp only [step, closeCas, hcl] at h
        have : (s.state == 0 && (1 : Nat) == 1) = true := by simp [hs0]
        simp only [this, if_true] at h
        injection h with h; subst h
        exact absurd htd' (startBg_td_ne_off _)
      · exact absurd hcl (hne 1)
  · -- nobody held `waits`: the step that raised it created the starter
    have hw0 : s.waits = 0 := by omega
    rcases step_waits h with hle | ⟨i, _, hi⟩ | ⟨w, _, hcl⟩ | hl | hl
    · omega
    · exact Or.inl ⟨i, _, hi, by simp [CS.isStarter, hw0]⟩
    · exact Or.inr (by rw [hcl, hw0])
    · subst hl
      simp only [step, tdSpawn, htd] at h
      cases h
    · subst hl
      simp only [step, closePing] at h
      have hw := hc.w
      split at h
      · rename_i hcl; rw [hcl] at hw; simp only [ClosePc.weight] at hw; omega
      · cases h

theorem invJ_init (calls : List Call) (p b : Bool) : InvJ (init calls p b) := by
  intro _ hw
  have : (init calls p b).waits = 0 := by unfold init; split <;> simp
  omega

theorem Reachable.invJ {s : St} (h : Reachable true s) : InvJ s := by
  induction h with
  | init calls p b _ => exact invJ_init calls p b
  | step l hr hs ih => exact invJ_step hs hr.invA hr.invC ih

/-- **no deadlock, repaired tail, without any hypothesis on `_background`.** -/
theorem no_deadlock_fixed {s : St} (hr : Reachable true s) (ht : triggered s)
    {i : Nat} {cs : CS} (hst : stOf s i = some cs) (hw : cs.weight = 1) : canMove true s := by
  cases htd : s.td with
  | off =>
    have ha := hr.invA
    have hpos : 1 ≤ s.waits := hr.invC.waits_pos hst hw
    rcases hr.invJ htd hpos with ⟨j, cj, hj, hs⟩ | hcl
    · cases cj with
      | counted w => exact own_step_enabled hj rfl (by simp) (by simp) (by simp)
      | got r sb => exact own_step_enabled hj rfl (by simp) (by simp) (by simp)
      | syncing =>
        cases hup : s.connUp with
        | true => exact close_moves_if_up ha ht hup
        | false => exact own_step_enabled hj rfl (by simp) (by simp) (fun _ => hup)
      | _ => simp [CS.isStarter] at hs
    · exact close_moves true s (by rw [hcl]; simp) (by rw [hcl]; simp)
  | _ => exact no_deadlock hr ht (by rw [htd]; simp) hst hw

end Rv.PipeLife
