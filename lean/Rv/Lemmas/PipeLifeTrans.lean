/-
Pipe life model: how one step changes the status of a call and the log of returns.
A call's status changes only by its own statements (`Trans`) or by a delivery on its result
channel (`Deliv`); a return is logged exactly when the status moves to `aborted`/`done`.
-/
import Rv.Lemmas.PipeLifeCount
namespace Rv.PipeLife

/-- the caller whose statement a label is -/
def Label.caller : Label → Option Nat
  | .enter i | .decide i | .put i | .putFail i | .syncOk i | .syncErr i | .leave i | .abort i => some i
  | _ => none

/-- status changes made by the call's own statements: label, caller, old and new status -/
inductive Trans : Label → Nat → CS → CS → Prop where
  | enter (i w : Nat) : Trans (.enter i) i .idle (.counted w)
  | enterDone (i : Nat) : Trans (.enter i) i .idle .done
  | toQueue (i w : Nat) : Trans (.decide i) i (.counted w) .toQueue
  | sync (i w : Nat) : Trans (.decide i) i (.counted w) .syncing
  | reject (i w : Nat) (r : Res) (b : Bool) : Trans (.decide i) i (.counted w) (.got r b)
  | put (i : Nat) : Trans (.put i) i .toQueue .waiting
  | putFail (i : Nat) : Trans (.putFail i) i .toQueue .done
  | syncOk (i : Nat) : Trans (.syncOk i) i .syncing (.got .reply true)
  | syncErr (i : Nat) (r : Res) : Trans (.syncErr i) i .syncing (.got r true)
  | leave (i : Nat) (r : Res) (b : Bool) : Trans (.leave i) i (.got r b) .done
  | abort (i : Nat) : Trans (.abort i) i .waiting .aborted

/-- status changes made by a delivery on the call's result channel -/
inductive Deliv : CS → CS → Prop where
  | got (r : Res) : Deliv .waiting (.got r false)
  | swallowed : Deliv .aborted .done

/-- the call has returned to its caller -/
def CS.ret : CS → Nat
  | .aborted | .done => 1
  | _ => 0

/-- number of logged returns of call `j` -/
def cnt (j : Nat) (log : List (Nat × Res)) : Nat := (log.map Prod.fst).count j

theorem cnt_append (j : Nat) (l : List (Nat × Res)) (i : Nat) (r : Res) :
    cnt j (l ++ [(i, r)]) = cnt j l + if i = j then 1 else 0 := by
  simp [cnt, List.count_append, List.count_cons]

/-- what one step does to call `j` -/
def Change (s s' : St) (l : Label) (j : Nat) : Prop :=
  (stOf s' j = stOf s j ∧ cnt j s'.log = cnt j s.log) ∨
  (∃ a b, stOf s j = some a ∧ stOf s' j = some b ∧ Trans l j a b ∧
      cnt j s'.log + a.ret = cnt j s.log + b.ret) ∨
  (∃ a b, stOf s j = some a ∧ stOf s' j = some b ∧ Deliv a b ∧ cnt j s'.log = cnt j s.log)

theorem change_same {s s' : St} {l : Label} (hc : s'.calls = s.calls) (hl : s'.log = s.log) (j : Nat) :
    Change s s' l j := Or.inl ⟨by simp [stOf, hc], by rw [hl]⟩

/-- call `i` makes a statement that does not return -/
theorem change_own {s s' : St} {l : Label} {i : Nat} {a b : CS} (hold : stOf s i = some a)
    (hcalls : s'.calls = s.calls.modify i (setCallSt b)) (hlog : s'.log = s.log) (ht : Trans l i a b)
    (hr : a.ret = b.ret) (j : Nat) : Change s s' l j := by
  by_cases hij : i = j
  · subst hij
    exact Or.inr (Or.inl ⟨a, b, hold, stOf_modify_self hold hcalls, ht, by rw [hlog, hr]⟩)
  · exact Or.inl ⟨by rw [stOf_modify hcalls j, if_neg hij], by rw [hlog]⟩

/-- call `i` makes a statement that returns `r` -/
theorem change_ret {s s' : St} {l : Label} {i : Nat} {a b : CS} {r : Res}
    (hold : stOf s i = some a) (hcalls : s'.calls = s.calls.modify i (setCallSt b))
    (hlog : s'.log = s.log ++ [(i, r)]) (ht : Trans l i a b) (ha : a.ret = 0) (hb : b.ret = 1) (j : Nat) :
    Change s s' l j := by
  by_cases hij : i = j
  · subst hij
    exact Or.inr (Or.inl ⟨a, b, hold, stOf_modify_self hold hcalls, ht, by rw [hlog, cnt_append, if_pos rfl, ha, hb]⟩)
  · refine Or.inl ⟨by rw [stOf_modify hcalls j, if_neg hij], ?_⟩
    rw [hlog, cnt_append, if_neg hij]; rfl

theorem deliver_log (o : Owner) (r : Res) (s : St) : (deliver o r s).log = s.log := by
  cases o <;> simp only [deliver]
  split <;> rfl

/-- a delivery changes at most the status of the entry's owner -/
theorem change_deliver {s s0 : St} {l : Label} {o : Owner} {r : Res} (hc : s0.calls = s.calls) (hl : s0.log = s.log)
    (j : Nat) : Change s (deliver o r s0) l j := by
  have hst0 : ∀ k, stOf s0 k = stOf s k := fun k => by simp [stOf, hc]
  cases o with
  | call i =>
    have key : ∀ {a b : CS} {s1 : St}, stOf s0 i = some a → s1.calls = s0.calls.modify i (setCallSt b) →
        s1.log = s0.log → Deliv a b → Change s s1 l j := fun {a b s1} hw hc1 hl1 hd => by
      by_cases hij : i = j
      · subst hij
        exact Or.inr (Or.inr ⟨a, b, by rw [← hst0]; exact hw, stOf_modify_self hw hc1, hd, by rw [hl1, hl]⟩)
      · exact Or.inl ⟨by rw [stOf_modify hc1 j, if_neg hij, hst0], by rw [hl1, hl]⟩
    simp only [deliver]
    split
    · exact key ‹_› rfl rfl (.got r)
    · exact key ‹_› rfl rfl .swallowed
    · exact Or.inl ⟨hst0 j, by rw [hl]⟩
  | bgPing => exact Or.inl ⟨hst0 j, by rw [← hl]; rfl⟩
  | closePing => exact Or.inl ⟨hst0 j, by rw [← hl]; rfl⟩

theorem change_startBg {s s' : St} {l : Label} {j : Nat} (h : Change s s' l j) : Change s (startBg s') l j := by
  unfold Change; rw [stOf_startBg, startBg_log]; exact h

theorem step_change {fix : Bool} {s s' : St} {l : Label} (h : step fix s l = some s') (j : Nat) :
    Change s s' l j := by
  induction step_sound h with
  | enterDone i hst => refine change_ret (r := .ctx) hst ?_ ?_ (.enterDone _) rfl rfl j <;> rfl
  | enter i hst => refine change_own hst ?_ ?_ (.enter _ (s.waits + 1)) rfl j <;> rfl
  | toQueue i w hst => refine change_own hst ?_ ?_ (.toQueue _ _) rfl j <;> rfl
  | toQueueBg i w hst =>
    refine change_own hst ?_ ?_ (.toQueue _ _) rfl j
    · exact congrArg (List.modify · i _) (startBg_calls s)
    · exact startBg_log s
  | sync i w hst => refine change_own hst ?_ ?_ (.sync _ _) rfl j <;> rfl
  | reject i w hst => refine change_own hst ?_ ?_ (.reject _ _ (latched s.err) (fix && w == 1)) rfl j <;> rfl
  | put i hst => refine change_own hst ?_ ?_ (.put _) rfl j <;> rfl
  | putFail i hst => refine change_ret (r := .ctx) hst ?_ ?_ (.putFail _) rfl rfl j <;> rfl
  | syncOk i hst => refine change_own hst ?_ ?_ (.syncOk _) rfl j <;> rfl
  | syncErr i hst =>
    refine change_own hst ?_ ?_ (.syncErr _ (if s.connUp then .ctx else .transport)) rfl j
    · exact congrArg (List.modify · i _) (startBg_calls _)
    · exact startBg_log _
  | leaveBg i r sb hst => refine change_startBg (change_ret (r := r) hst ?_ ?_ (.leave _ _ _) rfl rfl j) <;> rfl
  | leave i r sb hst => refine change_ret (r := r) hst ?_ ?_ (.leave _ _ _) rfl rfl j <;> rfl
  | abort i hst => refine change_ret (r := .ctx) hst ?_ ?_ (.abort _) rfl rfl j <;> rfl
  | cancel i => exact Or.inl ⟨stOf_modify_same (f := setDone) (fun _ => rfl) rfl j, rfl⟩
  | rDeliver | drain => exact change_deliver rfl rfl j
  | rErr =>
    show Change s (deferDeliver s) _ j
    unfold deferDeliver; split
    · exact change_deliver rfl rfl j
    · exact change_same rfl rfl j
  | casBg => exact change_startBg (change_same rfl rfl j)
  | _ => exact change_same rfl rfl j

end Rv.PipeLife
