/-
Lemmas about the topology parser model (`Rv.Model.Topology`): totality (no index panic),
shape of the parsed groups, which entries of the reply end up in which group.
-/
import Rv.Model.Topology
namespace Rv.ClusterParse
open Rv Rv.Topology

def IsOk {α} (r : Res α) : Prop := ∃ a, r = .ok a
def NoPanic {α} (r : Res α) : Prop := r ≠ .panic ∧ r ≠ .oom

theorem idx_ok {xs : List Msg} {i : Nat} (h : i < xs.length) : idx xs i = .ok xs[i] := by
  simp [idx, List.getElem?_eq_getElem h]

theorem foldRes_inv {α β} {f : β → α → Res β} (P : β → Prop) (h : ∀ a x, P a → ∃ b, f a x = .ok b ∧ P b) :
    ∀ (xs : List α) (a : β), P a → ∃ b, foldRes f a xs = .ok b ∧ P b
  | [], a, ha => ⟨a, rfl, ha⟩
  | x :: xs, a, ha => by
    obtain ⟨b, hb, hp⟩ := h a x ha
    unfold foldRes
    rw [hb]
    exact foldRes_inv P h xs b hp

theorem foldl_inv {α β : Type} {f : β → α → β} (P : β → Prop) : ∀ (xs : List α),
    (∀ b, ∀ x ∈ xs, P b → P (f b x)) → ∀ b, P b → P (xs.foldl f b)
  | [], _, _, h => h
  | x :: xs, hs, b, h =>
    foldl_inv P xs (fun b y hy => hs b y (List.mem_cons_of_mem _ hy)) _ (hs b x (List.mem_cons_self ..) h)

theorem foldRes_eq_foldl {α β} {f : β → α → Res β} {g : β → α → β} (h : ∀ a x, f a x = .ok (g a x)) :
    ∀ (xs : List α) (a : β), foldRes f a xs = .ok (xs.foldl g a)
  | [], _ => rfl
  | x :: xs, a => by
    unfold foldRes
    rw [h]
    exact foldRes_eq_foldl h xs _

theorem slotNodes_ok (d : Bytes) : ∀ xs, IsOk (slotNodes d xs)
  | [] => ⟨[], rfl⟩
  | nv :: rest => by
    obtain ⟨ns, hns⟩ := slotNodes_ok d rest
    unfold slotNodes
    simp only
    split
    · exact ⟨ns, hns⟩
    · rename_i hlen
      rw [idx_ok (Nat.lt_of_lt_of_le Nat.zero_lt_two (Nat.not_lt.mp hlen)), idx_ok (Nat.not_lt.mp hlen), hns]
      simp only
      split <;> exact ⟨_, rfl⟩

/-- the master address announced by one CLUSTER SLOTS entry, `none` when the entry is unusable
    (too short, master without address/port pair, `?` endpoint) -/
def entryMaster (d : Bytes) (v : Msg) : Option Bytes :=
  if h : v.arr.length < 3 then none
  else
    let v2 := v.arr[2]'(by omega)
    if h2 : v2.arr.length < 2 then none
    else
      let a := parseEndpoint d (v2.arr[0]'(by omega)).str (v2.arr[1]'(by omega)).int
      if a = [] then none else some a

/-- the slot range announced by an entry (meaningful for entries with at least 2 elements) -/
def entryRange (v : Msg) : Int × Int := ((v.arr[0]?.getD zero).int, (v.arr[1]?.getD zero).int)

theorem gget_gset (a k : Bytes) (g : Group) (gs : Groups) :
    gget a (gset k g gs) = if k = a then some g else gget a gs := by
  unfold gget gset
  by_cases h : k = a
  · rw [if_pos h, List.find?_cons_of_pos (by simpa using h)]
    rfl
  · rw [if_neg h, List.find?_cons_of_neg (by simpa using h), List.find?_filter]
    congr 2
    funext e
    by_cases he : e.1 = a
    · simp [he]
      exact fun hk => h hk.symm
    · simp [he]

theorem gget_gset_all {P : Bytes → Group → Prop} {gs : Groups} {k : Bytes} {g : Group}
    (h : ∀ a g', gget a gs = some g' → P a g') (hk : P k g) : ∀ a g', gget a (gset k g gs) = some g' → P a g' := by
  intro a g' hg
  rw [gget_gset] at hg
  split at hg
  next e => cases hg; exact e ▸ hk
  next => exact h a g' hg

section slotsStep
variable (d : Bytes)

/-- one step of parseSlots as a pure function -/
def slotsNext (gs : Groups) (v : Msg) : Groups :=
  match entryMaster d v with
  | none => gs
  | some a =>
    match gget a gs with
    | some g => gset a { g with slots := g.slots ++ [entryRange v] } gs
    | none =>
      match slotNodes d (v.arr.drop 2) with
      | .ok ns => gset a { nodes := ns, slots := [entryRange v] } gs
      | _ => gs

/-- the two ways an entry of CLUSTER SLOTS is treated: skipped, or filed under its master `a`, which is also
    the first node the inner loop collects. By cases on the shape of the entry (fewer than 3 values, a master
    with fewer than 2 values, an unusable endpoint, a usable one); on each shape both sides compute. -/
theorem entry_view (v : Msg) :
    (entryMaster d v = none ∧ ∀ gs, slotsStep d gs v = .ok gs) ∨
    ∃ a ns, a ≠ [] ∧ entryMaster d v = some a ∧ slotNodes d (v.arr.drop 2) = .ok (a :: ns) ∧
      ∀ gs, slotsStep d gs v = .ok (match gget a gs with
        | some g => gset a { g with slots := g.slots ++ [entryRange v] } gs
        | none => gset a { nodes := a :: ns, slots := [entryRange v] } gs) := by
  obtain ⟨t, s, i, l, at_⟩ := v
  match l with
  | [] | [_] | [_, _] => exact Or.inl ⟨rfl, fun _ => rfl⟩
  | v0 :: v1 :: ⟨t2, s2, i2, l2, a2⟩ :: rest =>
    match l2 with
    | [] | [_] => exact Or.inl ⟨rfl, fun _ => rfl⟩
    | m0 :: m1 :: mrest =>
      by_cases hp : parseEndpoint d m0.str m1.int = []
      · exact Or.inl ⟨(if_pos hp : (if parseEndpoint d m0.str m1.int = [] then none else some _) = none),
          fun gs => (if_pos hp : (if parseEndpoint d m0.str m1.int = [] then Res.ok gs else _) = _)⟩
      · obtain ⟨ns, hns⟩ := slotNodes_ok d rest
        have hsn : slotNodes d (List.drop 2 (Msg.mk t s i (v0 :: v1 :: Msg.mk t2 s2 i2 (m0 :: m1 :: mrest) a2 :: rest) at_).arr)
            = .ok (parseEndpoint d m0.str m1.int :: ns) := by
          change (match slotNodes d rest with
            | .ok ns => if parseEndpoint d m0.str m1.int ≠ [] then Res.ok (parseEndpoint d m0.str m1.int :: ns) else .ok ns
            | r => r) = _
          rw [hns]
          exact if_pos hp
        refine Or.inr ⟨_, ns, hp, (if_neg hp : (if parseEndpoint d m0.str m1.int = [] then none else some _) = _), hsn, fun gs => ?_⟩
        refine (if_neg hp : (if parseEndpoint d m0.str m1.int = [] then Res.ok gs else _) = _).trans ?_
        cases gget (parseEndpoint d m0.str m1.int) gs with
        | some g => rfl
        | none => simp only [hsn]; rfl

theorem slotsNext_cases (gs : Groups) (v : Msg) :
    (entryMaster d v = none ∧ slotsNext d gs v = gs) ∨
    ∃ a g, a ≠ [] ∧ entryMaster d v = some a ∧ slotsNext d gs v = gset a g gs ∧ entryRange v ∈ g.slots ∧
      match gget a gs with
      | some g0 => g.nodes = g0.nodes ∧ ∀ r ∈ g0.slots, r ∈ g.slots
      | none => g.nodes.head? = some a := by
  unfold slotsNext
  rcases entry_view d v with ⟨h, _⟩ | ⟨a, ns, ha, h, hsn, _⟩
  · rw [h]; exact Or.inl ⟨rfl, rfl⟩
  · rw [h, hsn]
    dsimp only
    cases hg : gget a gs with
    | some g0 =>
      refine Or.inr ⟨a, { g0 with slots := g0.slots ++ [entryRange v] }, ha, rfl, rfl,
        List.mem_append_right _ (List.mem_singleton.mpr rfl), ?_⟩
      rw [hg]
      exact ⟨rfl, fun r hr => List.mem_append_left _ hr⟩
    | none =>
      refine Or.inr ⟨a, { nodes := a :: ns, slots := [entryRange v] }, ha, rfl, rfl, List.mem_singleton.mpr rfl, ?_⟩
      rw [hg]
      rfl

theorem slotsStep_eq (gs : Groups) (v : Msg) : slotsStep d gs v = .ok (slotsNext d gs v) := by
  unfold slotsNext
  rcases entry_view d v with ⟨h, hs⟩ | ⟨a, ns, _, h, hsn, hs⟩
  · rw [h, hs]
  · rw [h, hs, hsn]

end slotsStep

theorem parseSlots_eq_foldl (m : Msg) (d : Bytes) : parseSlots m d = .ok (m.arr.foldl (slotsNext d) []) :=
  foldRes_eq_foldl (slotsStep_eq d) _ _

theorem parseSlots_ok (m : Msg) (d : Bytes) : IsOk (parseSlots m d) := ⟨_, parseSlots_eq_foldl m d⟩

theorem toMap_noPanic : ∀ xs : List Msg, xs.length % 2 = 0 → NoPanic (toMap xs)
  | [], _ => by simp [toMap, NoPanic]
  | [_], h => by cases h
  | k :: v :: rest, h => by
    have := toMap_noPanic rest (by rw [List.length_cons, List.length_cons] at h; omega)
    unfold toMap
    split
    · split
      · simp [NoPanic]
      · exact this
    · simp [NoPanic]

theorem asMap_noPanic (m : Msg) : NoPanic (asMap m) := by
  unfold asMap
  split
  · simp [NoPanic]
  · split
    · rename_i h
      exact toMap_noPanic _ (by simp at h; exact h.2)
    · simp [NoPanic]

theorem asMapOrNil_ok (m : Msg) : IsOk (asMapOrNil m) := by
  have h := asMap_noPanic m
  unfold asMapOrNil
  cases hm : asMap m with
  | ok d => exact ⟨d, rfl⟩
  | err e => exact ⟨[], rfl⟩
  | panic => exact absurd hm h.1
  | oom => exact absurd hm h.2

theorem slotPairs_ok (slots : List Msg) : ∀ n i, (i + n) * 2 ≤ slots.length → IsOk (slotPairs slots i n)
  | 0, _, _ => ⟨[], rfl⟩
  | n + 1, i, h => by
    obtain ⟨r, hr⟩ := slotPairs_ok slots n (i + 1) (by omega)
    unfold slotPairs
    rw [idx_ok (by omega : i * 2 < slots.length), idx_ok (by omega : i * 2 + 1 < slots.length), hr]
    exact ⟨_, rfl⟩

/-- loop invariant of the node loop of parseShards: `m` indexes into `g.nodes`, no node is `""` -/
def NodesInv (st : List Bytes × Option Nat) : Prop := (∀ k, st.2 = some k → k < st.1.length) ∧ [] ∉ st.1

theorem nodesInv_addNode (st : List Bytes × Option Nat) (dst : Bytes) (p : Prop) [Decidable p] (h : NodesInv st) :
    ∃ st', (if dst = [] then Res.ok st else Res.ok (st.1 ++ [dst], if p then some st.1.length else st.2)) = Res.ok st'
      ∧ NodesInv st' := by
  by_cases hd : dst = []
  · rw [if_pos hd]; exact ⟨st, rfl, h⟩
  · rw [if_neg hd]
    refine ⟨_, rfl, ?_, ?_⟩
    · intro k hk
      simp only at hk
      simp only [List.length_append, List.length_cons, List.length_nil]
      by_cases hp : p
      · rw [if_pos hp] at hk; cases hk; omega
      · rw [if_neg hp] at hk; have := h.1 k hk; omega
    · simp only [List.mem_append, List.mem_singleton, not_or]
      exact ⟨h.2, fun h' => hd h'.symm⟩

theorem shardNodeStep_inv (d : Bytes) (tls : Bool) (st : List Bytes × Option Nat) (n : Msg) (h : NodesInv st) :
    ∃ st', shardNodeStep d tls st n = .ok st' ∧ NodesInv st' := by
  obtain ⟨dict, hd⟩ := asMapOrNil_ok n
  unfold shardNodeStep
  rw [hd]
  simp only
  by_cases hh : (mget kHealth dict).str ≠ kOnline
  · rw [if_pos hh]; exact ⟨st, rfl, h⟩
  · rw [if_neg hh]
    exact nodesInv_addNode st _ _ h

theorem swap0_ok (ns : List Bytes) (m : Nat) (h : m < ns.length) :
    ∃ ns', swap0 ns m = .ok ns' ∧ ns'.length = ns.length ∧ (∀ x, x ∈ ns' → x ∈ ns) := by
  have h0 : 0 < ns.length := by omega
  unfold swap0
  rw [List.getElem?_eq_getElem h0, List.getElem?_eq_getElem h]
  refine ⟨_, rfl, by simp, ?_⟩
  intro x hx
  rcases List.mem_or_eq_of_mem_set hx with h1 | h1
  · rcases List.mem_or_eq_of_mem_set h1 with h2 | h2
    · exact h2
    · exact h2 ▸ List.getElem_mem h
  · exact h1 ▸ List.getElem_mem h0

/-- the group a CLUSTER SHARDS entry contributes, if any -/
def shardGroup (d : Bytes) (tls : Bool) (v : Msg) : Option (Bytes × Group) :=
  match asMapOrNil v with
  | .ok shard =>
    match slotPairs (mget kSlots shard).arr 0 ((mget kSlots shard).arr.length / 2),
          foldRes (shardNodeStep d tls) ([], none) (mget kNodes shard).arr with
    | .ok ss, .ok (ns, some m) =>
      match swap0 ns m with
      | .ok ns' => (ns'.head?).map fun master => (master, { nodes := ns', slots := ss })
      | _ => none
    | _, _ => none
  | _ => none

section shards
variable (d : Bytes) (tls : Bool)

/-- a shard is skipped (no master among its online nodes), or contributes a group keyed by its first node and
    free of nodes without an address; the slice indexings of the step are all in range -/
theorem shard_view (v : Msg) :
    (shardGroup d tls v = none ∧ ∀ gs, shardStep d tls gs v = .ok gs) ∨
    ∃ k g, shardGroup d tls v = some (k, g) ∧ g.nodes.head? = some k ∧ [] ∉ g.nodes ∧
      ∀ gs, shardStep d tls gs v = .ok (gset k g gs) := by
  obtain ⟨shard, hs⟩ := asMapOrNil_ok v
  obtain ⟨ss, hss⟩ := slotPairs_ok (mget kSlots shard).arr ((mget kSlots shard).arr.length / 2) 0 (by omega)
  obtain ⟨⟨ns, m⟩, hf, hi⟩ := foldRes_inv NodesInv (shardNodeStep_inv d tls) (mget kNodes shard).arr ([], none)
    ⟨(by intro k hk; cases hk), (by simp)⟩
  unfold shardStep shardGroup
  rw [hs]
  simp only
  rw [hss, hf]
  cases m with
  | none => exact Or.inl ⟨rfl, fun _ => rfl⟩
  | some m =>
    obtain ⟨ns', hsw, hlen, hmem⟩ := swap0_ok ns m (hi.1 m rfl)
    simp only [hsw]
    cases hh : ns'.head? with
    | none =>
      have h0 : ns' = [] := List.head?_eq_none_iff.mp hh
      rw [h0] at hlen
      exact absurd (hlen ▸ hi.1 m rfl) (Nat.not_lt_zero _)
    | some a => exact Or.inr ⟨a, _, rfl, hh, fun hn => hi.2 (hmem _ hn), fun _ => rfl⟩

def shardsNext (gs : Groups) (v : Msg) : Groups :=
  match shardGroup d tls v with | some (k, g) => gset k g gs | none => gs

theorem shardStep_eq (gs : Groups) (v : Msg) :
    shardStep d tls gs v = .ok (shardsNext d tls gs v) := by
  unfold shardsNext
  rcases shard_view d tls v with ⟨h, hs⟩ | ⟨k, g, h, _, _, hs⟩ <;> rw [h, hs]

/-- every group of the result is exactly what one shard of the reply contributes -/
def FromShard (src : List Msg) (gs : Groups) : Prop :=
  ∀ k g, gget k gs = some g → ∃ v ∈ src, shardGroup d tls v = some (k, g)

theorem shardsNext_fromShard (src : List Msg) (gs : Groups) (x : Msg) (hx : x ∈ src)
    (h : FromShard d tls src gs) : FromShard d tls src (shardsNext d tls gs x) := by
  unfold shardsNext
  cases hs : shardGroup d tls x with
  | none => exact h
  | some kg => exact gget_gset_all h ⟨x, hx, hs⟩

theorem shardsNext_other (k : Bytes) (g : Group) (gs : Groups) (x : Msg)
    (hno : ∀ g', shardGroup d tls x ≠ some (k, g')) (h : gget k gs = some g) :
    gget k (shardsNext d tls gs x) = some g := by
  unfold shardsNext
  cases hs : shardGroup d tls x with
  | none => exact h
  | some kg =>
    obtain ⟨k', g'⟩ := kg
    show gget k (gset k' g' gs) = _
    rw [gget_gset, if_neg (fun e : k' = k => hno g' (e ▸ hs))]
    exact h

/-- shape of what one shard contributes: keyed by its first node, no node without an address -/
theorem shardGroup_shape (v : Msg) (k : Bytes) (g : Group)
    (h : shardGroup d tls v = some (k, g)) : g.nodes.head? = some k ∧ [] ∉ g.nodes := by
  rcases shard_view d tls v with ⟨h0, _⟩ | ⟨k', g', h', hh, hn, _⟩
  · rw [h0] at h; cases h
  · rw [h'] at h
    cases h
    exact ⟨hh, hn⟩

end shards

theorem parseShards_eq_foldl (m : Msg) (d : Bytes) (tls : Bool) :
    parseShards m d tls = .ok (m.arr.foldl (shardsNext d tls) []) :=
  foldRes_eq_foldl (shardStep_eq d tls) _ _

theorem parseShards_ok (m : Msg) (d : Bytes) (tls : Bool) : IsOk (parseShards m d tls) :=
  ⟨_, parseShards_eq_foldl m d tls⟩

/-! ### which entries end up where (parseSlots) -/

/-- every group starts with the node it is keyed by (`g.nodes[0]` is the master) -/
def HeadOK (gs : Groups) : Prop := ∀ a g, gget a gs = some g → g.nodes.head? = some a

section slotsWhere
variable (d : Bytes)

theorem slotsNext_headOK (gs : Groups) (v : Msg) (h : HeadOK gs) : HeadOK (slotsNext d gs v) := by
  rcases slotsNext_cases d gs v with ⟨_, e⟩ | ⟨a, g, _, _, e, _, hc⟩
  · rw [e]; exact h
  · rw [e]
    refine gget_gset_all h ?_
    cases hg0 : gget a gs with
    | some g0 => rw [hg0] at hc; rw [hc.1]; exact h a g0 hg0
    | none => rw [hg0] at hc; exact hc

def Listed (a : Bytes) (r : Int × Int) (gs : Groups) : Prop := ∃ g, gget a gs = some g ∧ r ∈ g.slots

theorem slotsNext_keeps (gs : Groups) (v : Msg) (a : Bytes) (r : Int × Int) (h : Listed a r gs) :
    Listed a r (slotsNext d gs v) := by
  obtain ⟨g, hg, hr⟩ := h
  rcases slotsNext_cases d gs v with ⟨_, e⟩ | ⟨k, g', _, _, e, _, hc⟩
  · rw [e]; exact ⟨g, hg, hr⟩
  · rw [e]
    by_cases ek : k = a
    · subst ek
      rw [hg] at hc
      exact ⟨g', by rw [gget_gset, if_pos rfl], hc.2 r hr⟩
    · exact ⟨g, by rw [gget_gset, if_neg ek]; exact hg, hr⟩

theorem slotsNext_lists (gs : Groups) (v : Msg) (a : Bytes) (hm : entryMaster d v = some a) :
    Listed a (entryRange v) (slotsNext d gs v) := by
  rcases slotsNext_cases d gs v with ⟨h0, _⟩ | ⟨k, g, _, hk, e, hr, _⟩
  · rw [hm] at h0; cases h0
  · rw [hm] at hk
    cases hk
    exact ⟨g, by rw [e, gget_gset, if_pos rfl], hr⟩

theorem foldl_lists (a : Bytes) (v : Msg) (hm : entryMaster d v = some a) (xs : List Msg) (gs : Groups)
    (hv : v ∈ xs) : Listed a (entryRange v) (xs.foldl (slotsNext d) gs) := by
  obtain ⟨pre, post, rfl⟩ := List.append_of_mem hv
  rw [List.foldl_append, List.foldl_cons]
  exact foldl_inv _ post (fun gs x _ => slotsNext_keeps d gs x a _) _ (slotsNext_lists d _ v a hm)

/-- keys of the result come from usable entries only -/
def KeysFrom (src : List Msg) (gs : Groups) : Prop :=
  ∀ a g, gget a gs = some g → a ≠ [] ∧ ∃ v ∈ src, entryMaster d v = some a

theorem slotsNext_keysFrom (src : List Msg) (gs : Groups) (v : Msg) (hv : v ∈ src)
    (h : KeysFrom d src gs) : KeysFrom d src (slotsNext d gs v) := by
  rcases slotsNext_cases d gs v with ⟨_, e⟩ | ⟨k, g, hk0, hk, e, _, _⟩
  · rw [e]; exact h
  · rw [e]
    exact gget_gset_all h ⟨hk0, v, hv, hk⟩

end slotsWhere

end Rv.ClusterParse
