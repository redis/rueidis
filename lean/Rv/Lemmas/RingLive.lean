/-
All invariants together (`Full`) and deadlock freedom. The one case that needs an argument is the
reader idle with no caller able to enter or to broadcast: ticket accounting then shows that a
marked slot exists only if the writer's or the reader's next slot is ready for it.
-/
import Rv.Lemmas.RingTicket
import Rv.Lemmas.RingWake
import Rv.Lemmas.RingSignal
namespace Rv.Ring

structure Full (k : Nat) (σ : State) : Prop where
  i : Inv k σ
  w : InvW k σ
  s : InvS k σ
  t : InvT k σ

theorem Full.of_reachable {k : Nat} (hk : k ≤ 32) {σ : State} (h : Reachable k σ) : Full k σ := by
  induction h with
  | init => exact ⟨⟨InvA.init k, InvB.init k⟩, InvW.init k, InvS.init k, InvT.init k⟩
  | step l _ he ih =>
    exact ⟨⟨ih.i.a.step hk l he, ih.i.b.step hk ih.i.a l he⟩, ih.w.step ih.i l he, ih.s.step ih.i l he,
      ih.t.step hk ih.i l he⟩

/-- transitions that make progress: everything except a new arrival, the two polls that find
    nothing (NextWriteCmd / WaitForWrite on a slot that is not filled — the latter merely puts
    the writer to sleep — and NextResultCh on a slot that was not handed to the writer) -/
def productive (k : Nat) (l : Label) (σ : State) : Bool :=
  match l with
  | .arrive => false
  | .wTry => (σ.slot (slotOf k (σ.read1 + 1))).mark == 1
  | .wWait => (σ.slot (slotOf k (σ.read1 + 1))).mark == 1
  | .rBegin => (σ.slot (slotOf k (σ.read2 + 1))).mark == 2
  | _ => true

/-- caller c is inside PutOne/PutMulti or waits for its reply -/
def pending (σ : State) (c : Nat) : Prop := σ.pc c ≠ .idle ∧ ∀ r, σ.pc c ≠ .done r

section
variable {k : Nat} {σ : State}

theorem Full.pending_cases (h : Full k σ) (hr : σ.rpc = .idle) {c : Nat}
    (hc : pending σ c) :
    (∃ c' s, σ.pc c' = .ready s) ∨ (∃ c' s, σ.pc c' = .bcast s) ∨ ∃ s, s < 2 ^ k ∧ (σ.slot s).mark ≠ 0 := by
  cases hpc : σ.pc c with
  | idle => exact absurd hpc hc.1
  | done r => exact absurd hpc (hc.2 r)
  | ready s => exact .inl ⟨c, s, hpc⟩
  | bcast s => exact .inr (.inl ⟨c, s, hpc⟩)
  | waiting s =>
    rcases (h.s.lw1 c s hpc).idle hr with t | ⟨d, t⟩
    · exact .inr (.inr ⟨s, (h.i.b.wtg c s hpc).1, t⟩)
    · exact .inl ⟨d, s, t⟩
  | filled s =>
    obtain ⟨l1, l2 | l2⟩ := h.i.b.live c s (Or.inl hpc)
    · exact .inr (.inr ⟨s, l1, l2.1⟩)
    · rw [hr] at l2; cases l2

end

theorem Full.no_stuck {k : Nat} (hk : k ≤ 32) {σ : State} (h : Full k σ) (c : Nat) (hc : pending σ c) :
    ∃ l, enabled k l σ = true ∧ productive k l σ = true := by
  have ha := h.i.a
  cases hr : σ.rpc with
  | holding s g =>
    cases g with
    | some r =>
      rcases (h.i.b.hold s r hr).1 with t | t
      · exact ⟨.rDeliver r, by simp [enabled, hr, t], rfl⟩
      · exact ⟨.bcast r, by simp [enabled, t], rfl⟩
    | none => exact ⟨.rUnlock, by simp [enabled, hr], rfl⟩
  | signal s =>
    by_cases hw : ∃ c', σ.pc c' = .waiting s
    · obtain ⟨c', hc'⟩ := hw
      exact ⟨.rSignal (some c'), by simp [enabled, hr, hc'], rfl⟩
    · refine ⟨.rSignal none, ?_, rfl⟩
      simp only [enabled, hr, List.all_eq_true]
      intro c' _
      have : σ.pc c' ≠ .waiting s := fun e => hw ⟨c', e⟩
      simpa using this
  | idle =>
    have hnl : ∀ s, locked σ s = false := by intro s; simp [locked, hr]
    by_cases hrd : ∃ c' s, σ.pc c' = .ready s
    · obtain ⟨c', s, e⟩ := hrd
      exact ⟨.enter c', by simp [enabled, e, hnl], rfl⟩
    by_cases hbc : ∃ c' s, σ.pc c' = .bcast s
    · obtain ⟨c', s, e⟩ := hbc
      exact ⟨.bcast c', by simp [enabled, e], rfl⟩
    obtain ⟨s, hsN, hms⟩ := ((h.pending_cases hr hc).resolve_left hrd).resolve_left hbc
    by_cases hm2 : (σ.slot (slotOf k (σ.read2 + 1))).mark = 2
    · exact ⟨.rBegin, by simp [enabled, hr], by simp [productive, hm2]⟩
    by_cases hm : (σ.slot (slotOf k (σ.read1 + 1))).mark = 1
    · cases hw : σ.wpc with
      | idle => exact ⟨.wTry, by simp [enabled, hw, hnl], by simp [productive, hm]⟩
      | woken s' => exact ⟨.wWake, by simp [enabled, hw, hnl], rfl⟩
      | sleeping s' =>
        obtain rfl : s' = slotOf k (σ.read1 + 1) := (ha.wsl s' hw).trans (slotOf_eq k _ hk).symm
        obtain ⟨c', _, e⟩ := h.w.lw2 _ hw hm
        exact absurd ⟨c', _, e⟩ hbc
    -- nothing is in flight and the writer's next slot is free with no ticket holder, so no
    -- position beyond `read1` has been ticketed; but the marked slot s holds one
    exfalso
    rw [slotOf_eq k _ hk] at hm hm2
    have hsw : (σ.read1 + 1) % 2 ^ k < 2 ^ k := Nat.mod_lt _ (Nat.two_pow_pos k)
    have h12 : σ.read1 = σ.read2 := by
      have := mt (ha.mark2 ((σ.read2 + 1) % 2 ^ k) (Nat.mod_lt _ (Nat.two_pow_pos k))).2 hm2
      have := (ha.gen_read rfl).2; have := ha.r21; omega
    have gw := ha.gen_of_window (σ.read1 + 1) (by omega) (by have := Nat.two_pow_pos k; omega)
    have hm0 : (σ.slot ((σ.read1 + 1) % 2 ^ k)).mark = 0 := by
      have := ha.mark2 _ hsw; have := ha.markle _ hsw; omega
    have := free_gt_write h.t hsw hm0 (fun c' e => hrd ⟨c', _, e⟩) fun c' e => by
      exact ((h.s.lw1 c' _ e).idle hr).elim (· hm0) fun ⟨d, t⟩ => hrd ⟨d, _, t⟩
    have := filled_le_write h.t hsN hms
    have := ha.genlo s hsN
    omega

end Rv.Ring
