/-
The callers' side of the wake-up protocol (c1): whoever is parked on a slot is `Covered`, i.e.
something that will end in a Signal for that slot is already under way.
-/
import Rv.Lemmas.RingInvB
namespace Rv.Ring

/-- no lost wake-up on c1: a caller in the wait set of slot s is covered by a filled slot
    (whose completion will signal), by the reader being inside NextResultCh…FinishResult on
    s, or by an already woken (ready) caller for s -/
def Covered (σ : State) (s : Nat) : Prop :=
  (σ.slot s).mark ≠ 0 ∨ (∃ g, σ.rpc = .holding s g) ∨ σ.rpc = .signal s ∨ ∃ d, σ.pc d = .ready s

structure InvS (k : Nat) (σ : State) : Prop where
  lw1 : ∀ c s, σ.pc c = .waiting s → Covered σ s

theorem InvS.init (k : Nat) : InvS k (init k) := ⟨by simp [Ring.init]⟩

theorem Covered.frame {σ τ : State} {s : Nat} (h : Covered σ s) (er : τ.rpc = σ.rpc)
    (hm : (σ.slot s).mark ≠ 0 → (τ.slot s).mark ≠ 0)
    (hd : ∀ d, σ.pc d = .ready s → (τ.slot s).mark ≠ 0 ∨ ∃ d', τ.pc d' = .ready s) : Covered τ s := by
  rcases h with t | t | t | ⟨d, t⟩
  · exact .inl (hm t)
  · exact .inr (.inl (er ▸ t))
  · exact .inr (.inr (.inl (er ▸ t)))
  · exact (hd d t).elim .inl fun t => .inr (.inr (.inr t))

theorem Covered.idle {σ : State} {s : Nat} (h : Covered σ s) (hr : σ.rpc = .idle) :
    (σ.slot s).mark ≠ 0 ∨ ∃ d, σ.pc d = .ready s := by
  simpa [Covered, hr] using h

theorem InvS.step {k : Nat} {σ : State} (hi : Inv k σ) (h : InvS k σ) (l : Label)
    (he : enabled k l σ = true) : InvS k (apply k l σ) := by
  constructor
  have slot : ∀ {s0 : Nat} {n : Slot} {s : Nat}, ((σ.slot s0).mark ≠ 0 → n.mark ≠ 0) →
      (σ.slot s).mark ≠ 0 → (upd σ.slot s0 n s).mark ≠ 0 := by
    intro s0 n s hn; rw [upd_apply]; split
    · subst_vars; exact hn
    · exact id
  -- a caller that was not `ready` moves to a state other than `waiting`
  have pcOnly : ∀ {τ : State} {c : Nat} {v : Pc}, τ.slot = σ.slot → τ.rpc = σ.rpc → τ.pc = upd σ.pc c v →
      (∀ s, σ.pc c ≠ .ready s) → (∀ s, v ≠ .waiting s) → ∀ c' s, τ.pc c' = .waiting s → Covered τ s := by
    intro τ c v es er ep hu hv c' s hh
    rw [ep] at hh
    exact (h.lw1 c' s (upd_eq_old hh (hv s)).2).frame er (es ▸ id)
      fun d t => .inr ⟨d, ep ▸ upd_eq_keep (hu s) t⟩
  apply step_cases (motive := fun _ τ => ∀ c s, τ.pc c = .waiting s → Covered τ s) l he
  case arrive =>
    exact fun s _ => pcOnly rfl rfl rfl (by rw [hi.b.fresh _ (Nat.le_refl _)]; nofun) nofun
  case bcast => exact fun c s hpc => pcOnly rfl rfl rfl (by rw [hpc]; nofun) nofun
  case fill =>
    intro c s hpc _ hm c' s' hh
    have hv : ∀ w, w ≠ .filled s → w ≠ .bcast s →
        (if (σ.slot s).slept then Pc.bcast s else Pc.filled s) ≠ w := by
      intro w h1 h2; split
      · exact h2.symm
      · exact h1.symm
    refine (h.lw1 c' s' (upd_eq_old hh (hv _ nofun nofun)).2).frame rfl (slot fun _ => nofun) fun d t => ?_
    by_cases e : s' = s
    · subst e; exact .inl (by dsimp only; rw [upd_same]; nofun)
    · exact .inr ⟨d, upd_eq_keep (by rw [hpc]; intro e'; injection e' with e'; exact e e'.symm) t⟩
  case park =>
    intro c s hpc hm c' s' hh
    dsimp only at hh; rw [upd_apply] at hh; split at hh
    · injection hh with hh; subst hh; exact .inl hm
    · refine (h.lw1 c' s' hh).frame rfl id fun d t => ?_
      by_cases e : d = c
      · subst e; rw [hpc] at t; injection t with t; subst t; exact .inl hm
      · exact .inr ⟨d, (upd_other _ _ _ _ e).trans t⟩
  case take =>
    exact fun _ s b _ _ hm c' s' hh => (h.lw1 c' s' hh).frame rfl (slot fun _ => nofun) fun d t => .inr ⟨d, t⟩
  case sleep =>
    exact fun _ s _ _ _ c' s' hh => (h.lw1 c' s' hh).frame rfl (slot id) fun d t => .inr ⟨d, t⟩
  case skip => exact fun _ _ => h.lw1
  case rTake =>
    intro s0 _ hidle _ c s hh
    rcases (h.lw1 c s hh).idle hidle with t | t
    · by_cases e : s = s0
      · subst e; exact Or.inr (Or.inl ⟨_, rfl⟩)
      · left; dsimp only; rw [upd_other _ _ _ _ e]; exact t
    · exact Or.inr (Or.inr (Or.inr t))
  case rMiss =>
    exact fun s0 _ hidle _ c s hh => ((h.lw1 c s hh).idle hidle).elim .inl fun t => .inr (.inr (.inr t))
  case deliver =>
    intro c s r hr hpc c' s' hh
    rcases h.lw1 c' s' (upd_eq_old hh nofun).2 with t | ⟨g, t⟩ | t | ⟨d, t⟩
    · exact Or.inl t
    · rw [hr] at t; injection t with t1 t2; subst t1; exact Or.inr (Or.inl ⟨_, rfl⟩)
    · rw [hr] at t; cases t
    · exact Or.inr (Or.inr (Or.inr ⟨d, upd_eq_keep (by rw [hpc]; nofun) t⟩))
  case unlock =>
    intro s hr c s' hh
    rcases h.lw1 c s' hh with t | ⟨g', t⟩ | t | t
    · exact Or.inl t
    · rw [hr] at t; injection t with t1 t2; subst t1; exact Or.inr (Or.inr (Or.inl rfl))
    · rw [hr] at t; cases t
    · exact Or.inr (Or.inr (Or.inr t))
  case wake =>
    intro c s hr hpc c' s' hh
    rcases h.lw1 c' s' (upd_eq_old hh nofun).2 with t | ⟨g', t⟩ | t | ⟨d, t⟩
    · exact Or.inl t
    · rw [hr] at t; cases t
    · rw [hr] at t; injection t with t; subst t
      exact Or.inr (Or.inr (Or.inr ⟨c, upd_same ..⟩))
    · exact Or.inr (Or.inr (Or.inr ⟨d, upd_eq_keep (by rw [hpc]; nofun) t⟩))
  case noWake =>
    intro s hr hnone c s' hh
    rcases h.lw1 c s' hh with t | ⟨g', t⟩ | t | t
    · exact Or.inl t
    · rw [hr] at t; cases t
    · rw [hr] at t; injection t with t; subst t
      exact absurd hh (hnone c (lt_ncalls hi c (by rw [show σ.pc c = _ from hh]; nofun)))
    · exact Or.inr (Or.inr (Or.inr t))

end Rv.Ring
