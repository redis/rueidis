/-
Ticket accounting. For every slot, the tickets issued for it (`top`) equal the position its next
fill will get plus one ring cycle per caller still holding a ticket for it. This is what ties
positions to `write` (`filled_le_write`, `free_gt_write`).
-/
import Rv.Lemmas.RingInvB
import Rv.Lemmas.RingCount
namespace Rv.Ring

/-- the queue position the next fill of slot s will get -/
def fillNext (k : Nat) (σ : State) (s : Nat) : Nat :=
  if (σ.slot s).mark = 0 then (σ.slot s).gen else (σ.slot s).gen + 2 ^ k

structure InvT (k : Nat) (σ : State) : Prop where
  topmod : ∀ s, s < 2 ^ k → σ.top s % 2 ^ k = s
  toplo : ∀ s, s < 2 ^ k → σ.write < σ.top s
  tophi : ∀ s, s < 2 ^ k → σ.top s ≤ σ.write + 2 ^ k
  cntI : ∀ s, s < 2 ^ k → fillNext k σ s + 2 ^ k * cnt σ.pc (outB s) σ.ncalls = σ.top s

theorem InvT.init (k : Nat) : InvT k (init k) := by
  have hp := Nat.two_pow_pos k
  refine ⟨?_, ?_, ?_, ?_⟩
  · intro s hs; simp only [Ring.init, gen0]; split
    · subst_vars; simp
    · exact Nat.mod_eq_of_lt hs
  · intro s hs; simp only [Ring.init, gen0]; split <;> omega
  · intro s hs; simp only [Ring.init, gen0]; split <;> omega
  · intro s hs; simp [Ring.init, fillNext, cnt]

section
variable {k : Nat} {σ : State}

theorem filled_le_write (h : InvT k σ) {s : Nat} (hs : s < 2 ^ k)
    (hm : (σ.slot s).mark ≠ 0) : (σ.slot s).gen ≤ σ.write := by
  have c := h.cntI s hs
  have t := h.tophi s hs
  simp only [fillNext, hm, if_false] at c
  omega

theorem free_gt_write (h : InvT k σ) {s : Nat} (hs : s < 2 ^ k)
    (hm : (σ.slot s).mark = 0) (hr : ∀ c, σ.pc c ≠ .ready s) (hw : ∀ c, σ.pc c ≠ .waiting s) :
    σ.write < (σ.slot s).gen := by
  have c := h.cntI s hs
  have t := h.toplo s hs
  rw [cnt_zero fun c _ => by
    cases e : σ.pc c with
    | ready s' => exact beq_false_of_ne fun e' => hr c (e' ▸ e)
    | waiting s' => exact beq_false_of_ne fun e' => hw c (e' ▸ e)
    | _ => rfl] at c
  simp only [fillNext, hm, if_true] at c
  omega

theorem InvT.congr {τ : State} (h : InvT k σ)
    (ew : τ.write = σ.write) (en : τ.ncalls = σ.ncalls) (et : τ.top = σ.top)
    (ef : ∀ s, fillNext k τ s = fillNext k σ s)
    (ec : ∀ s, cnt τ.pc (outB s) σ.ncalls = cnt σ.pc (outB s) σ.ncalls) : InvT k τ := by
  refine ⟨?_, ?_, ?_, ?_⟩
  · rw [et]; exact h.topmod
  · rw [et, ew]; exact h.toplo
  · rw [et, ew]; exact h.tophi
  · intro s hs; rw [ef, en, ec, et]; exact h.cntI s hs

theorem InvT.step (hk : k ≤ 32) (hi : Inv k σ) (h : InvT k σ) (l : Label)
    (he : enabled k l σ = true) : InvT k (apply k l σ) := by
  have hp := Nat.two_pow_pos k
  -- a caller that moves between states that are alike for `outB` changes no count
  have swap : ∀ {c : Nat} {u : Pc} (v : Pc), σ.pc c = u → u ≠ .idle → (∀ s, outB s v = outB s u) →
      ∀ s, cnt (upd σ.pc c v) (outB s) σ.ncalls = cnt σ.pc (outB s) σ.ncalls := by
    intro c u v hpc hu e s
    have := cnt_upd σ.pc (outB s) c v σ.ncalls (lt_ncalls hi c (hpc ▸ hu))
    rw [e, hpc] at this; omega
  -- a slot update that keeps `fillNext` of the slot
  have slot : ∀ {s : Nat} {n : Slot}, (if n.mark = 0 then n.gen else n.gen + 2 ^ k) = fillNext k σ s →
      ∀ s', (if (upd σ.slot s n s').mark = 0 then (upd σ.slot s n s').gen else (upd σ.slot s n s').gen + 2 ^ k)
        = fillNext k σ s' :=
    fun e s' => upd_keep (fun n => if n.mark = 0 then n.gen else n.gen + 2 ^ k) s' e
  apply step_cases (motive := fun _ τ => InvT k τ) l he
  case arrive =>
    intro s0 hs0
    have hs0N : s0 < 2 ^ k := hs0 ▸ slotOf_lt k _
    rw [slotOf_eq k _ hk] at hs0
    have htop : σ.top s0 = σ.write + 1 := by
      have a := h.topmod _ hs0N
      have b := h.toplo _ hs0N
      have c := h.tophi _ hs0N
      exact mod_window_unique (2 ^ k) _ _ (by rw [a, hs0]) (by omega) (by omega)
    refine ⟨?_, ?_, ?_, ?_⟩
    · intro s hs; simp only [upd_apply]; split
      · rename_i e; subst e; rw [Nat.add_mod_right]; exact h.topmod s hs
      · exact h.topmod s hs
    · intro s hs; simp only [upd_apply]; split
      · rename_i e; subst e; omega
      · rename_i e
        have a := h.toplo s hs
        have b := h.topmod s hs
        have : σ.top s ≠ σ.write + 1 := by
          intro e2; rw [e2, ← hs0] at b; exact e b.symm
        omega
    · intro s hs; simp only [upd_apply]; split
      · rename_i e; subst e; omega
      · have := h.tophi s hs; omega
    · intro s hs
      have hc := h.cntI s hs
      show fillNext k σ s + 2 ^ k * cnt (upd σ.pc σ.ncalls (Pc.ready s0)) (outB s) (σ.ncalls + 1) = _
      rw [cnt_succ, cnt_upd_ge (Nat.le_refl _), upd_same]
      simp only [upd_apply]
      by_cases e : s = s0
      · subst e; simp [outB, Nat.mul_succ]; omega
      · have : outB s (Pc.ready s0) = false := by simp [outB]; exact fun e2 => e e2.symm
        simp [this, e]; exact hc
  case fill =>
    intro c s0 hpc _ hm
    refine ⟨h.topmod, h.toplo, h.tophi, fun s hs => ?_⟩
    have hc := h.cntI s hs
    have hu := cnt_upd σ.pc (outB s) c (if (σ.slot s0).slept then Pc.bcast s0 else Pc.filled s0) σ.ncalls
      (lt_ncalls hi c (by rw [hpc]; nofun))
    rw [hpc, show outB s (if (σ.slot s0).slept then Pc.bcast s0 else Pc.filled s0) = false by split <;> rfl] at hu
    simp only [fillNext, upd_apply] at hc ⊢
    by_cases e : s = s0
    · subst e
      simp only [outB, beq_self_eq_true, hm, Nat.one_ne_zero, if_true, Bool.false_eq_true, if_false,
        Nat.add_zero] at hu hc ⊢
      rw [← hc, ← hu, Nat.mul_succ]; omega
    · simp only [outB, beq_false_of_ne (Ne.symm e), e, Bool.false_eq_true, if_false, Nat.add_zero] at hu ⊢
      rw [hu]; exact hc
  case park =>
    exact fun c s hpc _ => h.congr rfl rfl rfl (fun _ => rfl) (swap _ hpc nofun fun _ => rfl)
  case bcast =>
    exact fun c s hpc => h.congr rfl rfl rfl (fun _ => rfl) (swap _ hpc nofun fun _ => rfl)
  case take =>
    intro _ s b _ _ hm
    exact h.congr rfl rfl rfl (slot (by simp only [fillNext, hm]; rfl)) (fun _ => rfl)
  case sleep => exact fun _ s _ _ _ => h.congr rfl rfl rfl (slot rfl) (fun _ => rfl)
  case rTake =>
    intro s _ _ hm
    exact h.congr rfl rfl rfl (slot (by simp only [fillNext, hm]; rfl)) (fun _ => rfl)
  case deliver =>
    exact fun c s r _ hpc => h.congr rfl rfl rfl (fun _ => rfl) (swap _ hpc nofun fun _ => rfl)
  case wake =>
    exact fun c s _ hpc => h.congr rfl rfl rfl (fun _ => rfl) (swap _ hpc nofun fun _ => rfl)
  -- `skip` and the reader on its own write nothing that InvT reads
  all_goals intros; exact h.congr rfl rfl rfl (fun _ => rfl) (fun _ => rfl)

end

end Rv.Ring
