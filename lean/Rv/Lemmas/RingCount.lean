/-
Counting the callers (below `n`) whose pc satisfies a predicate, and what one pc update does
to the count: the bookkeeping behind ticket accounting (`InvT`) and the progress measure (`mu`).
-/
import Rv.Model.Ring
namespace Rv.Ring

/-- caller still has to fill slot s -/
def outB (s : Nat) : Pc → Bool
  | .ready s' => s' == s
  | .waiting s' => s' == s
  | _ => false

def cnt (f : Nat → Pc) (P : Pc → Bool) (n : Nat) : Nat := (List.range n).countP fun c => P (f c)

theorem cnt_succ (f : Nat → Pc) (P : Pc → Bool) (n : Nat) :
    cnt f P (n + 1) = cnt f P n + (if P (f n) then 1 else 0) := by
  simp [cnt, List.range_succ, List.countP_append, List.countP_cons]

theorem cnt_upd_ge {f : Nat → Pc} {P : Pc → Bool} {c : Nat} {v : Pc} {n : Nat} (h : n ≤ c) :
    cnt (upd f c v) P n = cnt f P n := by
  induction n with
  | zero => rfl
  | succ n ih =>
    rw [cnt_succ, cnt_succ, ih (by omega), upd_other _ _ _ _ (by omega)]

theorem cnt_upd (f : Nat → Pc) (P : Pc → Bool) (c : Nat) (v : Pc) (n : Nat) (h : c < n) :
    cnt (upd f c v) P n + (if P (f c) then 1 else 0) = cnt f P n + (if P v then 1 else 0) := by
  induction n with
  | zero => omega
  | succ n ih =>
    rw [cnt_succ, cnt_succ]
    by_cases e : c = n
    · subst e
      rw [cnt_upd_ge (Nat.le_refl _), upd_same]; omega
    · rw [upd_other _ _ _ _ (by omega)]
      have := ih (by omega); omega

theorem cnt_pos (f : Nat → Pc) (P : Pc → Bool) (n c : Nat) (h : c < n) (hp : P (f c) = true) :
    0 < cnt f P n := by
  unfold cnt
  rw [List.countP_pos_iff]
  exact ⟨c, List.mem_range.2 h, hp⟩

theorem cnt_zero {f : Nat → Pc} {P : Pc → Bool} {n : Nat} (h : ∀ c, c < n → P (f c) = false) :
    cnt f P n = 0 := by
  unfold cnt
  rw [List.countP_eq_zero]
  intro c hc; simp [h c (List.mem_range.1 hc)]

end Rv.Ring
