/-
Pipe life model: a measure on states that every step strictly decreases — hence every run is
finite and its length is bounded by the measure of its first state.
-/
import Rv.Lemmas.PipeLifeCount
namespace Rv.PipeLife

def CS.pot : CS → Nat
  | .idle => 9 | .counted _ => 8 | .toQueue => 7 | .syncing => 2 | .waiting => 2
  | .got _ _ => 1 | .aborted => 1 | .done => 0

def Call.pot (c : Call) : Nat := c.st.pot + if c.canDone && !c.ctxDone then 1 else 0

def callsPot : List Call → Nat
  | [] => 0
  | c :: cs => c.pot + callsPot cs

def Entry.pot (e : Entry) : Nat := if e.taken then 2 else 4

def qPot : List Entry → Nat
  | [] => 0
  | e :: es => e.pot + qPot es

def Td.pot : Td → Nat
  | .off => 13 | .reading => 11 | .exited => 10 | .draining false => 3 | .draining true => 2
  | .loopDone => 1 | .finished => 0

def Wr.pot : Wr → Nat
  | .off => 0 | .run false => 1 | .run true => 2 | .exited => 0

def HS.pot : HS → Nat
  | .none => 0 | .toPut => 6 | .waiting => 1 | .done => 0

def ClosePc.pot : ClosePc → Nat
  | .idle => 10 | .entered _ => 9 | .casDone _ => 8 | .pingWait => 2 | .tail => 1 | .done => 0

def inflightPot : Option Owner → Nat
  | none => 0
  | some _ => 1

def errPot : Option Why → Nat
  | none => 1
  | some _ => 0

/-- The weights are chosen so that a step which creates something pays for it out of its own program counter:
    an entry costs 4 (2 once taken, 1 in flight), so `put` goes 7 → 2 + 4, `bgPingPut` 6 → 1 + 4,
    `closePing` 8 → 2 + 4 + 1; `background()` goes 13 → 11 + 1 (the writer), `tdSpawn` 10 → 3 + 6 (the helper). -/
def mu (s : St) : Nat :=
  callsPot s.calls + qPot s.queue + s.td.pot + s.writer.pot + s.bgPing.pot + s.close.pot +
    b2n s.cpOwed + b2n s.connUp + errPot s.err + inflightPot s.inflight

theorem callsPot_modify (l : List Call) (i : Nat) (f : Call → Call) (c : Call) (h : l[i]? = some c) :
    callsPot (l.modify i f) + c.pot = callsPot l + (f c).pot := by
  induction l generalizing i with
  | nil => simp at h
  | cons a as ih =>
    cases i with
    | zero => simp at h; subst h; simp [callsPot]; omega
    | succ i => simp at h; have := ih i h; simp [callsPot]; omega

theorem callsPot_setSt {s : St} {i : Nat} {a : CS} (b : CS) (h : stOf s i = some a) :
    callsPot (s.calls.modify i (setCallSt b)) + a.pot = callsPot s.calls + b.pot := by
  obtain ⟨c, hc1, hc2⟩ := stOf_some h
  have := callsPot_modify s.calls i (setCallSt b) c hc1
  have h1 : (setCallSt b c).pot = b.pot + if c.canDone && !c.ctxDone then 1 else 0 := rfl
  have h2 : c.pot = a.pot + if c.canDone && !c.ctxDone then 1 else 0 := by rw [← hc2]; rfl
  rw [h1, h2] at this
  omega

theorem qPot_push (q : List Entry) (o : Owner) : qPot (q ++ [{ owner := o }]) = qPot q + 4 := by
  induction q with
  | nil => rfl
  | cons a as ih => simp only [List.cons_append, qPot, ih]; omega

theorem qPot_takeFirst {q : List Entry} {o : Owner} {q' : List Entry} (h : takeFirst q = some (o, q')) :
    qPot q' + 2 = qPot q := by
  obtain ⟨pre, e, post, rfl, -, he, -, rfl⟩ := takeFirst_some h
  clear h
  induction pre with
  | nil => simp only [List.nil_append, qPot, Entry.pot, he]; simp; omega
  | cons a pre ih => simp only [List.cons_append, qPot]; omega

theorem qPot_drainQueue (c : Bool) (q : List Entry) : qPot (drainQueue c q) ≤ qPot q := by
  unfold drainQueue drainTake; split
  · split
    · have := qPot_takeFirst (by assumption); omega
    · exact Nat.le_refl _
  · exact Nat.le_refl _

theorem mu_startBg (s : St) : mu (startBg s) ≤ mu s := by
  have : (startBg s).td.pot + (startBg s).writer.pot ≤ s.td.pot + s.writer.pot := by
    unfold startBg; split
    · rename_i h; simp only [h, Td.pot, Wr.pot]; cases s.writer <;> simp <;> split <;> omega
    · exact Nat.le_refl _
  unfold mu
  simp only [startBg_calls, startBg_queue, startBg_bgPing, startBg_close, startBg_cpOwed, startBg_connUp, startBg_err,
    startBg_inflight]
  omega

theorem b2n_le (b : Bool) : b2n false ≤ b2n b := by cases b <;> simp [b2n]

theorem mu_deliver (o : Owner) (r : Res) (s : St) : mu (deliver o r s) ≤ mu s := by
  cases o with
  | call i =>
    simp only [deliver]
    split
    · rename_i h
      have := callsPot_setSt (.got r false) h
      simp only [CS.pot] at this
      unfold mu; simp only [setSt]; omega
    · rename_i h
      have := callsPot_setSt .done h
      simp only [CS.pot] at this
      unfold mu; simp only [setSt]; omega
    · exact Nat.le_refl _
  | bgPing => unfold mu; simp only [deliver, HS.pot]; omega
  | closePing => have := b2n_le s.cpOwed; unfold mu; simp only [deliver]; omega

theorem errPot_latch (w : Why) (e : Option Why) : errPot (latch w e) ≤ errPot e := by
  cases e <;> simp [latch, errPot]

theorem mu_exitConn (w : Why) (s : St) : mu (exitConn w s) ≤ mu s := by
  have := errPot_latch w s.err
  have := b2n_le s.connUp
  unfold mu; simp only [exitConn]; omega

theorem mu_setSt_lt {s : St} {i : Nat} {a : CS} (b : CS) (h : stOf s i = some a) (hlt : Decidable.decide (b.pot < a.pot) = true) :
    mu (setSt i b s) < mu s := by
  have := callsPot_setSt b h
  have := of_decide_eq_true hlt
  unfold mu; simp only [setSt]; omega

theorem canDone_pot {s : St} {i : Nat} (h : (canDoneOf s i && !ctxDoneOf s i) = true) :
    callsPot (s.calls.modify i setDone) + 1 = callsPot s.calls := by
  unfold canDoneOf ctxDoneOf at h
  cases hc : s.calls[i]? with
  | none => rw [hc] at h; simp at h
  | some c =>
    rw [hc] at h
    have := callsPot_modify s.calls i setDone c hc
    have h1 : (setDone c).pot = c.st.pot := by simp [Call.pot, setDone]
    have h2 : c.pot = c.st.pot + 1 := by simp [Call.pot, h]
    omega

theorem Td.pot_draining (c c' : Bool) (h : c' = (c || c')) : (Td.draining c').pot ≤ (Td.draining c).pot := by
  cases c <;> cases c' <;> simp_all [Td.pot]

theorem seenClosed_mono (c : Bool) (s : St) : seenClosed c s = (c || seenClosed c s) := by
  unfold seenClosed; cases c <;> simp

theorem step_decreases {fix : Bool} {s s' : St} {l : Label} (h : step fix s l = some s') : mu s' < mu s := by
  induction step_sound h with
  | enterDone i hst => exact mu_setSt_lt .done hst rfl
  | enter i hst => exact mu_setSt_lt (.counted _) hst rfl
  | toQueue i w hst => exact mu_setSt_lt .toQueue hst rfl
  | toQueueBg i w hst =>
    exact Nat.lt_of_lt_of_le (mu_setSt_lt .toQueue ((stOf_startBg s i).trans hst) rfl) (mu_startBg s)
  | sync i w hst => exact mu_setSt_lt .syncing hst rfl
  | reject i w hst => exact mu_setSt_lt (.got _ _) hst rfl
  | put i hst =>
    have := callsPot_setSt .waiting hst
    have := qPot_push s.queue (.call i)
    unfold mu; simp only [setSt, CS.pot] at *; omega
  | putFail i hst => exact mu_setSt_lt .done hst rfl
  | syncOk i hst => exact mu_setSt_lt (.got _ _) hst rfl
  | syncErr i hst =>
    exact Nat.lt_of_lt_of_le (mu_setSt_lt (.got _ _) ((stOf_startBg _ i).trans hst) rfl)
      (Nat.le_trans (mu_startBg _) (mu_exitConn .broken s))
  | leaveBg i r sb hst => exact Nat.lt_of_le_of_lt (mu_startBg _) (mu_setSt_lt .done hst rfl)
  | leave i r sb hst => exact mu_setSt_lt .done hst rfl
  | abort i hst => exact mu_setSt_lt .aborted hst rfl
  | cancel i hc =>
    have := canDone_pot hc
    unfold mu; simp only; omega
  | connBreak hc => unfold mu; simp only [hc, b2n]; simp
  | pingFail he =>
    have := b2n_le s.connUp
    unfold mu; simp only [exitConn, he, latch, errPot]; omega
  | wTake d o q hwr htf =>
    have := qPot_takeFirst htf
    have hw : (Wr.run true).pot ≤ s.writer.pot + 1 := by
      rw [hwr]; cases d <;> simp [Wr.pot]
    unfold mu; simp only; omega
  | flush hw => unfold mu; simp only [hw, Wr.pot]; omega
  | flushErr hw =>
    have := mu_exitConn .broken s
    show mu { (exitConn .broken s) with writer := .exited } < mu s
    have h2 : mu { (exitConn .broken s) with writer := .exited } + 2 = mu (exitConn .broken s) := by
      unfold mu; simp only [exitConn, hw, Wr.pot]; omega
    omega
  | rFetch e es _ hin hq ht =>
    simp at ht
    unfold mu; simp only [hin, hq, qPot, Entry.pot, ht.1, inflightPot]; simp; omega
  | rDeliver o _ hin =>
    have := mu_deliver o .reply { s with inflight := none }
    have h2 : mu { s with inflight := none } + 1 = mu s := by
      unfold mu; simp only [hin, inflightPot]
    omega
  | rErr htd =>
    have h1 : mu (deferDeliver s) ≤ mu s := by
      unfold deferDeliver; split
      · rename_i o hin
        have := mu_deliver o .transport { s with inflight := none }
        have h2 : mu { s with inflight := none } ≤ mu s := by unfold mu; simp only [hin, inflightPot]; omega
        omega
      · exact Nat.le_refl _
    have h2 := mu_exitConn .broken (deferDeliver s)
    have h3 : (deferDeliver s).td = .reading := by rw [deferDeliver_td]; exact htd
    have h4 : mu { (exitConn .broken (deferDeliver s)) with td := .exited } + 1 = mu (exitConn .broken (deferDeliver s)) := by
      unfold mu; simp only [exitConn, h3, Td.pot]; omega
    omega
  | noSpawn htd => unfold mu; simp only [htd, Td.pot]; omega
  | spawn htd =>
    have : HS.pot .toPut ≤ s.bgPing.pot + 6 := by simp [HS.pot]
    unfold mu; simp only [htd, Td.pot]; omega
  | bgPingPut hb =>
    have := qPot_push s.queue .bgPing
    unfold mu; simp only [hb, HS.pot]; omega
  | loopDone c htd => unfold mu; simp only [htd]; cases c <;> simp [Td.pot] <;> omega
  | drain c e es htd _ hq ht =>
    have h1 := mu_deliver e.owner (drainRes (seenClosed c s) s)
      { s with td := .draining (seenClosed c s), queue := es, rcnt := s.rcnt + 1 }
    have h2 := qPot_drainQueue (seenClosed c s) s.queue
    rw [hq] at h2
    have h3 := Td.pot_draining c (seenClosed c s) (seenClosed_mono c s)
    have h4 : mu { s with td := .draining (seenClosed c s), queue := es, rcnt := s.rcnt + 1 } < mu s := by
      unfold mu; simp only [htd, qPot, Entry.pot, ht] at *; simp at *; omega
    omega
  | seeClosed c htd _ _ hne =>
    have hc : c = false ∧ seenClosed c s = true := by
      have := seenClosed_mono c s
      cases c <;> cases hx : seenClosed false s <;> simp_all [seenClosed]
    obtain ⟨hc1, hc2⟩ := hc
    subst hc1
    unfold mu; simp only [htd, hc2, Td.pot]; omega
  | tdClose htd => unfold mu; simp only [htd, Td.pot]; omega
  | closeEnter w hcl =>
    have := errPot_latch w s.err
    unfold mu; simp only [hcl, ClosePc.pot]; omega
  | casBg w hcl =>
    have h1 : mu (casSt s) + 1 = mu s := by unfold mu; simp only [casSt, hcl, ClosePc.pot]; omega
    have := mu_startBg (casSt s); omega
  | cas w hcl => show mu (casSt s) < mu s; unfold mu; simp only [casSt, hcl, ClosePc.pot]; omega
  | ping b hcl =>
    have := qPot_push s.queue .closePing
    have : b2n true ≤ b2n s.cpOwed + 1 := by cases s.cpOwed <;> simp [b2n]
    unfold mu; simp only [hcl, ClosePc.pot]; omega
  | noPing b hcl | closeGot hcl | closeGrace hcl => unfold mu; simp only [hcl, ClosePc.pot]; omega
  | closeTail hcl =>
    have := b2n_le s.connUp
    unfold mu; simp only [hcl, ClosePc.pot]; omega

theorem run_bounded {fix : Bool} (ls : List Label) (s s' : St) (h : run fix s ls = some s') :
    mu s' + ls.length ≤ mu s := by
  induction ls generalizing s with
  | nil => simp only [run] at h; injection h with h; subst h; simp
  | cons l ls ih =>
    simp only [run] at h
    cases hs : step fix s l with
    | none => rw [hs] at h; cases h
    | some s1 =>
      rw [hs] at h
      have := ih s1 h
      have := step_decreases hs
      simp only [List.length_cons]; omega

end Rv.PipeLife
