/-
List-level lemmas for the LRU model: key-uniqueness of the recency list, the
accounted sum, and how `erase`/`replace`/`moveToBack`/append act on them.
-/
import Rv.Model.Lru
namespace Rv.Lru

def sameKC (a b : Entry) : Prop := a.key = b.key ∧ a.cmd = b.cmd

def KeysNodup (l : List Entry) : Prop := l.Pairwise (fun a b => ¬ sameKC a b)

def contrib (e : Entry) : Int := if e.pend then 0 else e.size

def sumC : List Entry → Int
  | [] => 0
  | e :: l => contrib e + sumC l

theorem isKC_iff (k c : Bytes) (e : Entry) : isKC k c e = true ↔ e.key = k ∧ e.cmd = c := by
  simp [isKC]

theorem find?_some {l : List Entry} {k c : Bytes} {e : Entry} (h : find? l k c = some e) :
    e ∈ l ∧ e.key = k ∧ e.cmd = c := by
  unfold find? at h
  exact ⟨List.mem_of_find?_eq_some h, (isKC_iff k c e).1 (List.find?_some h)⟩

theorem find?_none {l : List Entry} {k c : Bytes} (h : find? l k c = none) :
    ∀ e ∈ l, ¬ (e.key = k ∧ e.cmd = c) := by
  unfold find? at h
  intro e he hk
  have := List.find?_eq_none.1 h e he
  exact this ((isKC_iff k c e).2 hk)

theorem KeysNodup.eq_of_sameKC {l : List Entry} (h : KeysNodup l) {x y : Entry}
    (hx : x ∈ l) (hy : y ∈ l) (hs : sameKC x y) : x = y := by
  induction l with
  | nil => cases hx
  | cons a l ih =>
    rw [KeysNodup, List.pairwise_cons] at h
    rcases List.mem_cons.1 hx with rfl | hx'
    · rcases List.mem_cons.1 hy with rfl | hy'
      · rfl
      · exact absurd hs (h.1 y hy')
    · rcases List.mem_cons.1 hy with rfl | hy'
      · exact absurd ⟨hs.1.symm, hs.2.symm⟩ (h.1 x hx')
      · exact ih h.2 hx' hy'

theorem find?_of_mem {l : List Entry} (h : KeysNodup l) {e : Entry} (he : e ∈ l) :
    find? l e.key e.cmd = some e := by
  cases hf : find? l e.key e.cmd with
  | none => exact absurd ⟨rfl, rfl⟩ (find?_none hf e he)
  | some x =>
    have := find?_some hf
    rw [h.eq_of_sameKC this.1 he ⟨this.2.1, this.2.2⟩]

theorem KeysNodup.eq_find {l : List Entry} (h : KeysNodup l) {k c : Bytes} {e x : Entry} (hf : find? l k c = some e)
    (hx : x ∈ l) (hkc : x.key = k ∧ x.cmd = c) : x = e :=
  have hf' := find?_some hf
  h.eq_of_sameKC hx hf'.1 ⟨hkc.1.trans hf'.2.1.symm, hkc.2.trans hf'.2.2.symm⟩

theorem KeysNodup.nodup {l : List Entry} (h : KeysNodup l) : l.Nodup := by
  unfold KeysNodup at h
  exact List.Pairwise.imp (fun hab heq => hab (by subst heq; exact ⟨rfl, rfl⟩)) h

theorem KeysNodup.sublist {l l' : List Entry} (h : KeysNodup l) (hs : l'.Sublist l) : KeysNodup l' :=
  List.Pairwise.sublist hs h

theorem KeysNodup.erase {l : List Entry} (h : KeysNodup l) (e : Entry) : KeysNodup (l.erase e) :=
  h.sublist List.erase_sublist

theorem KeysNodup.filter {l : List Entry} (h : KeysNodup l) (p : Entry → Bool) : KeysNodup (l.filter p) :=
  h.sublist List.filter_sublist

theorem KeysNodup.append_one {l : List Entry} (h : KeysNodup l) {e : Entry}
    (hne : ∀ x ∈ l, ¬ sameKC x e) : KeysNodup (l ++ [e]) := by
  unfold KeysNodup at *
  rw [List.pairwise_append]
  refine ⟨h, by simp, ?_⟩
  intro a ha b hb
  rw [List.mem_singleton] at hb; subst hb
  exact hne a ha

theorem mem_erase_not_sameKC {l : List Entry} (h : KeysNodup l) {e x : Entry} (he : e ∈ l)
    (hx : x ∈ l.erase e) : ¬ sameKC x e := by
  intro hs
  have hxl : x ∈ l := List.mem_of_mem_erase hx
  have := h.eq_of_sameKC hxl he hs
  subst this
  exact absurd hx (List.Nodup.not_mem_erase h.nodup)

theorem KeysNodup.erase_find {l : List Entry} (h : KeysNodup l) {k c : Bytes} {e x : Entry} (hf : find? l k c = some e)
    (hx : x ∈ l.erase e) : ¬ (x.key = k ∧ x.cmd = c) :=
  fun hkc => mem_erase_not_sameKC h (find?_some hf).1 hx
    ⟨hkc.1.trans (find?_some hf).2.1.symm, hkc.2.trans (find?_some hf).2.2.symm⟩

theorem KeysNodup.moveToBack {l : List Entry} (h : KeysNodup l) {e : Entry} (he : e ∈ l) :
    KeysNodup (moveToBack l e) :=
  (h.erase e).append_one (fun _ hx => mem_erase_not_sameKC h he hx)

theorem exists_replace_eq {l : List Entry} {e : Entry} (he : e ∈ l) (e' : Entry) :
    ∃ l₁ l₂, e ∉ l₁ ∧ l = l₁ ++ e :: l₂ ∧ l.erase e = l₁ ++ l₂ ∧ l.replace e e' = l₁ ++ e' :: l₂ := by
  obtain ⟨l₁, l₂, h1, h2, h3⟩ := List.exists_erase_eq he
  exact ⟨l₁, l₂, h1, h2, h3, by rw [h2, List.replace_append_right h1, List.replace_cons_self]⟩

theorem mem_replace_iff {l : List Entry} (hn : l.Nodup) {e e' x : Entry} (he : e ∈ l) :
    x ∈ l.replace e e' ↔ x = e' ∨ (x ∈ l ∧ x ≠ e) := by
  obtain ⟨l₁, l₂, h1, h2, -, h4⟩ := exists_replace_eq he e'
  rw [h2, List.nodup_append] at hn
  have h2' : e ∉ l₂ := (List.nodup_cons.1 hn.2.1).1
  rw [h4, h2]
  simp only [List.mem_append, List.mem_cons]
  constructor
  · rintro (h | h | h)
    · exact Or.inr ⟨Or.inl h, fun hh => h1 (hh ▸ h)⟩
    · exact Or.inl h
    · exact Or.inr ⟨Or.inr (Or.inr h), fun hh => h2' (hh ▸ h)⟩
  · rintro (h | ⟨h | h | h, hne⟩)
    · exact Or.inr (Or.inl h)
    · exact Or.inl h
    · exact absurd h hne
    · exact Or.inr (Or.inr h)

theorem mem_replace_self {l : List Entry} {e e' : Entry} (he : e ∈ l) : e' ∈ l.replace e e' := by
  obtain ⟨l₁, l₂, -, -, -, h4⟩ := exists_replace_eq he e'
  rw [h4]; exact List.mem_append_right _ List.mem_cons_self

theorem KeysNodup.replace {l : List Entry} (h : KeysNodup l) {e e' : Entry} (hs : sameKC e e') :
    KeysNodup (l.replace e e') := by
  by_cases he : e ∈ l
  · obtain ⟨l₁, l₂, -, h2, -, h4⟩ := exists_replace_eq he e'
    rw [h4]; rw [h2] at h
    unfold KeysNodup at *
    rw [List.pairwise_append, List.pairwise_cons] at *
    refine ⟨h.1, ⟨fun x hx hh => h.2.1.1 x hx ⟨hs.1.trans hh.1, hs.2.trans hh.2⟩, h.2.1.2⟩, fun x hx y hy => ?_⟩
    rcases List.mem_cons.1 hy with rfl | hy
    · exact fun hh => h.2.2 x hx e List.mem_cons_self ⟨hh.1.trans hs.1.symm, hh.2.trans hs.2.symm⟩
    · exact h.2.2 x hx y (List.mem_cons_of_mem _ hy)
  · rw [List.replace_of_not_mem he]; exact h

theorem sumC_append (l₁ l₂ : List Entry) : sumC (l₁ ++ l₂) = sumC l₁ + sumC l₂ := by
  induction l₁ with
  | nil => simp [sumC]
  | cons a l ih => simp only [List.cons_append, sumC, ih]; omega

theorem sumC_erase {l : List Entry} {e : Entry} (he : e ∈ l) : sumC (l.erase e) = sumC l - contrib e := by
  obtain ⟨l₁, l₂, -, h2, h3, -⟩ := exists_replace_eq he e
  rw [h3, h2, sumC_append, sumC_append, sumC]; omega

theorem sumC_replace {l : List Entry} {e e' : Entry} (he : e ∈ l) :
    sumC (l.replace e e') = sumC l - contrib e + contrib e' := by
  obtain ⟨l₁, l₂, -, h2, -, h4⟩ := exists_replace_eq he e'
  rw [h4, h2, sumC_append, sumC_append, sumC, sumC]; omega

theorem sumC_moveToBack {l : List Entry} {e : Entry} (he : e ∈ l) : sumC (moveToBack l e) = sumC l := by
  rw [moveToBack, sumC_append, sumC_erase he, sumC, sumC]; omega

theorem sumC_pending {l : List Entry} (h : ∀ e ∈ l, e.pend = true) : sumC l = 0 := by
  induction l with
  | nil => rfl
  | cons a l ih =>
    rw [sumC, contrib, if_pos (h a List.mem_cons_self), ih (fun e he => h e (List.mem_cons_of_mem _ he))]; rfl

theorem mem_moveToBack {l : List Entry} {e : Entry} (he : e ∈ l) (x : Entry) : x ∈ moveToBack l e ↔ x ∈ l := by
  rw [moveToBack, List.mem_append, List.mem_singleton]
  constructor
  · rintro (hx | rfl)
    · exact List.mem_of_mem_erase hx
    · exact he
  · intro hx
    by_cases hxe : x = e
    · exact Or.inr hxe
    · exact Or.inl ((List.mem_erase_of_ne hxe).2 hx)

/-- LRU first: what is evicted is exactly the completed part of a prefix of the list, pending
    entries of that prefix and the whole rest are kept in order, and every eviction was needed -/
theorem evict_prefix (mx : Int) (size : Int) (l : List Entry) :
    ∃ pre suf, l = pre ++ suf ∧
      (evictLoop mx size l).2.1 = pre.filter (·.pend) ++ suf ∧
      (evictLoop mx size l).2.2 = pre.filter (fun e => !e.pend) ∧
      (evictLoop mx size l).1 = size - sumC pre ∧
      (suf = [] ∨ (evictLoop mx size l).1 ≤ mx) ∧
      (∀ p1 e p2, pre = p1 ++ e :: p2 → size - sumC p1 > mx) := by
  induction l generalizing size with
  | nil => exact ⟨[], [], by simp [evictLoop, sumC]⟩
  | cons a rest ih =>
    simp only [evictLoop]
    split
    · rename_i hgt
      -- the head joins the prefix found for the rest, started at `size - contrib a`
      have cons : ∀ pre, (∀ p1 e p2, pre = p1 ++ e :: p2 → size - contrib a - sumC p1 > mx) →
          ∀ p1 e p2, a :: pre = p1 ++ e :: p2 → size - sumC p1 > mx := by
        intro pre h6 p1 e p2 hp
        cases p1 with
        | nil => rw [sumC, Int.sub_zero]; exact hgt
        | cons x p1' =>
          rw [List.cons_append, List.cons.injEq] at hp
          have := h6 p1' e p2 hp.2
          rw [← hp.1, sumC]; omega
      split
      · rename_i hpa
        have hpa' : a.pend = false := by simpa using hpa
        have hc : contrib a = a.size := by rw [contrib, hpa']; rfl
        obtain ⟨pre, suf, h1, h2, h3, h4, h5, h6⟩ := ih (size - a.size)
        exact ⟨a :: pre, suf, by rw [h1]; rfl, by rw [List.filter_cons_of_neg (by simp [hpa']), h2],
          by rw [List.filter_cons_of_pos (by simp [hpa']), h3], by rw [h4, sumC, hc]; omega, h5, cons pre (hc ▸ h6)⟩
      · rename_i hpa
        have hpa' : a.pend = true := by simpa using hpa
        have hc : contrib a = 0 := by rw [contrib, hpa']; rfl
        obtain ⟨pre, suf, h1, h2, h3, h4, h5, h6⟩ := ih size
        exact ⟨a :: pre, suf, by rw [h1]; rfl, by rw [List.filter_cons_of_pos hpa', h2]; rfl,
          by rw [List.filter_cons_of_neg (by simp [hpa']), h3], by rw [h4, sumC, hc]; omega, h5,
          cons pre (by rw [hc, Int.sub_zero]; exact h6)⟩
    · rename_i hle
      exact ⟨[], a :: rest, rfl, rfl, rfl, by simp [sumC], Or.inr (by omega), by simp⟩

theorem evict_sublist (mx : Int) (size : Int) (l : List Entry) : (evictLoop mx size l).2.1.Sublist l := by
  obtain ⟨pre, suf, h1, h2, -⟩ := evict_prefix mx size l
  rw [h2, h1]; exact List.filter_sublist.append_right suf

theorem evict_size (mx : Int) (size : Int) (l : List Entry) :
    (evictLoop mx size l).1 - sumC (evictLoop mx size l).2.1 = size - sumC l := by
  obtain ⟨pre, suf, h1, h2, -, h4, -⟩ := evict_prefix mx size l
  rw [h2, h4, h1, sumC_append, sumC_append, sumC_pending (fun e he => (List.mem_filter.1 he).2)]; omega

theorem evict_pending_kept (mx : Int) (size : Int) (l : List Entry) :
    ∀ e ∈ l, e.pend = true → e ∈ (evictLoop mx size l).2.1 := by
  obtain ⟨pre, suf, h1, h2, -⟩ := evict_prefix mx size l
  intro e he hp
  rw [h2]; rw [h1] at he
  rcases List.mem_append.1 he with h | h
  · exact List.mem_append_left _ (List.mem_filter.2 ⟨h, hp⟩)
  · exact List.mem_append_right _ h

theorem evict_evicted_completed (mx : Int) (size : Int) (l : List Entry) :
    ∀ e ∈ (evictLoop mx size l).2.2, e.pend = false ∧ e ∈ l := by
  obtain ⟨pre, suf, h1, -, h3, -⟩ := evict_prefix mx size l
  intro e he
  rw [h3, List.mem_filter] at he
  exact ⟨by simpa using he.2, h1 ▸ List.mem_append_left _ he.1⟩

theorem evict_fits (mx : Int) (size : Int) (l : List Entry) :
    (evictLoop mx size l).1 ≤ mx ∨ ∀ e ∈ (evictLoop mx size l).2.1, e.pend = true := by
  obtain ⟨pre, suf, -, h2, -, -, h5, -⟩ := evict_prefix mx size l
  rcases h5 with rfl | h5
  · right; intro e he
    rw [h2, List.append_nil] at he; exact (List.mem_filter.1 he).2
  · exact Or.inl h5

end Rv.Lru
