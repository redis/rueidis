/-
Pipe life model: which steps touch the wire log and the calls table.
-/
import Rv.Lemmas.PipeLifeCount
namespace Rv.PipeLife

theorem deliver_wire (o : Owner) (r : Res) (s : St) : (deliver o r s).wire = s.wire := by
  cases o <;> simp only [deliver]
  split <;> rfl

theorem deliver_queue (o : Owner) (r : Res) (s : St) : (deliver o r s).queue = s.queue := by
  cases o <;> simp only [deliver]
  split <;> rfl

def CallsChange (s s' : St) : Prop :=
  s'.calls = s.calls ∨ (∃ i cs, s'.calls = s.calls.modify i (setCallSt cs)) ∨ (∃ i, s'.calls = s.calls.modify i setDone)

theorem deliver_calls (o : Owner) (r : Res) (s : St) : CallsChange s (deliver o r s) := by
  cases o <;> simp only [deliver]
  · split
    · exact Or.inr (Or.inl ⟨_, _, rfl⟩)
    · exact Or.inr (Or.inl ⟨_, _, rfl⟩)
    · exact Or.inl rfl
  · exact Or.inl rfl
  · exact Or.inl rfl

theorem step_calls {fix : Bool} {s s' : St} {l : Label} (h : step fix s l = some s') : CallsChange s s' := by
  induction step_sound h with
  | enterDone | enter | toQueue | sync | reject | put | putFail | syncOk | leave | abort =>
    exact Or.inr (Or.inl ⟨_, _, rfl⟩)
  | toQueueBg | syncErr => exact Or.inr (Or.inl ⟨_, _, congrArg (List.modify · _ _) (startBg_calls _)⟩)
  | leaveBg => exact Or.inr (Or.inl ⟨_, _, startBg_calls _⟩)
  | cancel => exact Or.inr (Or.inr ⟨_, rfl⟩)
  | rDeliver | drain => exact deliver_calls _ _ _
  | rErr =>
    show CallsChange s (deferDeliver s)
    unfold deferDeliver; split
    · exact deliver_calls _ _ _
    · exact Or.inl rfl
  | casBg => exact Or.inl (startBg_calls _)
  | _ => exact Or.inl rfl

theorem ctxDoneOf_setCallSt {s s' : St} {i : Nat} {cs : CS} (h : s'.calls = s.calls.modify i (setCallSt cs)) (j : Nat) :
    ctxDoneOf s' j = ctxDoneOf s j := by
  unfold ctxDoneOf; rw [h, List.getElem?_modify]
  cases s.calls[j]? <;> simp
  split <;> simp [setCallSt]

theorem ctxDone_mono {fix : Bool} {s s' : St} {l : Label} (h : step fix s l = some s') {j : Nat}
    (hd : ctxDoneOf s j = true) : ctxDoneOf s' j = true := by
  rcases step_calls h with hc | ⟨i, cs, hc⟩ | ⟨i, hc⟩
  · unfold ctxDoneOf at hd ⊢; rw [hc]; exact hd
  · rw [ctxDoneOf_setCallSt hc]; exact hd
  · unfold ctxDoneOf at hd ⊢; rw [hc, List.getElem?_modify]
    cases hj : s.calls[j]? with
    | none => rw [hj] at hd; cases hd
    | some c => rw [hj] at hd; simp; split <;> simp_all [setDone]

/-- how the wire log changes: only the sync path of `decide` and the writer's take extend it -/
def WireChange (s s' : St) (l : Label) : Prop :=
  s'.wire = s.wire ∨
  (∃ i w, l = .decide i ∧ stOf s i = some (.counted w) ∧ s'.wire = s.wire ++ [i]) ∨
  (∃ o q, l = .wTake ∧ takeFirst s.queue = some (o, q) ∧ s'.wire = wireAdd o s.wire)

theorem step_wire {fix : Bool} {s s' : St} {l : Label} (h : step fix s l = some s') : WireChange s s' l := by
  induction step_sound h with
  | sync i w hst => exact Or.inr (Or.inl ⟨i, w, rfl, hst, rfl⟩)
  | wTake d o q _ htf => exact Or.inr (Or.inr ⟨o, q, rfl, htf, rfl⟩)
  | toQueueBg | syncErr | leaveBg | casBg => exact Or.inl (startBg_wire _)
  | rDeliver | drain => exact Or.inl (deliver_wire _ _ _)
  | rErr =>
    refine Or.inl ?_
    show (deferDeliver s).wire = s.wire
    unfold deferDeliver; split
    · rw [deliver_wire]
    · rfl
  | _ => exact Or.inl rfl

theorem takeFirst_mem {q : List Entry} {o : Owner} {q' : List Entry} (h : takeFirst q = some (o, q')) :
    o ∈ q.map (·.owner) := by
  obtain ⟨pre, e, post, rfl, -, -, rfl, -⟩ := takeFirst_some h
  simp

/-- a call that is put on the wire is either entering the sync path or waits on a queued entry -/
theorem wire_only_live {fix : Bool} {s s' : St} {l : Label} (h : step fix s l = some s') (hc : InvC s) {i : Nat}
    (hi : i ∈ s'.wire) (hn : i ∉ s.wire) :
    (∃ w, stOf s i = some (.counted w)) ∨ stOf s i = some .waiting ∨ stOf s i = some .aborted := by
  rcases step_wire h with hw | ⟨k, w, _, hk, hw⟩ | ⟨o, q, _, htf, hw⟩
  · rw [hw] at hi; exact absurd hi hn
  · rw [hw] at hi
    simp only [List.mem_append, List.mem_singleton] at hi
    rcases hi with hi | hi
    · exact absurd hi hn
    · subst hi; exact Or.inl ⟨w, hk⟩
  · rw [hw] at hi
    cases o with
    | call k =>
      simp only [wireAdd, List.mem_append, List.mem_singleton] at hi
      rcases hi with hi | hi
      · exact absurd hi hn
      · subst hi
        have hmem := takeFirst_mem htf
        have hcnt : 0 < (slots s).count (.call i) := by
          apply List.count_pos_iff.mpr
          simp only [slots, List.mem_append]; exact Or.inr hmem
        rw [hc.sl] at hcnt
        exact Or.inr (slotW_pos hcnt)
    | bgPing => exact absurd hi hn
    | closePing => exact absurd hi hn

end Rv.PipeLife
