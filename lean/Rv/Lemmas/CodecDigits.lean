/-
Helper lemmas for C14: the most-significant-first digit loop of `writeN`
(started at the exact leading power of ten) renders the same decimal digits as
the least-significant-first specification `Rv.Spec.digits`.
-/
import Rv.Model.WriteCmd
import Rv.Lemmas.RespBasics
namespace Rv.CodecL
open Rv Rv.Spec Rv.WriteCmd

/-- `k` decimal digits of `n`, most significant first (the low `k` digits) -/
def pad : Nat → Nat → List UInt8
  | 0, _ => []
  | k + 1, n => pad k (n / 10) ++ [UInt8.ofNat (48 + n % 10)]

theorem pad_msd (k n : Nat) :
    pad (k + 1) n = UInt8.ofNat (48 + (n / 10 ^ k) % 10) :: pad k (n % 10 ^ k) := by
  induction k generalizing n with
  | zero => simp [pad]
  | succ k ih =>
    rw [pad, ih (n / 10)]
    rw [show pad (k + 1) (n % 10 ^ (k + 1)) = pad k (n % 10 ^ (k + 1) / 10) ++ [UInt8.ofNat (48 + n % 10 ^ (k + 1) % 10)] from rfl]
    have h1 : n / 10 / 10 ^ k = n / 10 ^ (k + 1) := by
      rw [Nat.div_div_eq_div_mul, Nat.pow_succ, Nat.mul_comm]
    have h2 : n % 10 ^ (k + 1) / 10 = n / 10 % 10 ^ k := by
      rw [Nat.pow_succ, Nat.mul_comm, Nat.mod_mul_right_div_self]
    have h3 : n % 10 ^ (k + 1) % 10 = n % 10 := by
      rw [Nat.pow_succ, Nat.mul_comm]; exact Nat.mod_mul_right_mod n 10 (10 ^ k)
    rw [h1, h2, h3]; simp

theorem loop_zero (n : Nat) : loop 0 n = [] := by rw [loop]; simp

theorem loop_pow (k : Nat) : ∀ n, n < 10 ^ (k + 1) → loop (10 ^ k) n = pad (k + 1) n := by
  induction k with
  | zero =>
    intro n h
    have h' : n < 10 := by simpa using h
    rw [loop]; simp [loop_zero, pad, Nat.mod_eq_of_lt h']
  | succ k ih =>
    intro n h
    have hp : 10 ^ (k + 1) > 0 := Nat.pow_pos (by decide)
    rw [loop, dif_pos hp, pad_msd (k + 1) n]
    have hd : 10 ^ (k + 1) / 10 = 10 ^ k := by rw [Nat.pow_succ]; omega
    have hm : n % 10 ^ (k + 1) < 10 ^ (k + 1) := Nat.mod_lt _ hp
    rw [hd, ih _ hm]
    have hq : n / 10 ^ (k + 1) < 10 := by
      rw [Nat.div_lt_iff_lt_mul hp]; rw [Nat.pow_succ] at h; omega
    rw [Nat.mod_eq_of_lt hq]

theorem digits_pad (k : Nat) : ∀ n, 10 ^ k ≤ n → n < 10 ^ (k + 1) → digits n = pad (k + 1) n := by
  induction k with
  | zero =>
    intro n _ h
    have h' : n < 10 := by simpa using h
    rw [digits]; simp [h', pad, Nat.mod_eq_of_lt h']
  | succ k ih =>
    intro n h1 h2
    have hp : 10 ^ k > 0 := Nat.pow_pos (by decide)
    have hge : ¬ n < 10 := by rw [Nat.pow_succ] at h1; omega
    rw [digits, dif_neg hge, pad]
    have := ih (n / 10) (by rw [Nat.pow_succ] at h1; omega) (by rw [Nat.pow_succ] at h2; omega)
    rw [this]

theorem numDigits_pos (n : Nat) : 0 < numDigits n := by
  rw [numDigits]; split <;> omega

theorem numDigits_bounds (n : Nat) : n < 10 ^ numDigits n ∧ (10 ≤ n → 10 ^ (numDigits n - 1) ≤ n) := by
  induction n using numDigits.induct with
  | case1 n h => rw [numDigits]; simp [h]; omega
  | case2 n h ih =>
    rw [numDigits]; simp only [h, dite_false]
    obtain ⟨ih1, ih2⟩ := ih
    have hp := numDigits_pos (n / 10)
    constructor
    · rw [Nat.pow_succ]; omega
    · intro _
      simp only [Nat.add_sub_cancel]
      by_cases h10 : 10 ≤ n / 10
      · have := ih2 h10
        have e : numDigits (n / 10) = (numDigits (n / 10) - 1) + 1 := by omega
        rw [e, Nat.pow_succ]; omega
      · have : numDigits (n / 10) = 1 := by rw [numDigits]; simp; omega
        rw [this]; omega

theorem numDigits_eq_len (n : Nat) : numDigits n = (digits n).length := by
  induction n using numDigits.induct with
  | case1 n h => rw [numDigits, digits]; simp [h]
  | case2 n h ih => rw [numDigits, digits]; simp [h, ih]

theorem loop_exact (n : Nat) (h : 10 ≤ n) : loop (exactLead n) n = digits n := by
  obtain ⟨h1, h2⟩ := numDigits_bounds n
  have hp := numDigits_pos n
  unfold exactLead
  have e : numDigits n = (numDigits n - 1) + 1 := by omega
  rw [loop_pow _ n (by rw [← e]; exact h1), digits_pad (numDigits n - 1) n (h2 h) (by rw [← e]; exact h1)]

end Rv.CodecL
