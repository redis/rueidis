/-
Pipe life model: `state >= 2`, a dead connection, a called Close and a started `_background` are never undone.
-/
import Rv.Lemmas.PipeLifeCount
namespace Rv.PipeLife

theorem deliver_state (o : Owner) (r : Res) (s : St) : (deliver o r s).state = s.state :=
  congrArg Scal.state (scal_deliver o r s)

theorem deferDeliver_state (s : St) : (deferDeliver s).state = s.state :=
  congrArg Scal.state (scal_deferDeliver s)

theorem ge2_startBg {s : St} (h : 2 ≤ s.state) : 2 ≤ (startBg s).state := by
  have : (startBg s).state = bgState s.state := by unfold startBg; split <;> rfl
  rw [this]; unfold bgState; split <;> omega

theorem ge2_exitConn {w : Why} {s : St} (h : 2 ≤ s.state) : 2 ≤ (exitConn w s).state := by
  show 2 ≤ if s.state = 1 then 2 else s.state
  split <;> omega

theorem ge2_casSt {s : St} (h : 2 ≤ s.state) : 2 ≤ (casSt s).state := by
  show 2 ≤ if isStopping s.state then 2 else s.state
  split <;> omega

theorem state_ge2_stable {fix : Bool} {s s' : St} {l : Label} (h : step fix s l = some s') (h2 : 2 ≤ s.state) :
    2 ≤ s'.state := by
  induction step_sound h with
  | toQueueBg | leaveBg => exact ge2_startBg h2
  | syncErr => exact ge2_startBg (s := { s with err := latch .broken s.err, connUp := false }) h2
  | pingFail | flushErr => exact ge2_exitConn (w := .broken) (s := s) h2
  | rDeliver | drain => rw [deliver_state]; exact h2
  | rErr => exact ge2_exitConn (w := .broken) (s := deferDeliver s) (by rw [deferDeliver_state]; exact h2)
  | tdClose => exact (by decide : 2 ≤ 4)
  | casBg => exact ge2_startBg (ge2_casSt h2)
  | cas => exact ge2_casSt h2
  | _ => exact h2

theorem deliver_connUp (o : Owner) (r : Res) (s : St) : (deliver o r s).connUp = s.connUp :=
  congrArg Scal.connUp (scal_deliver o r s)

theorem deliver_close (o : Owner) (r : Res) (s : St) : (deliver o r s).close = s.close :=
  congrArg Scal.close (scal_deliver o r s)

theorem startBg_td_ne_off (s : St) : (startBg s).td ≠ .off := by
  unfold startBg; split
  · simp
  · rename_i h; simpa using h

theorem startBg_td_of_ne {s : St} (h : s.td ≠ .off) : (startBg s).td = s.td := by
  unfold startBg; split
  · rename_i h1; exact absurd h1 h
  · rfl

/-- `connUp = false`, `close ≠ idle` and `td ≠ off` are stable -/
structure Latched (s : St) (c k t : Bool) : Prop where
  c : c = true → s.connUp = false
  k : k = true → s.close ≠ .idle
  t : t = true → s.td ≠ .off

theorem latched_of {s s' : St} {c k t : Bool} (h : Latched s c k t) (hc : s'.connUp = s.connUp)
    (hk : s'.close = s.close) (ht : s'.td = s.td) : Latched s' c k t :=
  ⟨fun x => by rw [hc]; exact h.c x, fun x => by rw [hk]; exact h.k x, fun x => by rw [ht]; exact h.t x⟩

theorem latched_startBg {s : St} {c k t : Bool} (h : Latched s c k t) : Latched (startBg s) c k t :=
  ⟨fun hc => by rw [startBg_connUp]; exact h.c hc, fun hk => by rw [startBg_close]; exact h.k hk,
   fun _ => startBg_td_ne_off s⟩

theorem latched_deliver {s : St} {c k t : Bool} {o : Owner} {r : Res} (h : Latched s c k t) :
    Latched (deliver o r s) c k t :=
  ⟨fun hc => by rw [deliver_connUp]; exact h.c hc, fun hk => by rw [deliver_close]; exact h.k hk,
   fun ht => by rw [deliver_td]; exact h.t ht⟩

theorem latched_step {fix : Bool} {s s' : St} {l : Label} {c k t : Bool} (h : step fix s l = some s')
    (hl : Latched s c k t) : Latched s' c k t := by
  induction step_sound h with
  | toQueueBg => exact latched_of (latched_startBg hl) rfl rfl rfl
  | syncErr =>
    exact latched_of (latched_startBg (s := { s with err := latch .broken s.err, connUp := false })
      ⟨fun _ => rfl, hl.k, hl.t⟩) rfl rfl rfl
  | leaveBg => exact latched_startBg (s := leaveSt _ _ s) (latched_of hl rfl rfl rfl)
  | connBreak | pingFail | flushErr => exact ⟨fun _ => rfl, hl.k, hl.t⟩
  | rDeliver => exact latched_deliver (s := { s with inflight := none }) (latched_of hl rfl rfl rfl)
  | rErr =>
    refine ⟨fun _ => rfl, fun hk => ?_, fun _ => nofun⟩
    show (deferDeliver s).close ≠ .idle
    have : (deferDeliver s).close = s.close := congrArg Scal.close (scal_deferDeliver s)
    rw [this]; exact hl.k hk
  | noSpawn | spawn | loopDone | seeClosed | tdClose => exact ⟨hl.c, hl.k, fun _ => nofun⟩
  | drain =>
    exact latched_deliver (s := { s with td := .draining _, queue := _, rcnt := _ }) ⟨hl.c, hl.k, fun _ => nofun⟩
  | casBg => exact latched_startBg (s := casSt s) ⟨hl.c, fun _ => nofun, hl.t⟩
  | closeEnter | cas | ping | noPing | closeGot | closeGrace => exact ⟨hl.c, fun _ => nofun, hl.t⟩
  | closeTail => exact ⟨fun _ => rfl, fun _ => nofun, hl.t⟩
  | _ => exact latched_of hl rfl rfl rfl

end Rv.PipeLife
