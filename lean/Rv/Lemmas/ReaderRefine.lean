/-
The reader automaton (Rv/Model/Reader.lean) refines the answer-discipline specification
(Rv/Spec/ReaderSpec.lean): invariant `Rel`, preserved by every accepted transition (`Acc`) of the specification.
-/
import Rv.Lemmas.ReaderSpecL
namespace Rv.ReaderL
open Rv.Reader Rv.Spec.Reader

/-- public copy of the model's private `finish` (equal by `rfl`, see `match1_cons`) -/
def fin (s : St) (c : Cmd) (mid : Option Nat) (len : Nat) : St × Out :=
  if s.ff + 1 = len then
    ({ s with queue := s.queue.tail, started := false, ff := 0 }, .deliver c.id mid true)
  else ({ s with ff := s.ff + 1 }, .deliver c.id mid false)

def inMid : In → Nat | .reply i _ _ => i | .push i _ => i
def inPong : In → Bool | .reply _ p _ => p | _ => false
def inQueued : In → Bool | .reply _ _ q => q | _ => false

/-- the body of `match1` once the head batch `b` and the current command `c` are known -/
def body (s : St) (b : Batch) (c : Cmd) (mid : Nat) (isPong isQueued rp us : Bool) : St × Out :=
  let s := { s with started := true }
  if rp then
    if us then (s, .skipped)
    else if !c.noReply then (s, .panic "protocolbug")
    else fin { s with skip := c.nargs - 2 } c none b.length
  else if c.noReply && isQueued then (s, .panic "multiexecsub")
  else if c.isUnsub && !isPong then fin { s with skipUnsubReply := true } c (some mid) b.length
  else if s.skipUnsubReply then
    if !isPong then (s, .panic "protocolbug") else ({ s with skipUnsubReply := false }, .skipped)
  else fin s c (some mid) b.length

theorem match1_cons {s : St} {b : Batch} {r : List Batch} {c : Cmd} (m : In) (rp us : Bool)
    (hq : s.queue = b :: r) (hc : b[s.ff]? = some c) :
    match1 s m rp us = body s b c (inMid m) (inPong m) (inQueued m) rp us := by
  obtain ⟨queue, started, ff, skip, sur⟩ := s
  subst hq
  unfold match1
  cases started <;> simp only [hc, Bool.not_true, Bool.not_false] <;> cases m <;> rfl

theorem match1_nil {s : St} (m : In) (rp us : Bool) (hq : s.queue = []) (hs : s.started = false) :
    match1 s m rp us =
      if us then (s, .skipped)
      else if s.skipUnsubReply && inPong m then ({ s with skipUnsubReply := false }, .skipped)
      else (s, .panic "protocolbug") := by
  obtain ⟨queue, started, ff, skip, sur⟩ := s
  simp only at hq hs
  subst hq hs
  cases m <;> rfl

theorem step_data (s : St) (mid : Nat) : step s (.push mid .data) = (s, .skipped) := rfl

theorem step_sub (s : St) (mid : Nat) :
    step s (.push mid .sub) =
      if s.skip > 0 then ({ s with skip := s.skip - 1 }, .skipped) else match1 s (.push mid .sub) true false := rfl

theorem step_unsub (s : St) (mid : Nat) :
    step s (.push mid .unsub) =
      if s.skip > 0 then ({ s with skip := s.skip - 1 }, .skipped) else match1 s (.push mid .unsub) true true := rfl

theorem step_reply (s : St) (mid : Nat) (p q : Bool) :
    step s (.reply mid p q) = match1 s (.reply mid p q) false false := rfl

theorem mark_length (b : Batch) : (mark b).length = b.length := by
  rw [← List.length_map (f := Prod.fst), mark_fst]

theorem mark_getElem? (b : Batch) (i : Nat) :
    (mark b)[i]? = b[i]?.map fun c => (c, decide (i + 1 = b.length)) := by
  induction b generalizing i with
  | nil => rfl
  | cons c l ih =>
    rw [mark_cons]
    cases i with
    | zero => cases l <;> rfl
    | succ j => simp only [List.getElem?_cons_succ, ih, List.length_cons, Nat.add_right_cancel_iff]

theorem wfBatch_pos {b : Batch} (h : wfBatch b = true) : 0 < b.length := by
  cases b with
  | nil => simp [wfBatch] at h
  | cons a b => simp

theorem wfBatch_cmd {b : Batch} {i : Nat} {c : Cmd} (h : wfBatch b = true) (hc : b[i]? = some c) :
    wfCmd c = true := by
  have hm : c ∈ b := List.mem_of_getElem? hc
  simp only [wfBatch, Bool.and_eq_true, List.all_eq_true] at h
  exact h.2 c hm

theorem kind_sub {c : Cmd} (hk : kind c = .sub) : c.noReply = true := by
  cases hn : c.noReply <;> simp [kind, hn] at hk ⊢

theorem noReply_and {c : Cmd} {q : Bool} (h : kind c = .regular ∨ q = false) : (c.noReply && q) = false := by
  cases hn : c.noReply <;> cases hu : c.isUnsub <;> cases q <;> simp [kind, hn, hu] at h ⊢

theorem kind_unsub {c : Cmd} (hw : wfCmd c = true) : (kind c == .unsub) = c.isUnsub := by
  cases hn : c.noReply <;> cases hu : c.isUnsub <;> simp [kind, wfCmd, hn, hu] at hw ⊢

/-- model state `s` and specification state `t` describe the same situation; the `started`
    flag of the model (reader holds the head batch) is not observable -/
structure Rel (s : St) (t : SpecSt) : Prop where
  pend : t.pend = (s.queue.flatMap mark).drop s.ff
  more : t.more = s.skip
  eat : t.eat = s.skipUnsubReply
  idle : s.queue = [] → s.started = false
  ffLt : s.ff < s.queue.head?.elim 1 List.length
  wf : ∀ b, b ∈ s.queue → wfBatch b = true

theorem rel_init : Rel {} {} :=
  ⟨rfl, rfl, rfl, fun _ => rfl, Nat.one_pos, (by intro b h; cases h)⟩

theorem rel_write {s : St} {t : SpecSt} {b : Batch} (h : Rel s t) (hb : wfBatch b = true) :
    Rel (write s b) (specWrite t b) := by
  obtain ⟨queue, started, ff, skip, sur⟩ := s
  obtain ⟨hp, hm, he, hi, hl, hw⟩ := h
  simp only at hp hm he hi hl hw
  refine ⟨?_, hm, he, fun e => absurd e (List.append_ne_nil_of_right_ne_nil _ (List.cons_ne_nil _ _)), ?_, ?_⟩
  · have hle : ff ≤ (queue.flatMap mark).length := by
      cases queue with
      | nil => exact Nat.le_of_lt_succ hl
      | cons a q =>
        rw [List.flatMap_cons, List.length_append, mark_length]
        exact Nat.le_trans (Nat.le_of_lt hl) (Nat.le_add_right _ _)
    show t.pend ++ mark b = ((queue ++ [b]).flatMap mark).drop ff
    rw [List.flatMap_append, List.drop_append_of_le_length hle, hp, List.flatMap_singleton]
  · show ff < (queue ++ [b]).head?.elim 1 List.length
    cases queue with
    | nil => exact Nat.lt_of_lt_of_le hl (wfBatch_pos hb)
    | cons a q => exact hl
  · intro b' hb'
    change b' ∈ queue ++ [b] at hb'
    rcases List.mem_append.1 hb' with h1 | h1
    · exact hw b' h1
    · simp at h1; rw [h1]; exact hb

theorem fin_rel {s : St} {t' : SpecSt} {b : Batch} {r : List Batch} {c : Cmd} {mid : Option Nat}
    (hq : s.queue = b :: r) (hc : b[s.ff]? = some c)
    (hw : ∀ x, x ∈ s.queue → wfBatch x = true)
    (hp : t'.pend = ((b :: r).flatMap mark).drop (s.ff + 1))
    (hm : t'.more = s.skip) (he : t'.eat = s.skipUnsubReply) :
    ∃ s', fin s c mid b.length = (s', .deliver c.id mid (decide (s.ff + 1 = b.length))) ∧ Rel s' t' := by
  obtain ⟨queue, started, ff, skip, sur⟩ := s
  simp only at hq hc hw hp hm he
  subst hq
  have hlt : ff < b.length := (List.getElem?_eq_some_iff.1 hc).1
  by_cases h : ff + 1 = b.length
  · rw [fin, if_pos h, decide_eq_true h]
    refine ⟨_, rfl, ?_⟩
    rw [List.flatMap_cons, h, ← mark_length, List.drop_left] at hp
    refine ⟨hp, hm, he, fun _ => rfl, ?_, ?_⟩
    · show 0 < r.head?.elim 1 List.length
      cases r with
      | nil => exact Nat.one_pos
      | cons b' r' => exact wfBatch_pos (hw b' (by simp))
    · intro b' hb'
      change b' ∈ r at hb'
      exact hw b' (List.mem_cons_of_mem _ hb')
  · rw [fin, if_neg h, decide_eq_false h]
    exact ⟨_, rfl, hp, hm, he, (by intro x; cases x), Nat.lt_of_le_of_ne hlt h, hw⟩

theorem body_unsubPush (s : St) (b : Batch) (c : Cmd) (mid : Nat) (p q : Bool) :
    body s b c mid p q true true = ({ s with started := true }, .skipped) := rfl

variable {s : St} {t t' : SpecSt} {b : Batch} {c : Cmd} {mid : Nat} {p q : Bool}

theorem body_subPush (hn : c.noReply = true) :
    body s b c mid p q true false = fin { s with started := true, skip := c.nargs - 2 } c none b.length := by
  simp only [body, hn]; rfl

theorem body_reply (h1 : (c.noReply && q) = false) (h2 : (c.isUnsub && !p) = false) (h3 : s.skipUnsubReply = false) :
    body s b c mid p q false false = fin { s with started := true } c (some mid) b.length := by
  simp only [body, h1, h2, h3]; rfl

theorem body_refused (h1 : (c.noReply && q) = false) (h2 : (c.isUnsub && !p) = true) :
    body s b c mid p q false false =
      fin { s with started := true, skipUnsubReply := true } c (some mid) b.length := by
  simp only [body, h1, h2]; rfl

theorem body_eat (h1 : (c.noReply && q) = false) (h3 : s.skipUnsubReply = true) :
    body s b c mid true q false false = ({ s with started := true, skipUnsubReply := false }, .skipped) := by
  simp [body, h1, h3]

theorem rel_head {d : Bool} {r' : List (Cmd × Bool)}
    (h : Rel s t) (hp : t.pend = (c, d) :: r') :
    ∃ b r, s.queue = b :: r ∧ b[s.ff]? = some c ∧ d = decide (s.ff + 1 = b.length) ∧
      r' = ((b :: r).flatMap mark).drop (s.ff + 1) := by
  have hL := h.pend
  rw [hp] at hL
  cases hq : s.queue with
  | nil => rw [hq, List.flatMap_nil, List.drop_nil] at hL; cases hL
  | cons b r =>
    rw [hq] at hL
    have hlt : s.ff < b.length := by have := h.ffLt; rw [hq] at this; exact this
    have h0 := congrArg (·[0]?) hL
    have ht := congrArg List.tail hL
    simp only [List.getElem?_cons_zero, List.getElem?_drop, Nat.add_zero, List.flatMap_cons,
      List.getElem?_append_left (mark_length b ▸ hlt), mark_getElem?, List.tail_cons, List.tail_drop] at h0 ht
    obtain ⟨c', hc', he⟩ := Option.map_eq_some_iff.1 h0.symm
    cases he
    exact ⟨b, r, rfl, hc', rfl, ht⟩

theorem rel_cur (h : Rel s t) :
    (s.queue = [] ∧ s.started = false) ∨ ∃ b r c, s.queue = b :: r ∧ b[s.ff]? = some c := by
  cases hq : s.queue with
  | nil => exact .inl ⟨rfl, h.idle hq⟩
  | cons b r => exact .inr ⟨b, r, _, rfl, List.getElem?_eq_getElem (hq ▸ h.ffLt :)⟩

theorem step_refines {o : Out} {i : In} (h : Rel s t)
    (a : Acc t i t' o) : ∃ s', step s i = (s', o) ∧ Rel s' t' := by
  have hskip : t.more = 0 → ¬ s.skip > 0 := fun hm => by rw [← h.more, hm]; exact Nat.lt_irrefl 0
  cases a with
  | data => exact ⟨s, rfl, h⟩
  | unsub _ hm =>
    rw [step_unsub, if_neg (hskip hm)]
    rcases rel_cur h with ⟨hq, hs⟩ | ⟨b, r, c, hq, hc⟩
    · rw [match1_nil _ true true hq hs]; exact ⟨s, rfl, h⟩
    · rw [match1_cons _ true true hq hc]
      exact ⟨_, rfl, h.pend, h.more, h.eat, fun e => absurd (hq.symm.trans e) (List.cons_ne_nil _ _), h.ffLt, h.wf⟩
  | conf _ hm =>
    rw [step_sub, if_pos (h.more ▸ Nat.pos_of_ne_zero hm)]
    exact ⟨_, rfl, h.pend, congrArg (· - 1) h.more, h.eat, h.idle, h.ffLt, h.wf⟩
  | @sub c _ _ _ hm he hp hk =>
    obtain ⟨b, r, hq, hc, hd, hr⟩ := rel_head h hp
    rw [step_sub, if_neg (hskip hm), match1_cons _ true false hq hc, body_subPush (kind_sub hk), hd]
    exact fin_rel hq hc h.wf hr rfl (by rw [← h.eat, he])
  | pong mid hm he =>
    have hsur : s.skipUnsubReply = true := by rw [← h.eat, he]
    rw [step_reply]
    rcases rel_cur h with ⟨hq, hs⟩ | ⟨b, r, c, hq, hc⟩
    · rw [match1_nil _ false false hq hs]
      simp only [hsur, inPong, Bool.and_self, Bool.false_eq_true, if_false, if_true]
      exact ⟨_, rfl, h.pend, h.more, rfl, h.idle, h.ffLt, h.wf⟩
    · rw [match1_cons _ false false hq hc]
      simp only [inPong, inQueued, inMid]
      rw [body_eat (by simp) hsur]
      exact ⟨_, rfl, h.pend, h.more, rfl, fun e => absurd (hq.symm.trans e) (List.cons_ne_nil _ _), h.ffLt, h.wf⟩
  | @reply c _ _ _ mid p q hm he hp hq he' =>
    subst he'
    have hsur : s.skipUnsubReply = false := by rw [← h.eat, he]
    obtain ⟨b, r, hq', hc, hd, hr⟩ := rel_head h hp
    rw [step_reply, match1_cons _ false false hq' hc, hd, kind_unsub (wfBatch_cmd (h.wf b (by rw [hq']; simp)) hc)]
    simp only [inPong, inQueued, inMid]
    cases hu : (c.isUnsub && !p) with
    | false =>
      rw [body_reply (noReply_and hq) hu hsur]
      exact fin_rel hq' hc h.wf hr (hm.symm.trans h.more) hsur.symm
    | true =>
      rw [body_refused (noReply_and hq) hu]
      exact fin_rel hq' hc h.wf hr (hm.symm.trans h.more) rfl

theorem run_refines {es : List Ev} (hd : Run t es t') :
    ∀ s, Rel s t → run s es = specRun t es := by
  induction hd with
  | nil => exact fun _ _ => rfl
  | write hb _ ih => exact fun s h => ih _ (rel_write h hb)
  | msg a _ ih =>
    intro s h
    obtain ⟨s', hs, hr⟩ := step_refines h a
    simp only [run, specRun, hs, onMsg_of_acc a, ih s' hr]

end Rv.ReaderL
