/-
C29 helper: `streamTo` on frames that are cut short, and on complete `$n` / `;n` frames
under an arbitrary (possibly failing) writer — the pieces behind
`Rv.C29.strict_prefix_not_clean`, `writer_failure_not_clean_or_drained` and
`writer_failure_consumes_exact_frame`.
-/
import Rv.Lemmas.StreamBasics
import Rv.Lemmas.StreamInv
import Rv.Lemmas.StreamTrunc
namespace Rv.StreamL
open Rv Rv.Resp Rv.Spec Rv.RespL Rv.StreamTo

theorem copyN_shape (wr : Wr) (n : Nat) (p : List UInt8) (hn : 0 < n) :
    ∃ (wn : Nat) (f : Bool) (w' : Wr) (R : Nat),
      copyN wr (n : Int) p = ⟨wn, f, w', p.drop R, (n : Int) - (R : Int)⟩ ∧ R ≤ n ∧ R ≤ p.length ∧
      (f = false → R = min n p.length ∧ wn = R) := by
  unfold copyN
  have h1 : ¬ ((n : Int) ≤ 0) := by omega
  simp only [h1, if_false, Int.toNat_natCast]
  cases wr.budget with
  | none => exact ⟨_, _, _, min n p.length, rfl, by omega, by omega, fun _ => ⟨rfl, rfl⟩⟩
  | some k =>
    simp only
    split
    · exact ⟨_, _, _, min n p.length, rfl, by omega, by omega, fun _ => ⟨rfl, rfl⟩⟩
    · exact ⟨_, _, _, min (min n p.length) (k + wr.over), rfl, by omega, by omega, fun h => by cases h⟩

theorem copyErr_ne (fl : Bool) : (if fl = true then Err.writer else Err.rd "io") ≠ .none := by
  cases fl <;> simp

/-- the repaired Discard after a copy that took `R ≤ n` bytes of an `n`-byte payload of which `av` was
    available: `lr.N + 2` wraps negative only for `n - R + 2 ≥ 2^63` (bufio.ErrNegativeCount) -/
theorem finishBlob_after (n : Nat) (hn : n < 9223372036854775808) (wn : Nat) (fl : Bool) (w' : Wr)
    (av : List UInt8) (R : Nat) (hR : R ≤ n) (hRa : R ≤ av.length) :
    finishBlob (fullAfter ⟨wn, fl, w', av.drop R, (n : Int) - (R : Int)⟩) ⟨wn, fl, w', av.drop R, (n : Int) - (R : Int)⟩ =
      if 9223372036854775808 ≤ n - R + 2 then ⟨wn, if fl then .writer else .rd "io", false, av.drop R, w'⟩
      else if n + 2 ≤ av.length then ⟨wn, if fl then .writer else .none, true, av.drop (n + 2), w'⟩
      else ⟨wn, if fl then .writer else .rd "io", false, [], w'⟩ := by
  unfold fullAfter
  by_cases hw : 9223372036854775808 ≤ n - R + 2
  · have hk : wrap64 ((n : Int) - (R : Int) + 2) < 0 := by unfold wrap64; omega
    rw [if_pos hw, finishBlob, if_pos hk]
  · have hk : wrap64 ((n : Int) - (R : Int) + 2) = ((n - R + 2 : Nat) : Int) := by unfold wrap64; omega
    rw [if_neg hw, hk, finishBlob, if_neg (by omega)]
    simp only [Int.toNat_natCast, List.length_drop]
    by_cases h : n + 2 ≤ av.length
    · rw [if_pos (by omega), if_pos h, List.drop_drop, show R + (n - R + 2) = n + 2 by omega]
    · rw [if_neg (by omega), if_neg h]

/-- the copy when the writer fails inside the available payload -/
theorem copyN_fail (k over : Nat) (out : List UInt8) (n : Nat) (av : List UInt8) (hk : k < min n av.length) :
    copyN ⟨some k, over, out⟩ (n : Int) av =
      ⟨k, true, ⟨some 0, over, out ++ av.take k⟩, av.drop (min (min n av.length) (k + over)),
        (n : Int) - ((min (min n av.length) (k + over) : Nat) : Int)⟩ := by
  unfold copyN
  have h1 : ¬ ((n : Int) ≤ 0) := by omega
  have h2 : ¬ (min n av.length ≤ k) := by omega
  simp only [h1, if_false, Int.toNat_natCast, h2]

/-- a clean return leaves the reader exactly at the end of the reply's frame -/
def Aligned (rest : List UInt8) (o : Out) : Prop := o.clean = false ∨ o.rest = rest

/-- outcome of one `$n` / `=n` / `;n` frame for an arbitrary writer: complete and clean, or an
    error with the connection either unclean or exactly drained -/
def FrameOut (rest : List UInt8) (len : Nat) (o : Out) : Prop :=
  (o.err = .none ∧ o.clean = true ∧ o.rest = rest ∧ o.n = len) ∨ (o.err ≠ .none ∧ Aligned rest o)

/-- not clean, and with an error -/
def Unclean (o : Out) : Prop := o.clean = false ∧ o.err ≠ .none

theorem streamTo_zero_unclean (B : Nat) (wr : Wr) (bs : List UInt8) : Unclean (streamTo B 0 wr bs) := by
  rw [streamTo]; exact ⟨rfl, by simp⟩

theorem streamTo_nil_unclean (B f : Nat) (wr : Wr) : Unclean (streamTo B f wr []) := by
  cases f with
  | zero => exact streamTo_zero_unclean B wr []
  | succ f => rw [streamTo]; exact ⟨rfl, by simp⟩

theorem streamTo_hdr_cut (B f : Nat) (t : UInt8) (ht : isBlobLike t = true) (x tl : List UInt8) (hx : ∀ c ∈ x, c ≠ 10)
    (k : Nat) (hk : k < x.length + 3) (wr : Wr) : Unclean (streamTo B f wr ((t :: (x ++ crlf ++ tl)).take k)) := by
  cases k with
  | zero => exact streamTo_nil_unclean B f wr
  | succ k =>
    cases f with
    | zero => exact streamTo_zero_unclean B wr _
    | succ f =>
      rw [List.take_succ_cons, streamTo, ht, if_pos rfl, readI_cut B x tl hx k (by omega)]
      exact ⟨rfl, by simp⟩

/-- the chunk loop stops unclean as soon as an inner call returns an error (a376be4) -/
theorem chunkLoop_of_err {B f : Nat} {wr : Wr} {bs : List UInt8} (acc : Nat) (h : (streamTo B f wr bs).err ≠ .none) :
    Unclean (chunkLoop B (f + 1) acc wr bs) := by
  rw [chunkLoop]
  generalize streamTo B f wr bs = o at h ⊢
  rw [if_neg (fun c => h c.2.2)]
  exact ⟨by simp [h], h⟩

section
variable (B : Nat) (hb : 32 ≤ B)
include hb

theorem streamTo_blob_avail (f : Nat) (t : UInt8) (ht : isBlobLike t = true) (n : Nat) (hn : n < 9223372036854775808)
    (h0 : n = 0 → t ≠ 59) (p : List UInt8) (wr : Wr) :
    if n + 2 ≤ p.length then FrameOut (p.drop (n + 2)) n (streamTo B (f + 1) wr (t :: (digits n ++ crlf ++ p)))
    else Unclean (streamTo B (f + 1) wr (t :: (digits n ++ crlf ++ p))) := by
  rw [streamTo_blobHdr B hb f t ht n hn]
  unfold blobCase
  rw [if_neg (by omega : ¬ ((n : Int) = -1))]
  by_cases hz : n = 0
  · subst hz
    have e : finishBlob 2 ⟨0, false, wr, p, 0⟩ =
        if 2 ≤ p.length then ⟨0, .none, true, p.drop 2, wr⟩ else ⟨0, .rd "io", false, [], wr⟩ := by
      simp [finishBlob]
    rw [if_neg (by simp : ¬ (((0 : Nat) : Int) ≠ 0)), if_neg (h0 rfl), e]
    by_cases h : 2 ≤ p.length
    · rw [if_pos h, if_pos h]; exact .inl ⟨rfl, rfl, rfl, rfl⟩
    · rw [if_neg h, if_neg h]; exact ⟨rfl, nofun⟩
  · obtain ⟨wn, fl, w', R, hc, hR, hRp, hok⟩ := copyN_shape wr n p (by omega)
    rw [if_pos (by omega : (n : Int) ≠ 0), hc, finishBlob_after n hn wn fl w' p R hR hRp]
    by_cases hw : 9223372036854775808 ≤ n - R + 2
    · rw [if_pos hw]
      split
      · exact .inr ⟨copyErr_ne fl, .inl rfl⟩
      · exact ⟨rfl, copyErr_ne fl⟩
    · rw [if_neg hw]
      by_cases h : n + 2 ≤ p.length
      · rw [if_pos h, if_pos h]
        cases fl with
        | false => exact .inl ⟨rfl, rfl, rfl, by have := hok rfl; simp only; omega⟩
        | true => exact .inr ⟨by simp, .inr rfl⟩
      · rw [if_neg h, if_neg h]; exact ⟨rfl, copyErr_ne fl⟩

/-- one well-formed blob / chunk frame under an arbitrary writer -/
theorem streamTo_blob_any (f : Nat) (t : UInt8) (ht : isBlobLike t = true)
    (s rest : List UInt8) (hs : s.length < 9223372036854775808) (hne : t = 59 → s ≠ []) (wr : Wr) :
    FrameOut rest s.length (streamTo B (f + 1) wr (t :: (digits s.length ++ crlf ++ (s ++ crlf ++ rest)))) := by
  have := streamTo_blob_avail B hb f t ht s.length hs (fun h0 e => hne e (List.length_eq_zero_iff.mp h0))
    (s ++ crlf ++ rest) wr
  rwa [if_pos (by simp [crlf]), show (s ++ crlf ++ rest).drop (s.length + 2) = rest by simp [crlf]] at this

/-- the payload or its trailing CRLF is cut short -/
theorem streamTo_payload_cut (f : Nat) (t : UInt8) (ht : isBlobLike t = true)
    (n : Nat) (hn : n < 9223372036854775808) (h0 : n = 0 → t ≠ 59) (p : List UInt8) (hp : p.length < n + 2) (wr : Wr) :
    Unclean (streamTo B f wr (t :: (digits n ++ crlf ++ p))) := by
  cases f with
  | zero => exact streamTo_zero_unclean B wr _
  | succ f =>
    have := streamTo_blob_avail B hb f t ht n hn h0 p wr
    rwa [if_neg (by omega)] at this

theorem chunkLoop_step (c : List UInt8) (hne : c ≠ []) (hlt : c.length < 9223372036854775808) (f acc : Nat) (wr : Wr)
    (tl : List UInt8) :
    (∃ w', chunkLoop B (f + 1 + 1) acc wr (59 :: (digits c.length ++ crlf ++ (c ++ crlf ++ tl))) =
      chunkLoop B (f + 1) (acc + c.length) w' tl) ∨
    Unclean (chunkLoop B (f + 1 + 1) acc wr (59 :: (digits c.length ++ crlf ++ (c ++ crlf ++ tl)))) := by
  rcases streamTo_blob_any B hb f 59 rfl c tl hlt (fun _ => hne) wr with ⟨he, hc, hr, hn⟩ | ⟨he, _⟩
  · left
    rw [chunkLoop]
    generalize streamTo B (f + 1) wr _ = o at he hc hr hn ⊢
    have hl : 0 < c.length := List.length_pos_iff.mpr hne
    rw [if_pos ⟨by omega, hc, he⟩, hr, hn]
    exact ⟨_, rfl⟩
  · exact .inr (chunkLoop_of_err acc he)

/-- the chunk loop under an arbitrary writer: a clean return stands behind the `;0` marker -/
theorem chunkLoop_any (cs : List (List UInt8)) (hcs : ∀ c ∈ cs, c ≠ [] ∧ c.length < 9223372036854775808) :
    ∀ (f : Nat), cs.length + 2 ≤ f → ∀ (acc : Nat) (wr : Wr) (rest : List UInt8),
    Aligned rest (chunkLoop B f acc wr ((cs.map chunkBytes).flatten ++ (59 :: 48 :: 13 :: 10 :: rest))) := by
  induction cs with
  | nil =>
    intro f hf acc wr rest
    obtain ⟨f1, rfl⟩ : ∃ k, f = k + 1 + 1 := ⟨f - 2, by simp at hf; omega⟩
    rw [chunkLoop]
    simp only [List.map_nil, List.flatten_nil, List.nil_append, streamTo_chunk_end B hb]
    right; simp
  | cons c cs ih =>
    intro f hf acc wr rest
    obtain ⟨f1, rfl⟩ : ∃ k, f = k + 1 + 1 := ⟨f - 2, by simp at hf; omega⟩
    have ⟨hne, hlt⟩ := hcs c (by simp)
    rw [chunks_cons]
    rcases chunkLoop_step B hb c hne hlt f1 acc wr _ with ⟨w', e⟩ | hu
    · rw [e]
      exact ih (fun x hx => hcs x (by simp [hx])) (f1 + 1) (by simp at hf; omega) _ _ rest
    · exact .inl hu.1

/-- every strict prefix of a `$n` / `=n` / `;n` frame: header line cut, payload cut, CRLF cut -/
theorem streamTo_frame_cut (t : UInt8) (ht : isBlobLike t = true) (s : List UInt8)
    (hs : s.length < 9223372036854775808) (hne : t = 59 → s ≠ [])
    (k : Nat) (hk : k < (t :: (digits s.length ++ crlf ++ (s ++ crlf))).length) (f : Nat) (wr : Wr) :
    Unclean (streamTo B f wr ((t :: (digits s.length ++ crlf ++ (s ++ crlf))).take k)) := by
  rcases take_frame_cases t (digits s.length) (s ++ crlf) k hk with h | ⟨j, hj, he⟩
  · exact streamTo_hdr_cut B f t ht _ _ (digits_noLF _) k h wr
  · rw [he]
    exact streamTo_payload_cut B hb f t ht s.length hs (fun h0 e => hne e (List.length_eq_zero_iff.mp h0)) _ (by
      simp only [List.length_take, List.length_append, crlf, List.length_cons, List.length_nil] at hj ⊢; omega) wr

/-- the chunk loop on a strict prefix of `chunks ;0`: unclean, whatever the writer does -/
theorem chunkLoop_cut (cs : List (List UInt8)) (hcs : ∀ c ∈ cs, c ≠ [] ∧ c.length < 9223372036854775808) :
    ∀ j, j < ((cs.map chunkBytes).flatten ++ [59, 48, 13, 10]).length → ∀ f acc wr,
      Unclean (chunkLoop B f acc wr (((cs.map chunkBytes).flatten ++ [59, 48, 13, 10]).take j)) := by
  induction cs with
  | nil =>
    intro j hj f acc wr
    cases f with
    | zero => rw [chunkLoop]; exact ⟨rfl, by simp⟩
    | succ f => exact chunkLoop_of_err acc (streamTo_hdr_cut B f 59 rfl [48] [] (by decide) j hj wr).2
  | cons c cs ih =>
    intro j hj f acc wr
    have ⟨hne, hlt⟩ := hcs c (by simp)
    cases f with
    | zero => rw [chunkLoop]; exact ⟨rfl, by simp⟩
    | succ f =>
      rw [List.map_cons, List.flatten_cons, List.append_assoc] at hj ⊢
      rcases take_append_cases (chunkBytes c) _ j hj with ⟨hjc, he⟩ | ⟨j', hj', he⟩
      · have hcb : chunkBytes c = 59 :: (digits c.length ++ crlf ++ (c ++ crlf)) := by simp [chunkBytes]
        rw [he, hcb]
        rw [hcb] at hjc
        exact chunkLoop_of_err acc (streamTo_frame_cut B hb 59 rfl c hlt (fun _ => hne) j hjc f wr).2
      · rw [he, chunkBytes_append]
        cases f with
        | zero => exact chunkLoop_of_err acc (streamTo_zero_unclean B wr _).2
        | succ f1 =>
          rcases chunkLoop_step B hb c hne hlt f1 acc wr _ with ⟨w', e⟩ | hu
          · rw [e]
            exact ih (fun x hx => hcs x (by simp [hx])) j' hj' (f1 + 1) _ _
          · exact hu

end

end Rv.StreamL
