/-
Interpreter for the regenerated builder records (Rv/Gen/Builders*.lean): given a root
command and a path = sequence of method calls with argument values, compute what the
generated Go code computes: the argv (`c.cs.s`), the key-slot word `ks` and the flag word
`cf`. The interpreter never looks at the concrete tables, so everything proved about it
holds for every table. Core Lean only.

Go facts transcribed here (internal/cmds/gen_*.go, printed by hack/cmds/gen.go):
* root:   `c = X{cs: get(), ks: b.ks, cf: int16(<flag>)}; c.cs.s = append(c.cs.s, tokens…)`
* method: key-slot `if` statements (in parameter order), then optionally
          `c.cf |= int16(blockTag)`, then appends (literals / formatted parameters /
          spread / for-range), then `return (Next)(c)`; a `check` panic aborts the call
* final:  `c.cs.Build(); return Completed{cs: c.cs, cf: uint16(c.cf), ks: c.ks}`
-/
import Rv.Model.BuilderRec
import Rv.Model.Slot
namespace Rv.Bld

abbrev Bytes := List UInt8

def bytes (s : String) : Bytes := s.toUTF8.toList

/-! ### argument values -/

/-- a Go argument value. Numbers are mathematical integers; the harness only sends values
    inside the Go type's range. Floats travel as IEEE-754 binary64 bits
    (a `float32` parameter as the bits of `float64(x)`, which is exact). -/
inductive Val
  | str (s : Bytes)
  | strs (l : List Bytes)
  | int (v : Int)
  | uint (v : Nat)
  | flt (bits : Nat)
  | ints (l : List Int)
  | uints (l : List Nat)
  | flts (l : List Nat)
  | dur (ns : Int)
  | time (sec : Int) (nsec : Nat)
  deriving Repr, Inhabited, DecidableEq

def Val.hasKind : Val → PKind → Bool
  | .str _, .str => true
  | .strs _, .strs => true
  | .strs _, .strSlice => true
  | .int _, .i64 => true
  | .uint _, .u64 => true
  | .flt _, .f64 => true
  | .flt _, .f32 => true
  | .ints _, .i64s => true
  | .uints _, .u64s => true
  | .flts _, .f64s => true
  | .flts _, .f32s => true
  | .dur _, .dur => true
  | .time _ _, .time => true
  | _, _ => false

def argsOk : List PKind → List Val → Bool
  | [], [] => true
  | k :: ks, v :: vs => v.hasKind k && argsOk ks vs
  | _, _ => false

/-! ### number formatting (strconv.FormatInt/FormatUint base 10) -/

/-- decimal digits of a natural number, most significant first, no leading zeros ("0" for 0) -/
def fmtNat (n : Nat) : Bytes :=
  if h : n < 10 then [UInt8.ofNat (48 + n)] else fmtNat (n / 10) ++ [UInt8.ofNat (48 + n % 10)]
termination_by n
decreasing_by omega

/-- `strconv.FormatInt(v, 10)`: a minus sign for negative numbers, then the digits of |v| -/
def fmtInt (v : Int) : Bytes :=
  if v < 0 then 45 :: fmtNat v.natAbs else fmtNat v.natAbs

/-- two's-complement wrap to int64 (Go integer arithmetic wraps) -/
def wrap64 (v : Int) : Int := (v + 2^63) % 2^64 - 2^63

/-- `int64(d / time.Second)`: Go integer division truncates toward zero -/
def durSeconds (ns : Int) : Int := Int.tdiv ns 1000000000
def durMillis (ns : Int) : Int := Int.tdiv ns 1000000

/-- `time.Unix(sec, nsec).Unix()` for `0 ≤ nsec < 1e9` -/
def unixSeconds (sec : Int) (_nsec : Nat) : Int := sec
/-- `time.Unix(sec, nsec).UnixMilli()` = `sec*1e3 + nsec/1e6` in wrapping int64 arithmetic -/
def unixMillis (sec : Int) (nsec : Nat) : Int := wrap64 (sec * 1000 + Int.ofNat (nsec / 1000000))

/-! ### floats: strconv.FormatFloat(x, 'f', -1, 64)

TRUSTED (not proved): for a finite binary64 `x = m·2^e` whose exact decimal expansion has
at most 15 significant digits, the shortest decimal that round-trips is that exact
expansion (any shorter decimal differs by ≥ 10⁻¹⁵ relative, more than half an ulp), so
`'f', -1` prints the exact expansion without trailing zeros. Outside that class the model
gives no answer (`none`); the harness only sends floats inside the class. -/

def pad0 (k : Nat) (ds : Bytes) : Bytes := List.replicate (k - ds.length) 48 ++ ds

def stripZeros (ds : Bytes) : Bytes := (ds.reverse.dropWhile (· == 48)).reverse

/-- exact expansion of `m / 2^k` (k fractional binary digits give exactly k decimal digits) -/
def fmtDyadic (m k : Nat) : Bytes :=
  let ip := m / 2^k
  let fp := stripZeros (pad0 k (fmtNat ((m % 2^k) * 5^k)))
  if fp.isEmpty || k = 0 then fmtNat ip else fmtNat ip ++ 46 :: fp

def sigDigits (ds : Bytes) : Nat :=
  ((ds.filter (· != 46)).dropWhile (· == 48)).length

def fmtFloatBits (bits : Nat) : Option Bytes :=
  let sign := bits / 2^63 % 2
  let ex := bits / 2^52 % 2048
  let frac := bits % 2^52
  if ex = 2047 then
    if frac ≠ 0 then some (bytes "NaN") else some (bytes (if sign = 1 then "-Inf" else "+Inf"))
  else
    -- value = m · 2^(e-1075) with the implicit bit for normal numbers
    let m := if ex = 0 then frac else frac + 2^52
    let e := if ex = 0 then 1 else ex
    -- drop common factors of two so that the expansion is short
    let tz := if m = 0 then 0 else (List.range 53).foldl (fun acc i => if m % 2^(i+1) = 0 then i + 1 else acc) 0
    let m' := m / 2^tz
    let e' : Nat := e + tz   -- exponent + 1075
    let body := if m = 0 then bytes "0"
      else if e' ≥ 1075 then fmtNat (m' * 2^(e' - 1075)) else fmtDyadic m' (1075 - e')
    if sigDigits body ≤ 15 ∧ body.length ≤ 40 then
      some (if sign = 1 then 45 :: body else body)
    else none

/-! ### items -/

def fmtVal : Fmt → Val → Option Bytes
  | .str, .str s => some s
  | .int, .int v => some (fmtInt v)
  | .uint, .uint v => some (fmtNat v)
  | .f64, .flt b => fmtFloatBits b
  | .f32, .flt b => fmtFloatBits b
  | .durSec, .dur ns => some (fmtInt (durSeconds ns))
  | .durMs, .dur ns => some (fmtInt (durMillis ns))
  | .unixSec, .time s n => some (fmtInt (unixSeconds s n))
  | .unixMs, .time s n => some (fmtInt (unixMillis s n))
  | _, _ => none

def sequence {α : Type} : List (Option α) → Option (List α)
  | [] => some []
  | none :: _ => none
  | some a :: rest => match sequence rest with
    | some l => some (a :: l)
    | none => none

/-- what one append item contributes to argv (in order) -/
def itemOut (args : List Val) : Item → Option (List Bytes)
  | .lit s => some [bytes s]
  | .par i f => match args[i]? with
    | some v => (fmtVal f v).map ([·])
    | none => none
  | .spread i => match args[i]? with
    | some (.strs l) => some l
    | _ => none
  | .loop i f => match args[i]? with
    | some (.ints l) => sequence (l.map fun v => fmtVal f (.int v))
    | some (.uints l) => sequence (l.map fun v => fmtVal f (.uint v))
    | some (.flts l) => sequence (l.map fun v => fmtVal f (.flt v))
    | _ => none

/-- everything one method call appends, in statement order -/
def callOut (m : Method) (args : List Val) : Option (List Bytes) :=
  (sequence (m.items.map (itemOut args))).map List.flatten

/-! ### key-slot updates -/

/-- single key parameter: exactly `Rv.Slot.keyStep` -/
def keyOne (ks : Nat) (k : Bytes) : Option Nat := Slot.keyStep ks k

def checkFold (ks : Nat) : List Bytes → Option Nat
  | [] => some ks
  | k :: rest => match Slot.check ks (Slot.slot k) with
    | none => none
    | some ks' => checkFold ks' rest

/-- variadic key parameter:
    `if ks&NoSlot == NoSlot { for _, k := range keys { ks = NoSlot | slot(k); break } }
     else { for _, k := range keys { ks = check(ks, slot(k)) } }` -/
def keyMany (ks : Nat) (keys : List Bytes) : Option Nat :=
  if ks / Slot.noSlot % 2 = 1 then
    match keys with
    | [] => some ks
    | k :: _ => some (Slot.noSlot + Slot.slot k)
  else checkFold ks keys

inductive Err
  | panic                 -- the Go code panics (cross-slot keys)
  | stuck (why : String)  -- the path is not a path of the tables / ill-typed arguments
  deriving Repr, DecidableEq

def keyUpd (args : List Val) (ks : Nat) : KeyUpd → Except Err Nat
  | .one i => match args[i]? with
    | some (.str k) => match keyOne ks k with
      | some v => .ok v
      | none => .error .panic
    | _ => .error (.stuck "key-arg")
  | .many i => match args[i]? with
    | some (.strs l) => match keyMany ks l with
      | some v => .ok v
      | none => .error .panic
    | _ => .error (.stuck "key-arg")

def keyUpds (args : List Val) : Nat → List KeyUpd → Except Err Nat
  | ks, [] => .ok ks
  | ks, u :: rest => match keyUpd args ks u with
    | .ok ks' => keyUpds args ks' rest
    | .error e => .error e

/-! ### paths -/

structure St where
  ty : String
  argv : List Bytes
  ks : Nat
  cf : Nat
  deriving Repr, DecidableEq

structure Call where
  name : String
  args : List Val
  deriving Repr

def findMethod (ms : List Method) (ty name : String) : Option Method :=
  ms.find? fun m => m.recv == ty && m.name == name

/-- root constructor on a builder whose `ks` is `ks0` (InitSlot or NoSlot) -/
def start (c : Cmd) (ks0 : Nat) : St :=
  { ty := c.ty, argv := c.tokens.map bytes, ks := ks0, cf := c.cf }

/-- effect of one method record on the state -/
def apply (blockTag : Nat) (m : Method) (s : St) (args : List Val) : Except Err St :=
  if !argsOk m.params args then .error (.stuck "bad-args") else
  match keyUpds args s.ks m.keys with
  | .error e => .error e
  | .ok ks =>
    match callOut m args with
    | none => .error (.stuck "bad-item")
    | some out =>
      .ok { ty := m.result, argv := s.argv ++ out, ks := ks,
            cf := if m.block then s.cf ||| blockTag else s.cf }

def step (blockTag : Nat) (ms : List Method) (s : St) (call : Call) : Except Err St :=
  match findMethod ms s.ty call.name with
  | none => .error (.stuck "no-method")
  | some m => apply blockTag m s call.args

def run (blockTag : Nat) (ms : List Method) : St → List Call → Except Err St
  | s, [] => .ok s
  | s, call :: rest => match step blockTag ms s call with
    | .ok s' => run blockTag ms s' rest
    | .error e => .error e

/-- `Build()` / `Cache()`: only offered by the listed types; copies argv, ks, cf unchanged
    (`uint16(c.cf)` keeps the bit pattern) -/
def finish (c : Cmd) (s : St) (cache : Bool) : Except Err St :=
  if (if cache then c.caches else c.builds).contains s.ty then .ok s else .error (.stuck "no-final")

/-- a complete builder expression `b.Root().M1(a…).….Build()` -/
def build (blockTag : Nat) (c : Cmd) (ks0 : Nat) (path : List Call) (cache : Bool) : Except Err St :=
  match run blockTag c.methods (start c ks0) path with
  | .ok s => finish c s cache
  | .error e => .error e

/-- flag predicate `c.cf&mask == mask` -/
def hasFlag (cf mask : Nat) : Bool := cf &&& mask == mask

end Rv.Bld
