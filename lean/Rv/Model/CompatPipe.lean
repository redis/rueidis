/-
Model of rueidiscompat's Pipeline / TxPipeline (pipeline.go, tx.go), core Lean only.

State: the capture proxy's command list `cmds` and the pipeline's result list `rets`
(two *separate* Go slices; nothing in the code ties their lengths together — that is the
invariant `Aligned`, preserved by every method that satisfies its obligation `Call.ok`).

Transcribed functions (their source text is regenerated as Rv.Gen.Compat.pinned; its SHA-256
numbers are compared with `seenHashes` in Rv.C41.model_pinned_to_source): proxy.Do, newPipeline, Pipeline.Len/Do/Discard/Exec,
newTxPipeline, TxPipeline.Exec.
-/
import Rv.Gen.CompatTable
namespace Rv.CompatPipe

abbrev Bytes := List UInt8

/-- a queued command: a user command (identified by a label) or the transaction brackets -/
inductive Cmd
  | user (label : Nat)
  | multi
  | exec
  deriving DecidableEq, Repr

/-- errors a Cmder can carry -/
inductive Err
  | notExecuted            -- errPipelineNotExecuted (set by the capture proxy)
  | redis (m : Bytes)      -- redis error reply
  | nilReply               -- redis nil
  | net (m : Bytes)        -- non-redis error (connection, context, ...)
  | txFailed               -- TxFailedErr
  | notArray               -- EXEC answered with a non-array message (parse error of ToArray)
  deriving DecidableEq, Repr

/-- a non-array RESP message; `val t` is a value tagged `t` -/
inductive Msg
  | val (tag : Nat)
  | err (m : Bytes)
  | nil
  deriving DecidableEq, Repr

/-- rueidis.RedisResult of one command -/
inductive Res
  | msg (m : Msg)
  | net (e : Bytes)
  deriving DecidableEq, Repr

/-- rueidis.RedisResult of EXEC -/
inductive ExecRes
  | arr (xs : List Msg)
  | msg (m : Msg)
  | net (e : Bytes)
  deriving DecidableEq, Repr

/-- value/error of a Cmder (baseCmd.val / baseCmd.err) -/
structure CmdSt where
  val : Option Nat
  err : Option Err
  deriving DecidableEq, Repr

/-- a Cmder handed to the caller when the command was queued; `id` = label of the call -/
structure Cmder where
  id : Nat
  st : CmdSt
  deriving DecidableEq, Repr

/-- `cmd.from(res)` after `cmd.SetErr(nil)`: the reply or its error, nothing else -/
def fromRes : Res → CmdSt
  | .msg (.val t) => ⟨some t, none⟩
  | .msg (.err m) => ⟨none, some (.redis m)⟩
  | .msg .nil => ⟨none, some .nilReply⟩
  | .net e => ⟨none, some (.net e)⟩

/-- what the proxy hands back at queue time: `newXCmd(NewErrorResult(errPipelineNotExecuted))` -/
def notExec : CmdSt := ⟨none, some .notExecuted⟩

/-- `ret := &Cmd{}` of Pipeline.Do: no value and — unlike the wrappers — no error either -/
def blank : CmdSt := ⟨none, none⟩

structure Pipe where
  cmds : List Cmd     -- proxy.cmds
  rets : List Cmder   -- Pipeline.rets
  deriving DecidableEq, Repr

def Pipe.empty : Pipe := ⟨[], []⟩

/-- the invariant nothing in the Go code states -/
def Aligned (p : Pipe) : Prop := p.cmds.length = p.rets.length

instance (p : Pipe) : Decidable (Aligned p) := by unfold Aligned; infer_instance

/-- `Pipeline.Len` -/
def Pipe.len (p : Pipe) : Nat := p.cmds.length

/-- What one method call does, by the shape of the wrapper (regenerated table) and the number
    `d` of commands its Compat method sent through the capture proxy. -/
inductive Call
  | wrap1 (d : Nat)   -- ret := c.comp.M(..); c.rets = append(c.rets, ret); return ret
  | wrapq (d : Nat)   -- n := c.Len(); ret := c.comp.M(..); if c.Len() != n { append }; return ret
  | doArgs (n : Nat)  -- Pipeline.Do with n arguments
  | rejects           -- panics before anything is queued or appended
  deriving DecidableEq, Repr

def Pipe.call (p : Pipe) (label : Nat) : Call → Pipe
  | .wrap1 d => ⟨p.cmds ++ List.replicate d (.user label), p.rets ++ [⟨label, notExec⟩]⟩
  | .wrapq d => ⟨p.cmds ++ List.replicate d (.user label), if d ≠ 0 then p.rets ++ [⟨label, notExec⟩] else p.rets⟩
  | .doArgs 0 => p   -- error Cmd returned to the caller, nothing recorded
  | .doArgs (_ + 1) => ⟨p.cmds ++ [.user label], p.rets ++ [⟨label, blank⟩]⟩
  | .rejects => p

/-- the per-method obligation: "queues exactly one command and appends exactly one result"
    (or neither) -/
def Call.ok : Call → Prop
  | .wrap1 d => d = 1
  | .wrapq d => d ≤ 1
  | .doArgs _ => True
  | .rejects => True

instance (c : Call) : Decidable c.ok := by cases c <;> unfold Call.ok <;> infer_instance

/-- `Pipeline.Discard` -/
def Pipe.discard (_ : Pipe) : Pipe := Pipe.empty

/-- first error in result order: `if err == nil { err = rets[i].Err() }` -/
def orElse (e : Option Err) (c : CmdSt) : Option Err :=
  match e with
  | some x => some x
  | none => c.err

/-- the loop `for i, r := range results { rets[i].SetErr(nil); rets[i].from(r); ... }`:
    walks results and rets by index; `none` = index out of range (more results than rets);
    rets beyond the results are left untouched. -/
def fill : List Cmder → List Res → Option Err → Option (List Cmder × Option Err)
  | rets, [], e => some (rets, e)
  | [], _ :: _, _ => none
  | c :: rets, r :: rs, e =>
    let st := fromRes r
    match fill rets rs (orElse e st) with
    | some (t, e') => some (⟨c.id, st⟩ :: t, e')
    | none => none

structure Out where
  sent : Option (List Cmd)                      -- the batch handed to DoMulti (none: nothing sent)
  result : Option (List Cmder × Option Err)     -- (rets, err) returned; none = the Go code panics
  deriving DecidableEq, Repr

/-- `Pipeline.Exec`; `reply` = what the real client's DoMulti returns for the batch -/
def Pipe.exec (p : Pipe) (reply : List Res) : Pipe × Out :=
  if p.cmds.isEmpty then (p, ⟨none, some ([], none)⟩)   -- return nil, nil (state untouched)
  else (Pipe.empty, ⟨some p.cmds, fill p.rets reply none⟩)

/-! ### TxPipeline.Exec -/

/-- swap positions k and k+1 -/
def swapAt : Nat → List α → List α
  | 0, a :: b :: t => b :: a :: t
  | k + 1, a :: t => a :: swapAt k t
  | _, l => l

/-- `for i := len(cmds)-2; i >= 1; i-- { j := i-1; cmds[j], cmds[i] = cmds[i], cmds[j] }`
    run for the `k` iterations i = k, k-1, …, 1 -/
def bubble : Nat → List α → List α
  | 0, l => l
  | k + 1, l => bubble k (swapAt k l)

/-- the batch TxPipeline.Exec builds: append MULTI and EXEC at the end, then bubble MULTI forward -/
def txBatch (cmds : List Cmd) : List Cmd :=
  let l := cmds ++ [.multi, .exec]
  bubble (l.length - 2) l

/-- `resp[len(resp)-1].ToArray()` followed by `if IsRedisNil(err) { err = TxFailedErr }` -/
def toArray : ExecRes → List Msg × Option Err
  | .arr xs => (xs, none)
  | .msg (.val _) => ([], some .notArray)
  | .msg (.err m) => ([], some (.redis m))
  | .msg .nil => ([], some .txFailed)
  | .net e => ([], some (.net e))

/-- `resp[i].NonRedisError()` -/
def nonRedis : Res → Option Bytes
  | .net e => some e
  | .msg _ => none

/-- the loop over the EXEC array: element i goes to rets[i], combined with the non-redis error
    of resp[i+1] (`nr` = NonRedisError of resp[1..]); `none` = index out of range -/
def fillTx : List Cmder → List Msg → List (Option Bytes) → Option Err → Option (List Cmder × Option Err)
  | rets, [], _, e => some (rets, e)
  | [], _ :: _, _, _ => none
  | _ :: _, _ :: _, [], _ => none
  | c :: rets, m :: ms, q :: qs, e =>
    let st := match q with
      | some x => fromRes (.net x)
      | none => fromRes (.msg m)
    match fillTx rets ms qs (orElse e st) with
    | some (t, e') => some (⟨c.id, st⟩ :: t, e')
    | none => none

/-- `TxPipeline.Exec`; `qreply` = results for MULTI and the queued commands (batch positions
    0..n), `ex` = result of EXEC (last position) -/
def Pipe.txExec (p : Pipe) (qreply : List Res) (ex : ExecRes) : Pipe × Out :=
  if p.cmds.isEmpty then (p, ⟨none, some ([], none)⟩)
  else
    let (results, err) := toArray ex
    let exNr : Option Bytes := match ex with | .net e => some e | _ => none
    let nr := (qreply.drop 1).map nonRedis ++ [exNr]
    (Pipe.empty, ⟨some (txBatch p.cmds), fillTx p.rets results nr err⟩)

/-! ### Specification (used for `!` oracle lines; no cmds/rets bookkeeping, no index walking) -/
namespace Spec

/-- Pipeline.Exec as the property states it: the i-th queued command gets the i-th reply;
    the error is the first failed command's -/
def exec (labels : List Nat) (reply : List Res) : Option (List Cmd) × List Cmder × Option Err :=
  if labels.isEmpty then (none, [], none) else
  let rets := List.zipWith (fun l r => (⟨l, fromRes r⟩ : Cmder)) labels reply
  (some (labels.map .user), rets, rets.findSome? (·.st.err))

/-- TxPipeline.Exec as the property states it (EXEC answered with an array of one element per
    command, no connection errors on the way): MULTI, the commands, EXEC; element i to command i -/
def txExecArr (labels : List Nat) (xs : List Msg) : Option (List Cmd) × List Cmder × Option Err :=
  if labels.isEmpty then (none, [], none) else
  let rets := List.zipWith (fun l m => (⟨l, fromRes (.msg m)⟩ : Cmder)) labels xs
  (some (.multi :: labels.map .user ++ [.exec]), rets, rets.findSome? (·.st.err))

/-- WATCH aborted the transaction (EXEC answered nil): TxFailedErr, no command executed -/
def txExecNil (labels : List Nat) : Option (List Cmd) × List Cmder × Option Err :=
  if labels.isEmpty then (none, [], none) else
  (some (.multi :: labels.map .user ++ [.exec]), labels.map (fun l => ⟨l, notExec⟩), some .txFailed)

end Spec

/-! ### Source text the model was transcribed from -/

def seenSources : List (String × String) := [
  ("proxy.Do", "func (p *proxy) Do(_ context.Context, cmd rueidis.Completed) rueidis.RedisResult { p.cmds = append(p.cmds, cmd) return rueidis.NewErrorResult(errPipelineNotExecuted) }"),
  ("newPipeline", "func newPipeline(real rueidis.Client) *Pipeline { return &Pipeline{comp: Compat{client: &proxy{Client: real}, maxp: runtime.GOMAXPROCS(0), pOnly: true}} }"),
  ("Pipeline.Len", "func (c *Pipeline) Len() int { return len(c.comp.client.(*proxy).cmds) }"),
  ("Pipeline.Do", "func (c *Pipeline) Do(_ context.Context, args ...interface{}) *Cmd { ret := &Cmd{} if len(args) == 0 { ret.SetErr(errors.New(\"redis: please enter the command to be executed\")) return ret } p := c.comp.client.(*proxy) command := p.B().Arbitrary(str(args[0])) if len(args) > 1 { command = command.Keys(str(args[1])) for _, a := range args[2:] { command = command.Args(str(a)) } } p.cmds = append(p.cmds, command.Build()) c.rets = append(c.rets, ret) return ret }"),
  ("Pipeline.Discard", "func (c *Pipeline) Discard() { p := c.comp.client.(*proxy) p.cmds = nil c.rets = nil }"),
  ("Pipeline.Exec", "func (c *Pipeline) Exec(ctx context.Context) ([]Cmder, error) { p := c.comp.client.(*proxy) if len(p.cmds) == 0 { return nil, nil } rets := c.rets cmds := p.cmds c.rets = nil p.cmds = nil var err error for i, r := range p.DoMulti(ctx, cmds...) { rets[i].SetErr(nil) rets[i].from(r) if err == nil { err = rets[i].Err() } } return rets, err }"),
  ("newTxPipeline", "func newTxPipeline(real rueidis.Client) *TxPipeline { return &TxPipeline{rePipeline: newPipeline(real)} }"),
  ("TxPipeline.Exec", "func (c *TxPipeline) Exec(ctx context.Context) ([]Cmder, error) { p := c.comp.client.(*proxy) if len(p.cmds) == 0 { return nil, nil } rets := c.rets cmds := p.cmds c.rets = nil p.cmds = nil cmds = append(cmds, c.comp.client.B().Multi().Build(), c.comp.client.B().Exec().Build()) for i := len(cmds) - 2; i >= 1; i-- { j := i - 1 cmds[j], cmds[i] = cmds[i], cmds[j] } resp := p.DoMulti(ctx, cmds...) results, err := resp[len(resp)-1].ToArray() if rueidis.IsRedisNil(err) { err = TxFailedErr } for i, r := range results { rets[i].SetErr(nil) rets[i].from(rueidis.NewResult(r, resp[i+1].NonRedisError())) if err == nil { err = rets[i].Err() } } return rets, err }")
]

/-- SHA-256 (as numbers) of the texts in `seenSources`, in the order proxy.Do, newPipeline,
    Pipeline.Len, Pipeline.Do, Pipeline.Discard, Pipeline.Exec, newTxPipeline, TxPipeline.Exec —
    compared with the regenerated `Rv.Gen.Compat.pinnedHashes` (string comparison of the texts
    themselves is too slow in the kernel). When a hash changes, re-read the function, update the
    model and `seenSources`, then copy the new hash here. -/
def seenHashes : List Nat := [
  30045390534006729612036367292942680701299850111813527894581758804012841690019,
  27967544101510545112593245736909363522559741739803696686313774205225026885100,
  53680869563279704751605540919708885072939552097157488365471944514828970297826,
  15160408152442869585361427074018204548243069218330787356518192079630549871327,
  78574463072485055198136412987285580252586252381167161037932553574314189463007,
  22983511018248791222029085840389023004727470191392962806945915575341614295704,
  33803988977556622014490988235276166152827316107668423776889879770064525623696,
  16926454337612282658992426097743951047391427772548715707827328867077230497567
]

end Rv.CompatPipe
