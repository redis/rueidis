/-
Model of the reply-matching automaton of /repo/pipe.go `_backgroundRead`
(+ the classification done by `handlePush`): which written command receives
which incoming message. Commands and messages are abstracted to the attributes
the loop looks at. `queue` is the FIFO of written batches in queue order
(ring/flow-buffer order, see C02); the head batch is "current" once
`NextResultCh` has handed it to the reader (`started`). Core Lean only.
-/
namespace Rv.Reader

/-- what `_backgroundRead` looks at in a command -/
structure Cmd where
  id : Nat            -- identity of the command (caller, batch, position) – opaque
  noReply : Bool      -- cmds.NoReply(): SUBSCRIBE/UNSUBSCRIBE families
  isUnsub : Bool      -- cmds.IsUnsub()
  nargs : Nat         -- len(cmd.Commands())
  deriving Repr, DecidableEq

abbrev Batch := List Cmd

/-- classification of a push frame by `handlePush` -/
inductive PushK where
  | data        -- message / pmessage / smessage / invalidate / unknown / too short: (false, false)
  | sub         -- subscribe / psubscribe / ssubscribe confirmation: (true, false)
  | unsub       -- unsubscribe / punsubscribe / sunsubscribe notification: (true, true)
  deriving Repr, DecidableEq

/-- what `_backgroundRead` looks at in an incoming message -/
inductive In where
  | reply (mid : Nat) (isPong : Bool) (isQueued : Bool)   -- non-push; isPong = isUnsubReply(msg)
  | push (mid : Nat) (k : PushK)
  deriving Repr, DecidableEq

/-- observable effect of one loop iteration -/
inductive Out where
  | skipped                                  -- `continue` without touching a command
  | deliver (cmd : Nat) (mid : Option Nat) (done : Bool)   -- resps[ff] = msg (none = overridden to empty); done = batch completed (ch <- resp)
  | panic (why : String)                     -- panic(protocolbug) / panic(multiexecsub)
  deriving Repr, DecidableEq

structure St where
  queue : List Batch := []     -- written batches not yet completed, oldest first
  started : Bool := false      -- reader holds the head batch (NextResultCh returned it)
  ff : Nat := 0                -- fulfilled count within the head batch
  skip : Nat := 0
  skipUnsubReply : Bool := false
  deriving Repr

/-- the writer handed a batch to the wire (queue order) -/
def write (s : St) (b : Batch) : St := { s with queue := s.queue ++ [b] }

private def finish (s : St) (c : Cmd) (mid : Option Nat) (len : Nat) : St × Out :=
  if s.ff + 1 = len then
    ({ s with queue := s.queue.tail, started := false, ff := 0 }, .deliver c.id mid true)
  else ({ s with ff := s.ff + 1 }, .deliver c.id mid false)

/-- the rest of an iteration once the message passed the push filter;
    `rp`/`us` are handlePush's results (false,false for a non-push) -/
def match1 (s : St) (m : In) (rp us : Bool) : St × Out :=
  let isPong := match m with | .reply _ p _ => p | _ => false
  let isQueued := match m with | .reply _ _ q => q | _ => false
  let mid := match m with | .reply i _ _ => i | .push i _ => i
  -- `if ff == len(multi)`: fetch the next batch
  let needNext := !s.started
  match needNext, s.queue with
  | true, [] =>
    -- ch == nil
    if us then (s, .skipped)
    else if s.skipUnsubReply && isPong then ({ s with skipUnsubReply := false }, .skipped)
    else (s, .panic "protocolbug")
  | _, [] => (s, .panic "unreachable")
  | _, b :: _ =>
    let s := { s with started := true }
    match b[s.ff]? with
    | none => (s, .panic "unreachable")     -- batches are non-empty and ff < len is an invariant
    | some c =>
      if rp then
        if us then (s, .skipped)
        else if !c.noReply then (s, .panic "protocolbug")
        else finish { s with skip := c.nargs - 2 } c none b.length
      else if c.noReply && isQueued then (s, .panic "multiexecsub")
      else if c.isUnsub && !isPong then finish { s with skipUnsubReply := true } c (some mid) b.length
      else if s.skipUnsubReply then
        if !isPong then (s, .panic "protocolbug") else ({ s with skipUnsubReply := false }, .skipped)
      else finish s c (some mid) b.length

/-- one iteration of the `for` loop of `_backgroundRead` on message `m` -/
def step (s : St) (m : In) : St × Out :=
  match m with
  | .push _ .data => (s, .skipped)          -- !prply → continue
  | .push _ k =>
    if s.skip > 0 then ({ s with skip := s.skip - 1 }, .skipped)
    else match1 s m true (k == .unsub)
  | .reply .. => match1 s m false false

/-- events seen by the connection in order: a batch reaches the wire / a message arrives -/
inductive Ev where
  | w (b : Batch)
  | m (i : In)
  deriving Repr

def run : St → List Ev → List Out
  | _, [] => []
  | s, .w b :: es => run (write s b) es
  | s, .m i :: es => let (s', o) := step s i; o :: run s' es

end Rv.Reader
