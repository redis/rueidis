import Rv.Model.Invalidation
/-!
Model of Pub/Sub delivery (C26): pubsub.go `subs` (Subscribe / Publish / Confirm / Unsubscribe /
Close and the cancel func), pipe.go `handlePush` dispatch, `Receive`'s return value, and the
life cycle of the channel returned by `SetPubSubHooks`. Core Lean only.

Ghost state: a removed subscription stays in the table (inactive) and `buf` is the log of
everything ever sent into the subscription's buffered channel, so that "delivered exactly once,
in order" can be stated. `sb.ch <- msg` blocks while the buffer (16) is full; the model treats
that as back-pressure (delivery is delayed, never dropped).
-/
namespace Rv.Subs
open Rv.Push

structure Msg where
  pattern : String
  channel : String
  message : String
  deriving DecidableEq, Repr

/-- PubSubSubscription -/
structure Note where
  kind : String
  channel : String
  count : Int
  deriving DecidableEq, Repr

structure Sub where
  id : Nat
  chans : List String
  hasFn : Bool
  active : Bool := true      -- still in s.sub / s.chs
  buf : List Msg := []       -- everything sent into sb.ch, in order
  closes : Nat := 0          -- number of close(sb.ch)
  notes : List Note := []    -- calls of sb.fn
  deriving DecidableEq, Repr

structure Table where
  live : Bool := true        -- s.chs != nil
  cnt : Nat := 0
  subs : List Sub := []
  deriving DecidableEq, Repr

inductive Op
  | subscribe (chans : List String) (hasFn : Bool)
  | publish (channel : String) (m : Msg)
  | confirm (n : Note)
  | unsubscribe (n : Note)
  | cancel (id : Nat)
  | close
  deriving DecidableEq, Repr

/-- `remove(id)`: out of every channel map, channel closed -/
def Sub.remove (s : Sub) : Sub := { s with active := false, closes := s.closes + 1 }

def upd (t : Table) (f : Sub → Sub) : Table := { t with subs := t.subs.map f }

def step (t : Table) : Op → Table
  | .subscribe chans hasFn =>
    -- `id := atomic.AddUint64(&s.cnt, 1)`; the entry is only made while `s.chs != nil`
    let t' := { t with cnt := t.cnt + 1 }
    if t.live then { t' with subs := t.subs ++ [{ id := t.cnt + 1, chans := chans, hasFn := hasFn }] } else t'
  | .publish ch m =>
    if t.cnt != 0 then upd t fun s => if s.active && s.chans.contains ch then { s with buf := s.buf ++ [m] } else s else t
  | .confirm n =>
    if t.cnt != 0 then upd t fun s => if s.active && s.chans.contains n.channel && s.hasFn then { s with notes := s.notes ++ [n] } else s else t
  | .unsubscribe n =>
    if t.cnt != 0 then upd t fun s =>
      if s.active && s.chans.contains n.channel then
        (if s.hasFn then { s with notes := s.notes ++ [n] } else s).remove
      else s
    else t
  | .cancel id => if t.live then upd t fun s => if s.active && s.id == id then s.remove else s else t
  | .close => { upd t (fun s => if s.active then s.remove else s) with live := false }

def run (t : Table) (ops : List Op) : Table := ops.foldl step t

def Table.get (t : Table) (id : Nat) : Option Sub := t.subs.find? (·.id == id)

/-! ### handlePush -/

structure Pipe where
  n : Table := {}
  p : Table := {}
  s : Table := {}
  onMsg : Bool := false     -- pshks.hooks.OnMessage != nil
  onSub : Bool := false     -- pshks.hooks.OnSubscription != nil

inductive HookCall | msg (m : Msg) | note (n : Note)
  deriving DecidableEq, Repr

structure PushRes where
  pipe : Pipe
  hooks : List HookCall := []
  reply : Bool := false
  unsub : Bool := false

def setTable (pp : Pipe) (k : Nat) (t : Table) : Pipe :=
  if k == 0 then { pp with n := t } else if k == 1 then { pp with p := t } else { pp with s := t }
def getTable (pp : Pipe) (k : Nat) : Table := if k == 0 then pp.n else if k == 1 then pp.p else pp.s

/-- `handlePush(values)` for the Pub/Sub kinds; kinds handled elsewhere / ignored leave the pipe as it is
    (no hook call, `reply = unsub = false`) -/
def handlePush (pp : Pipe) (vs : List PV) : PushRes :=
  if vs.length < 2 then { pipe := pp } else
  let k := (vs.getD 0 .null).string
  let v (i : Nat) : PV := vs.getD i .null
  let deliver (tbl : Nat) (key : String) (m : Msg) : PushRes :=
    { pipe := setTable pp tbl (step (getTable pp tbl) (.publish key m)), hooks := if pp.onMsg then [.msg m] else [] }
  let note (tbl : Nat) (un : Bool) : PushRes :=
    if vs.length ≥ 3 then
      let n : Note := ⟨k, (v 1).string, (v 2).intlen⟩
      { pipe := setTable pp tbl (step (getTable pp tbl) (if un then .unsubscribe n else .confirm n)),
        hooks := if pp.onSub then [.note n] else [], reply := true, unsub := un }
    else { pipe := pp, reply := true, unsub := un }
  if k == "message" then
    (if vs.length ≥ 3 then deliver 0 (v 1).string ⟨"", (v 1).string, (v 2).string⟩ else { pipe := pp })
  else if k == "pmessage" then
    (if vs.length ≥ 4 then deliver 1 (v 1).string ⟨(v 1).string, (v 2).string, (v 3).string⟩ else { pipe := pp })
  else if k == "smessage" then
    (if vs.length ≥ 3 then deliver 2 (v 1).string ⟨"", (v 1).string, (v 2).string⟩ else { pipe := pp })
  else if k == "unsubscribe" then note 0 true
  else if k == "punsubscribe" then note 1 true
  else if k == "sunsubscribe" then note 2 true
  else if k == "subscribe" then note 0 false
  else if k == "psubscribe" then note 1 false
  else if k == "ssubscribe" then note 2 false
  else { pipe := pp }

/-! ### Receive's return value -/

/-- how a Receive call ends -/
inductive End
  | tableDead            -- Subscribe returned a nil channel (subs already closed)
  | doErr                -- the SUBSCRIBE command itself failed
  | chClosed             -- the subscription's channel was closed (unsubscribe / Close / disconnect)
  | ctxDone              -- the context ended first
  deriving DecidableEq, Repr

inductive Err | nil | ctx | cmd | pipe (e : String)
  deriving DecidableEq, Repr

/-- `pipeErr`: what `p.Error()` returns at that moment (`none`: nil, `"closing"`: ErrClosing, …) -/
def receiveResult (e : End) (pipeErr : Option String) : Err :=
  let fallback : Err := match pipeErr with | none => .nil | some s => .pipe s
  match e with
  | .doErr => .cmd
  | .ctxDone => .ctx
  | .tableDead => fallback
  | .chClosed => fallback

/-- the subscription table around one `pipe.Receive` call: the subscription is registered BEFORE the
    (P|S)SUBSCRIBE command is sent, `during` is whatever happens on the connection while the call
    runs (pushes for other or the same channels, other Receive calls, …), and `defer cancel()` removes
    the registration when the call returns — on EVERY exit path (`End`), also when the command
    itself failed -/
def receiveCall (t : Table) (chans : List String) (hasFn : Bool) (during : List Op) (_exit : End) : Table :=
  step (run (step t (.subscribe chans hasFn)) during) (.cancel (t.cnt + 1))

/-! ### the channel returned by SetPubSubHooks -/

/-- one `chan error` handed out by SetPubSubHooks -/
structure HookCh where
  errs : List String := []
  closes : Nat := 0
  sendAfterClose : Bool := false     -- would be a Go panic
  deriving DecidableEq, Repr

/-- the slot `p.pshks` holds at most one channel; whoever swaps it out owns it and closes it -/
structure HookSt where
  done : List HookCh := []           -- channels swapped out so far, in order of creation
  cur : Option HookCh := none        -- the channel in the slot (none: emptypshks)
  deriving DecidableEq, Repr

/-- atomic steps: the `Swap`s of SetPubSubHooks and of `_background`'s cleanup -/
inductive HookOp
  | swapNew                 -- SetPubSubHooks(non-zero): Swap(new); close(old.close)
  | swapEmpty (err : Option String)   -- Swap(emptypshks); (old.close <- err)? ; close(old.close)
  deriving DecidableEq, Repr

/-- `old.close <- err` (optional) then `close(old.close)` -/
def HookCh.finish (c : HookCh) (err : Option String) : HookCh :=
  let c := match err with
    | some e => { c with errs := c.errs ++ [e], sendAfterClose := c.sendAfterClose || c.closes > 0 }
    | none => c
  { c with closes := c.closes + 1 }

def hookStep (s : HookSt) : HookOp → HookSt
  | .swapNew => { done := s.done ++ (s.cur.map (·.finish none)).toList, cur := some {} }
  | .swapEmpty err =>
    match s.cur with
    | some c => { done := s.done ++ [c.finish err], cur := none }
    | none => s

def HookSt.all (s : HookSt) : List HookCh := s.done ++ s.cur.toList

/-! ### specification of an end-to-end run: what a Receive callback must see -/

/-- the server's publish log -/
inductive Pub | publish (channel payload : String) | spublish (channel payload : String)
  deriving DecidableEq, Repr

/-- glob restricted to the shapes the end-to-end suite uses: literal, or literal prefix followed by `*` -/
def globMatch (p s : String) : Bool :=
  if p.endsWith "*" then s.startsWith (p.dropEnd 1).toString else p == s

/-- insertion sort of the patterns (the server walks a connection's patterns in sorted order) -/
def sortStrs (l : List String) : List String :=
  l.foldl (fun acc x => (acc.filter (· < x)) ++ [x] ++ (acc.filter (fun y => !(y < x)))) []

/-- what a subscription established before the first publish and ended after the last one must
    receive, exactly once and in server order: kind 0 = SUBSCRIBE (channel match), 1 = PSUBSCRIBE
    (one message per matching pattern), 2 = SSUBSCRIBE -/
def specLog (kind : Nat) (chans : List String) (log : List Pub) : List Msg :=
  log.flatMap fun
    | .publish ch m =>
      if kind == 0 then (if chans.contains ch then [⟨"", ch, m⟩] else [])
      else if kind == 1 then ((sortStrs chans.eraseDups).filter (globMatch · ch)).map fun p => ⟨p, ch, m⟩
      else []
    | .spublish ch m => if kind == 2 && chans.contains ch then [⟨"", ch, m⟩] else []

end Rv.Subs
