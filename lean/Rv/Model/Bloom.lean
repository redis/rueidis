/-
Model of rueidisprob/bloomfilter.go + index.go (core Lean only).

* Redis state touched by the scripts: the bitmap `{name}` (set of 1-bits) and the
  counter key `{name}:c` (absent or a number).
* `addScript` / `existsScript` / `resetScript` / `deleteScript` are hand
  transcriptions of the Lua texts pinned in Rv/Props/C35.lean (trusted); the loops
  are the literal flat loops (`Rv.GroupLoop.gloop`, test `i % k = 0`).
  In Lua `i % 0` is NaN, never equal to 0; in Lean `i % 0 = i ≥ 1`, never 0 either,
  so the transcription is also right for `hashIterations = 0`.
* `addMulti` / `existsMulti` / `count` / `reset` / `delete` transcribe the Go glue.
* `newBloomFilter` transcribes the constructor's accept/reject logic over the *results*
  of the floating-point sizing functions (`bitsRaw`, `hashRaw` are parameters: floating
  point is not modelled), including the clamp `max(hashRaw, 1)`.
-/
import Rv.Lemmas.GroupLoop
namespace Rv.Bloom
open Rv.GroupLoop

abbrev Bits := Nat → Bool
def emptyBits : Bits := fun _ => false
def setBit (b : Bits) (i : Nat) : Bits := fun j => if j = i then true else b j
def bitVal (b : Bits) (i : Nat) : Nat := if b i then 1 else 0

/-- `index` of index.go: `offset := h1 + uint64(i)*h2; return offset % maxSize` on uint64
(both the product and the sum wrap). `h1 h2 < 2^64`, `i < 2^64`. -/
def indexGo (h1 h2 i m : Nat) : Nat := ((h1 + (i * h2) % 2 ^ 64) % 2 ^ 64) % m

/-- the `k` indexes of one item, in the order `indexes` appends them -/
def itemIdx (m k : Nat) (h : Nat × Nat) : List Nat := (List.range k).map fun i => indexGo h.1 h.2 i m

/-- `indexes(keys)`: per key, per hash function -/
def allIdx (m k : Nat) (keys : List (Nat × Nat)) : List Nat := (keys.map (itemIdx m k)).flatten

structure St where
  bits : Bits
  counter : Option Nat

def St.init : St := { bits := emptyBits, counter := none }

/-! ### Lua scripts (ARGV[1] = hashIterations = k, ARGV[2..] = indexes) -/

/-- loop of bloomFilterAddMultiScript; state = (bitmap, counter) -/
def addLoop (k : Nat) (idxs : List Nat) (b : Bits) : Bits × Nat :=
  gloop k (fun (st : Bits × Nat) x => ((setBit st.1 x, st.2), bitVal st.1 x)) (· + ·) 0
    (fun st one => (st.1, if one ≠ k then st.2 + 1 else st.2)) idxs 1 0 (b, 0)

/-- bloomFilterAddMultiScript; reply = INCRBY result -/
def addScript (k : Nat) (idxs : List Nat) (s : St) : St × Nat :=
  let r := addLoop k idxs s.bits
  let c := s.counter.getD 0 + r.2
  ({ bits := r.1, counter := some c }, c)

/-- bloomFilterExistsMultiScript (and the `_RO` twin): one boolean per completed group -/
def existsScript (k : Nat) (idxs : List Nat) (b : Bits) : List Bool :=
  gloop k (fun (res : List Bool) x => (res, bitVal b x)) (· + ·) 0
    (fun res one => res ++ [one == k]) idxs 1 0 []

def resetScript (_ : St) : St := { bits := emptyBits, counter := some 0 }
def deleteScript (_ : St) : St := { bits := emptyBits, counter := none }

/-! ### Go glue -/

structure Cfg where
  m : Nat
  k : Nat

/-- `AddMulti`: no call for an empty key list -/
def addMulti (c : Cfg) (keys : List (Nat × Nat)) (s : St) : St :=
  if keys.isEmpty then s else (addScript c.k (allIdx c.m c.k keys) s).1

inductive ExistsOut where
  | nil                       -- `return nil, nil` for no keys
  | ok (r : List Bool)
  | panic                     -- `result[i] = v` out of range
  deriving DecidableEq, Repr

/-- `ExistsMulti`: `result := make([]bool, len(keys))`, then `result[i] = arr[i]` -/
def existsMulti (c : Cfg) (keys : List (Nat × Nat)) (s : St) : ExistsOut :=
  if keys.isEmpty then .nil else
  let arr := existsScript c.k (allIdx c.m c.k keys) s.bits
  if arr.length > keys.length then .panic
  else .ok (arr ++ List.replicate (keys.length - arr.length) false)

/-- `AddMulti` together with the script arguments it hands to the client (`none`: no call).
The model builds them from the call's own keys; the `bloom` suite compares them with the argv the
fake client actually consumed, also when another call on the same filter value ran in between. -/
def addMultiTrace (c : Cfg) (keys : List (Nat × Nat)) (s : St) : St × Option (List Nat) :=
  if keys.isEmpty then (s, none)
  else ((addScript c.k (allIdx c.m c.k keys) s).1, some (c.k :: allIdx c.m c.k keys))

/-- `ExistsMulti` together with the script arguments it hands to the client -/
def existsMultiTrace (c : Cfg) (keys : List (Nat × Nat)) (s : St) : ExistsOut × Option (List Nat) :=
  (existsMulti c keys s, if keys.isEmpty then none else some (c.k :: allIdx c.m c.k keys))

/-- `Count`: GET, nil ↦ 0 -/
def count (s : St) : Nat := s.counter.getD 0

/-! ### Constructor (accept / reject and the resulting parameters) -/

inductive NewErr where
  | emptyName | rateLeZero | rateGtOne | bitsZero | bitsTooLarge
  deriving DecidableEq, Repr

def maxSize : Nat := 2 ^ 32

/-- `numberOfBloomFilterHashFunctions` after the float computation: `max(hashRaw, 1)` -/
def hashFunctions (hashRaw : Nat) : Nat := max hashRaw 1

/-- `NewBloomFilter` over the outcomes of the float computations:
`rateClass` = -1/0/1 for rate ≤ 0 / in (0,1] / > 1. -/
def newBloomFilter (nameLen : Nat) (rateClass : Int) (bitsRaw hashRaw : Nat) : Except NewErr Cfg :=
  if nameLen = 0 then .error .emptyName
  else if rateClass < 0 then .error .rateLeZero
  else if rateClass > 0 then .error .rateGtOne
  else if bitsRaw = 0 then .error .bitsZero
  else if bitsRaw > maxSize then .error .bitsTooLarge
  else .ok { m := bitsRaw, k := hashFunctions hashRaw }

/-! ### Specification used by oracle lines: plain set membership -/

/-- what the property demands of `Exists x` given the items added since the last
reset/delete: `true` if `x` was added; unconstrained otherwise -/
def specExists (added : List (Nat × Nat)) (x : Nat × Nat) : Option Bool :=
  if added.contains x then some true else none

end Rv.Bloom

/-! ### line-protocol formatting shared by the Bloom / CountingBloom / SlidingBloom drivers -/
namespace Rv.BloomFmt

def joinC (xs : List String) : String := ",".intercalate xs
def natsC (xs : List Nat) : String := joinC (xs.map toString)
/-- a Lua table of booleans as RESP: `true` ↦ integer 1, `false` ↦ nil -/
def boolsReply (bs : List Bool) : String := "*" ++ String.ofList (bs.map fun b => if b then '1' else '_')
def boolsAns (bs : List Bool) : String := String.ofList (bs.map fun b => if b then '1' else '0')

/-- `hexkey:h1:h2` -/
def parseItem (w : String) : Option (Nat × Nat) :=
  match w.splitOn ":" with
  | [_, a, b] => do
    let x ← a.toNat?
    let y ← b.toNat?
    pure (x, y)
  | _ => none

def parseNats (ws : List String) : Option (List Nat) := ws.mapM String.toNat?

/-- one logged server call: `name/keys/args/reply` -/
def call (name keys args reply : String) : String := name ++ "/" ++ keys ++ "/" ++ args ++ "/" ++ reply

end Rv.BloomFmt
