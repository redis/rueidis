/-
Model of rueidisprob/slidingbloomfilter.go (core Lean only).

* Redis state: current filter `{name}`, next filter `{name}:n`, their counters `{name}:c`,
  `{name}:nc` (each absent or present), and the rotation lock `{name}:lr` with its expiry
  (its value, the script's `current_time`, is never read).
* The server clock `now` (ms) is a parameter of every script run (Redis freezes time during
  a script). A key with expiry `e` is gone iff `now > e` (Redis `keyIsExpired`).
* Scripts are hand transcriptions of the Lua texts pinned in Rv/Props/C37.lean (trusted).
  A script aborted by a Redis error (RENAME of a missing key, PX 0) keeps the effects made so
  far: `Except.error s` carries that state.
-/
import Rv.Model.Bloom
namespace Rv.SBloom
open Rv.GroupLoop Rv.Bloom

structure St where
  cur : Option Bits
  next : Option Bits
  curC : Option Nat
  nextC : Option Nat
  lock : Option Nat      -- expiry (ms) of lastRotationKey

def St.init : St := { cur := none, next := none, curC := none, nextC := none, lock := none }

def bitsOf (o : Option Bits) : Bits := o.getD emptyBits

/-- lastRotationKey exists at server time `now` -/
def lockHeld (s : St) (now : Nat) : Bool :=
  match s.lock with
  | some e => decide (now ≤ e)
  | none => false

/-- `SET lastRotationKey … PX windowHalf NX` and, when it was acquired, the rotation:
RENAME next→current (filters, then counters), SET next "", SET nextCounter 0. -/
def rotate (half now : Nat) (s : St) : Except St St :=
  if half = 0 then .error s                     -- "invalid expire time in 'set' command"
  else if lockHeld s now then .ok s
  else
    match s.next with
    | none => .error { s with lock := some (now + half) }            -- RENAME: no such key
    | some nb =>
      match s.nextC with
      | none => .error { s with lock := some (now + half), cur := some nb, next := none }
      | some nc =>
        .ok { cur := some nb, next := some emptyBits, curC := some nc, nextC := some 0,
              lock := some (now + half) }

/-- loop of slidingBloomFilterAddMultiScript: BITFIELD SET on both filters, old bit of the current one counted -/
def addLoop (k : Nat) (idxs : List Nat) (cur next : Bits) : (Bits × Bits) × Nat :=
  gloop k (fun (st : (Bits × Bits) × Nat) x => (((setBit st.1.1 x, setBit st.1.2 x), st.2), bitVal st.1.1 x))
    (· + ·) 0 (fun st one => (st.1, if one ≠ k then st.2 + 1 else st.2)) idxs 1 0 ((cur, next), 0)

/-- slidingBloomFilterAddMultiScript; reply = INCRBY counterKey -/
def addScript (k half now : Nat) (idxs : List Nat) (s : St) : Except St (St × Nat) :=
  match rotate half now s with
  | .error s' => .error s'
  | .ok s1 =>
    let r := addLoop k idxs (bitsOf s1.cur) (bitsOf s1.next)
    let c := s1.curC.getD 0 + r.2
    .ok ({ s1 with
            cur := if idxs.isEmpty then s1.cur else some r.1.1,
            next := if idxs.isEmpty then s1.next else some r.1.2,
            nextC := some (s1.nextC.getD 0 + r.2), curC := some c }, c)

/-- slidingBloomFilterExistsMultiScript (and the ReadOnly twin): rotation, then read the current filter -/
def existsScript (k half now : Nat) (idxs : List Nat) (s : St) : Except St (St × List Bool) :=
  match rotate half now s with
  | .error s' => .error s'
  | .ok s1 => .ok (s1, Bloom.existsScript k idxs (bitsOf s1.cur))

/-- slidingBloomFilterInitializeScript -/
def initScript (half now : Nat) (s : St) : Except St St :=
  if s.cur.isNone && s.next.isNone && s.curC.isNone && s.nextC.isNone && !lockHeld s now then
    let s1 := { s with cur := some emptyBits, curC := some 0, next := some emptyBits, nextC := some 0 }
    if half = 0 then .error s1 else .ok { s1 with lock := some (now + half) }
  else .ok s

/-- slidingBloomFilterResetScript (no return value: the reply is nil) -/
def resetScript (s : St) : Except St St :=
  match s.next with
  | none => .error s
  | some nb =>
    match s.nextC with
    | none => .error { s with cur := some nb, next := none }
    | some nc => .ok { s with cur := some nb, next := some emptyBits, curC := some nc, nextC := some 0 }

/-- `DEL` of the five keys; reply = number of keys that existed -/
def delete (now : Nat) (s : St) : St × Nat :=
  (St.init, (if s.cur.isSome then 1 else 0) + (if s.next.isSome then 1 else 0) + (if s.curC.isSome then 1 else 0)
    + (if s.nextC.isSome then 1 else 0) + (if lockHeld s now then 1 else 0))

/-! ### Go glue -/

structure Cfg where
  m : Nat
  k : Nat
  half : Nat        -- windowSize.Milliseconds()/2

def idxsOf (c : Cfg) (keys : List (Nat × Nat)) : List Nat := allIdx c.m c.k keys

/-- `AddMulti`: `.error` = script error (with the state the aborted script left) -/
def addMulti (c : Cfg) (now : Nat) (keys : List (Nat × Nat)) (s : St) : Except St St :=
  if keys.isEmpty then .ok s else (addScript c.k c.half now (idxsOf c keys) s).map (·.1)

/-- `ExistsMulti`: new state and the answers (`none` answers = `nil, nil` for no keys) -/
def existsMulti (c : Cfg) (now : Nat) (keys : List (Nat × Nat)) (s : St) : Except St (St × Option (List Bool)) :=
  if keys.isEmpty then .ok (s, none) else
  match existsScript c.k c.half now (idxsOf c keys) s with
  | .error s' => .error s'
  | .ok (s1, arr) => .ok (s1, some (arr ++ List.replicate (keys.length - arr.length) false))

def count (s : St) : Nat := s.curC.getD 0

end Rv.SBloom
