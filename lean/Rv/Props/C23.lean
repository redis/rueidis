/-
C23 — sentinel clients follow the current master.
Theorems over the model Rv.Sentinel of /repo/sentinel.go (`_refresh`, `listWatch`, `pickReplica`,
`_switchTarget`, `switchTargetRetry`, `refreshRetry`, the pub/sub event handler), for every
sequence of refreshes and events and every environment: the sentinel replies, dial results and
ROLE answers are arbitrary and may change between and during steps (every step takes its own
`World`, ROLE answers are queues).
-/
import Rv.Model.Sentinel
namespace Rv.C23
open Rv.Sentinel

/-- a stored connection is justified: its node was reported in that role, and unless the client has
    closed the connection, the last ROLE answer received over it was that role -/
def ConnOk (want : Role) (reported : List Addr) (c : Option Conn) : Prop :=
  ∀ x, c = some x → x.addr ∈ reported ∧ (x.closed = false → x.lastRole = .arr want)

/-- the invariant of `stored_target_verified` -/
def Inv (s : St) : Prop :=
  ConnOk .master s.reportedM s.mConn ∧ ConnOk .slave s.reportedR s.rConn

/-- ghost lists only grow, mode never changes -/
def Ext (s s' : St) : Prop :=
  s'.mode = s.mode ∧ (∀ a ∈ s.reportedM, a ∈ s'.reportedM) ∧ (∀ a ∈ s.reportedR, a ∈ s'.reportedR)

theorem Ext.refl (s : St) : Ext s s := ⟨rfl, fun _ h => h, fun _ h => h⟩
theorem Ext.trans {a b c : St} (h1 : Ext a b) (h2 : Ext b c) : Ext a c :=
  ⟨h2.1.trans h1.1, fun x hx => h2.2.1 x (h1.2.1 x hx), fun x hx => h2.2.2 x (h1.2.2 x hx)⟩

/-- fields the evaluation never touches -/
def Same (s s' : St) : Prop := s'.mode = s.mode ∧ s'.stopped = s.stopped

/-- what every step of the client does to the state, whatever the environment answers -/
structure Keeps (s s' : St) : Prop where
  ext : Ext s s'
  stopped : s'.stopped = s.stopped
  inv : Inv s → Inv s'

theorem Keeps.same {s s' : St} (h : Keeps s s') : Same s s' := ⟨h.ext.1, h.stopped⟩
theorem Keeps.inv_ext {s s' : St} (h : Keeps s s') (hi : Inv s) : Inv s' ∧ Ext s s' := ⟨h.inv hi, h.ext⟩
theorem Keeps.refl (s : St) : Keeps s s := ⟨Ext.refl s, rfl, id⟩
theorem Keeps.trans {a b c : St} (h1 : Keeps a b) (h2 : Keeps b c) : Keeps a c :=
  ⟨h1.ext.trans h2.ext, h2.stopped.trans h1.stopped, h2.inv ∘ h1.inv⟩

theorem Keeps.of_frame {s s' : St} (hm : s'.mode = s.mode) (hs : s'.stopped = s.stopped)
    (hM : s'.reportedM = s.reportedM) (hR : s'.reportedR = s.reportedR) (hi : Inv s → Inv s') : Keeps s s' :=
  ⟨⟨hm, fun _ h => hM ▸ h, fun _ h => hR ▸ h⟩, hs, hi⟩

theorem roleMatches_true_iff (ans : RoleAns) (want : Role) :
    roleMatches ans want = some true ↔ ans = .arr want := by
  cases ans <;> simp [roleMatches]

/-- Repaired code (commit ecf7776): every ROLE reply shape has a defined outcome —
    an array is compared by its first element, an EMPTY array counts as "not that role", anything else
    is an error; nothing panics. Likewise every GET-MASTER-ADDR-BY-NAME shape: a short array is an error. -/
theorem role_parse_total (ans : RoleAns) (want : Role) :
    (∃ r, ans = .arr r ∧ roleMatches ans want = some (r == want)) ∨
    (ans = .empty ∧ roleMatches ans want = some false) ∨
    (ans = .err ∧ roleMatches ans want = none) := by
  cases ans <;> simp [roleMatches]

theorem listWatch_shape (m : Mode) (v : SentinelView) (ma ra : Option Addr) (others : List Addr)
    (h : listWatch m v = .ok (ma, ra, others)) :
    (m ≠ .replicaOnly → ∃ a, ma = some a ∧ v.master = .addr a) ∧
    (m ≠ .masterOnly → ∃ r, ra = some r) := by
  revert h
  unfold listWatch
  cases v.sentinels with
  | none => nofun
  | some o =>
    cases m <;> dsimp only
    · cases v.master <;> intro h <;> cases h
      exact ⟨fun _ => ⟨_, rfl, rfl⟩, fun hh => absurd rfl hh⟩
    · cases v.replicas.bind pickReplica <;> intro h <;> cases h
      exact ⟨fun hh => absurd rfl hh, fun _ => ⟨_, rfl⟩⟩
    · cases v.replicas.bind pickReplica with
      | none => nofun
      | some r =>
        cases v.master <;> intro h <;> cases h
        exact ⟨fun _ => ⟨_, rfl, rfl⟩, fun _ => ⟨_, rfl⟩⟩

theorem master_parse_total (m : Mode) (v : SentinelView) (h : v.master = .short ∨ v.master = .err)
    (hm : m ≠ .replicaOnly) : ∃ e, listWatch m v = .error e := by
  cases hl : listWatch m v with
  | error e => exact ⟨e, rfl⟩
  | ok res =>
    obtain ⟨a, _, ha⟩ := (listWatch_shape m v res.1 res.2.1 res.2.2 hl).1 hm
    rcases h with h | h <;> simp [h] at ha

/-- before the repair the check indexed `resp[0]` of an empty array: a panic (in a refresh goroutine
    this crashed the process; reproduced on the real client before the `fix:` commit). For
    `roleMatchesUnrepaired` the outer `none` is the panic; the `none` of `roleMatches` is an error return. -/
theorem role_parse_unrepaired_panics (want : Role) : roleMatchesUnrepaired .empty want = none := rfl

/-- the outcomes of `_switchTarget` on a running client: a failed dial; a ROLE answer that is not the
    required role (a reused stored connection is then closed); success -/
theorem switchTarget_outcomes (s : St) (w : World) (addr : Addr) (isMaster : Bool) (hstop : s.stopped = false) :
    let want := if isMaster then Role.master else Role.slave
    let r := switchTarget s w addr isMaster
    (reuseOf s addr isMaster).isNone = true ∧ w.nodeDialOk addr = false ∧ r.1 = s ∧ r.2.2.2 = some .dial ∨
    w.roleOf addr ≠ .arr want ∧ r.2.2.2 ≠ none ∧
      r.1 = (if (reuseOf s addr isMaster).isNone then s else closeStored s isMaster (w.roleOf addr)) ∨
    w.roleOf addr = .arr want ∧ r.2.2.2 = none ∧ r.1 = install s addr isMaster (.arr want) ∧
      Act.role addr (.arr want) ∈ r.2.2.1 := by
  intro want r
  have hiff := roleMatches_true_iff (w.roleOf addr) want
  unfold r switchTarget
  rw [hstop, if_neg Bool.false_ne_true]
  dsimp only
  by_cases hd : ((reuseOf s addr isMaster).isNone && !w.nodeDialOk addr) = true
  · rw [if_pos hd]
    simp only [Bool.and_eq_true, Bool.not_eq_true'] at hd
    exact .inl ⟨hd.1, hd.2, rfl, rfl⟩
  · rw [if_neg hd]
    match hm : roleMatches (w.roleOf addr) want with
    | none | some false => exact .inr (.inl ⟨(fun e => nomatch (hiff.2 e).symm.trans hm), nofun, rfl⟩)
    | some true => exact .inr (.inr ⟨hiff.1 hm, rfl, by rw [hiff.1 hm], by rw [hiff.1 hm]; simp⟩)

theorem ConnOk.close {want : Role} {rep : List Addr} {c : Option Conn} (ans : RoleAns) (h : ConnOk want rep c) :
    ConnOk want rep (c.map fun c => { c with closed := true, lastRole := ans }) := by
  intro x hx
  obtain ⟨c, hc, rfl⟩ := Option.map_eq_some_iff.1 hx
  exact ⟨(h c hc).1, fun h => by cases h⟩

theorem closeStored_keeps (s : St) (isMaster : Bool) (ans : RoleAns) : Keeps s (closeStored s isMaster ans) := by
  cases isMaster
  · exact .of_frame rfl rfl rfl rfl fun h => ⟨h.1, h.2.close ans⟩
  · exact .of_frame rfl rfl rfl rfl fun h => ⟨h.1.close ans, h.2⟩

theorem install_keeps (s : St) (addr : Addr) (isMaster : Bool)
    (ha : addr ∈ if isMaster then s.reportedM else s.reportedR) :
    Keeps s (install s addr isMaster (.arr (if isMaster then Role.master else Role.slave))) := by
  cases isMaster
  · exact .of_frame rfl rfl rfl rfl fun h => ⟨h.1, fun x hx => by cases hx; exact ⟨ha, fun _ => rfl⟩⟩
  · exact .of_frame rfl rfl rfl rfl fun h => ⟨fun x hx => by cases hx; exact ⟨ha, fun _ => rfl⟩, h.2⟩

/-- the three possible outcomes of `_switchTarget` on the state -/
theorem switchTarget_cases (s : St) (w : World) (addr : Addr) (isMaster : Bool) :
    let want := if isMaster then Role.master else Role.slave
    ((switchTarget s w addr isMaster).1 = s ∧
      ((switchTarget s w addr isMaster).2.2.2 = none → s.stopped = true)) ∨
    ((switchTarget s w addr isMaster).1 = closeStored s isMaster (w.roleOf addr) ∧
      roleMatches (w.roleOf addr) want ≠ some true ∧ (switchTarget s w addr isMaster).2.2.2 ≠ none) ∨
    ((switchTarget s w addr isMaster).1 = install s addr isMaster (.arr want) ∧
      w.roleOf addr = .arr want ∧ (switchTarget s w addr isMaster).2.2.2 = none ∧ s.stopped = false) := by
  intro want
  cases hs : s.stopped
  · rcases switchTarget_outcomes s w addr isMaster hs with ⟨_, _, h, he⟩ | ⟨hr, he, h⟩ | ⟨hr, he, h, _⟩
    · exact .inl ⟨h, fun hn => nomatch he.symm.trans hn⟩
    · split at h
      · exact .inl ⟨h, fun hn => absurd hn he⟩
      · exact .inr (.inl ⟨h, mt (roleMatches_true_iff _ _).1 hr, he⟩)
    · exact .inr (.inr ⟨h, hr, he, rfl⟩)
  · exact .inl ⟨by unfold switchTarget; rw [if_pos hs], fun _ => rfl⟩

theorem switchTarget_keeps (s : St) (w : World) (addr : Addr) (isMaster : Bool)
    (ha : addr ∈ if isMaster then s.reportedM else s.reportedR) :
    Keeps s (switchTarget s w addr isMaster).1 := by
  rcases switchTarget_cases s w addr isMaster with ⟨h, _⟩ | ⟨h, _⟩ | ⟨h, _⟩ <;> rw [h]
  · exact Keeps.refl s
  · exact closeStored_keeps s isMaster _
  · exact install_keeps s addr isMaster ha

theorem switchTarget_inv (s : St) (w : World) (addr : Addr) (isMaster : Bool) (h : Inv s)
    (hm : isMaster = true → addr ∈ s.reportedM) (hr : isMaster = false → addr ∈ s.reportedR) :
    Inv (switchTarget s w addr isMaster).1 ∧ Ext s (switchTarget s w addr isMaster).1 := by
  refine (switchTarget_keeps s w addr isMaster ?_).inv_ext h
  cases isMaster
  · exact hr rfl
  · exact hm rfl

/-- A node whose ROLE answer is not the required role (wrong string, empty
    array, error, nil, non-array) is never installed: `_switchTarget` returns an error and the stored
    target is unchanged — except that, if the failing node WAS the stored target (same address, reused
    connection), that connection is closed, so traffic sent to it fails instead of reaching the demoted
    node. -/
theorem wrong_role_never_routed (s : St) (w : World) (addr : Addr) (isMaster : Bool)
    (hstop : s.stopped = false)
    (hrole : w.roleOf addr ≠ .arr (if isMaster then Role.master else Role.slave)) :
    (switchTarget s w addr isMaster).2.2.2 ≠ none ∧
    ((switchTarget s w addr isMaster).1 = s ∨
     (switchTarget s w addr isMaster).1 = closeStored s isMaster (w.roleOf addr)) := by
  rcases switchTarget_outcomes s w addr isMaster hstop with ⟨_, _, h1, h2⟩ | ⟨_, h2, h1⟩ | ⟨h, _⟩
  · exact ⟨by simp [h2], .inl h1⟩
  · exact ⟨h2, by rw [h1]; split <;> simp⟩
  · exact absurd h hrole

/-- the stored target after a failed switch is never a LIVE connection to a node that just answered
    the wrong role -/
theorem failed_switch_leaves_no_live_wrong_target (s : St) (w : World) (addr : Addr)
    (hstop : s.stopped = false) (hrole : w.roleOf addr ≠ .arr Role.master)
    (hdial : (reuseOf s addr true).isNone = false) :
    ∀ c, (switchTarget s w addr true).1.mConn = some c → c.closed = true := by
  intro c hc
  rcases switchTarget_outcomes s w addr true hstop with ⟨h, _⟩ | ⟨_, _, h⟩ | ⟨h, _⟩
  · rw [hdial] at h; cases h
  · rw [h, hdial] at hc
    obtain ⟨_, _, rfl⟩ := Option.map_eq_some_iff.1 hc
    rfl
  · exact absurd h hrole

/-- a successful switch installs exactly the requested address, over a live connection, and only
    after that node answered ROLE with the required role -/
theorem switch_success (s : St) (w : World) (addr : Addr) (isMaster : Bool) (hstop : s.stopped = false)
    (h : (switchTarget s w addr isMaster).2.2.2 = none) :
    w.roleOf addr = .arr (if isMaster then Role.master else Role.slave) ∧
    (switchTarget s w addr isMaster).1 =
      install s addr isMaster (.arr (if isMaster then Role.master else Role.slave)) := by
  rcases switchTarget_cases s w addr isMaster with ⟨_, h2⟩ | ⟨_, _, h3⟩ | ⟨h1, h2, _⟩
  · cases hstop.symm.trans (h2 h)
  · exact absurd h h3
  · exact ⟨h2, h1⟩

/-- every successful `_switchTarget` — whether it dialled a new connection or REUSED the stored one
    because the address is unchanged — sent ROLE during this call and got the required role -/
theorem switch_checks_role (s : St) (w : World) (addr : Addr) (isMaster : Bool) (hstop : s.stopped = false)
    (h : (switchTarget s w addr isMaster).2.2.2 = none) :
    Act.role addr (.arr (if isMaster then Role.master else Role.slave)) ∈ (switchTarget s w addr isMaster).2.2.1 := by
  rcases switchTarget_outcomes s w addr isMaster hstop with ⟨_, _, _, h'⟩ | ⟨_, h', _⟩ | ⟨_, _, _, h3⟩
  · cases h'.symm.trans h
  · exact absurd h h'
  · exact h3

theorem withSConn_keeps (s : St) (c : Conn) : Keeps s (withSConn s c) := .of_frame rfl rfl rfl rfl id

theorem noteReported_keeps (s : St) (m r : Option Addr) (others : List Addr) :
    Keeps s (noteReported s m r others) :=
  ⟨⟨rfl, fun _ h => List.mem_append_right _ h, fun _ h => List.mem_append_right _ h⟩, rfl,
    fun h => ⟨fun x hx => ⟨List.mem_append_right _ (h.1 x hx).1, (h.1 x hx).2⟩,
              fun x hx => ⟨List.mem_append_right _ (h.2 x hx).1, (h.2 x hx).2⟩⟩⟩

/-- `m.getD 0` / `r.getD 0` is how `switchByMode` reads the addresses `listWatch` returned; the default 0
    is never taken in `tryFront`: by `listWatch_shape` each mode gets the addresses it switches to -/
theorem switchByMode_keeps (s : St) (w : World) (m r : Option Addr)
    (hm : s.mode ≠ .replicaOnly → m.getD 0 ∈ s.reportedM)
    (hr : s.mode ≠ .masterOnly → r.getD 0 ∈ s.reportedR) :
    Keeps s (switchByMode s w m r).1 := by
  unfold switchByMode
  cases hmode : s.mode <;> simp only [hmode, ne_eq, reduceCtorEq, not_false_eq_true, forall_const] at hm hr ⊢
  · exact switchTarget_keeps s w _ true hm
  · exact switchTarget_keeps s w _ false hr
  · have ha := switchTarget_keeps s w (m.getD 0) true hm
    exact ha.trans (switchTarget_keeps _ _ _ false (ha.ext.2.2 _ hr))

/-- `tryFront` with the (re)connect step taken out: `s1` is `s` up to the kept sentinel connection -/
theorem tryFront_cons {s : St} {a : Addr} {rest : List Addr} (w : World) (h : s.sentinels = a :: rest) :
    ∃ (s1 : St) (acts0 : List Act) (fail : Bool), Keeps s s1 ∧
      tryFront s w =
        if fail then (s1, w, acts0, false) else
        match listWatch s.mode (w.sent a) with
        | .error _ => (withSConn s1 ⟨a, true, .err⟩, w, acts0 ++ [.listWatch a, .close a], false)
        | .ok (m, r, others) =>
          let res := switchByMode (noteReported s1 m r others) w m r
          match res.2.2.2 with
          | none => (res.1, res.2.1, acts0 ++ [.listWatch a] ++ res.2.2.1, true)
          | some _ => (withSConn res.1 ⟨a, true, .err⟩, res.2.1,
              acts0 ++ [.listWatch a] ++ res.2.2.1 ++ [.close a], false) := by
  unfold tryFront
  rw [h]
  exact ⟨if keepSConn s a then s else withSConn s ⟨a, false, .err⟩, _,
    !keepSConn s a && !(w.sent a).dialOk, by split <;> exact .of_frame rfl rfl rfl rfl id, rfl⟩

theorem tryFront_keeps (s : St) (w : World) : Keeps s (tryFront s w).1 := by
  cases hl : s.sentinels with
  | nil => unfold tryFront; rw [hl]; exact Keeps.refl s
  | cons a rest =>
    obtain ⟨s1, acts0, fail, k1, heq⟩ := tryFront_cons w hl
    rw [heq]
    split
    · exact k1
    · split
      · exact k1.trans (withSConn_keeps _ _)
      · next m r others hlw =>
        obtain ⟨hm, hr⟩ := listWatch_shape _ _ _ _ _ hlw
        have k2 : Keeps s1 (switchByMode (noteReported s1 m r others) w m r).1 :=
          (noteReported_keeps s1 m r others).trans (switchByMode_keeps _ w m r
            (fun hne => by
              obtain ⟨x, rfl, _⟩ := hm (k1.ext.1 ▸ hne)
              exact List.mem_cons_self)
            (fun hne => by
              obtain ⟨x, rfl⟩ := hr (k1.ext.1 ▸ hne)
              exact List.mem_cons_self))
        simp only []
        split
        · exact k1.trans k2
        · exact (k1.trans k2).trans (withSConn_keeps _ _)

theorem tryFront_ok (s : St) (w : World) (hstop : s.stopped = false) (hmode : s.mode = .masterOnly)
    (hok : (tryFront s w).2.2.2 = true) :
    ∃ sent a, s.sentinels.head? = some sent ∧ (w.sent sent).master = .addr a ∧
      (tryFront s w).1.mConn = some ⟨a, false, .arr .master⟩ ∧ (tryFront s w).1.mAddr = some a ∧
      w.roleOf a = .arr .master ∧ a ∈ (tryFront s w).1.reportedM ∧
      Act.role a (.arr .master) ∈ (tryFront s w).2.2.1 := by
  cases hl : s.sentinels with
  | nil => unfold tryFront at hok; rw [hl] at hok; cases hok
  | cons sent rest =>
    obtain ⟨s1, acts0, fail, k1, heq⟩ := tryFront_cons w hl
    have k1 : s1.stopped = false ∧ s1.mode = .masterOnly := ⟨k1.stopped.trans hstop, k1.ext.1.trans hmode⟩
    generalize tryFront s w = t at heq hok ⊢
    cases fail
    · cases hlw : listWatch s.mode (w.sent sent) with
      | error e => rw [hlw] at heq; subst heq; cases hok
      | ok res =>
        obtain ⟨m, r, others⟩ := res
        obtain ⟨a, rfl, hva⟩ := (listWatch_shape _ _ _ _ _ hlw).1 (by rw [hmode]; nofun)
        have hsb : switchByMode (noteReported s1 (some a) r others) w (some a) r =
            switchTarget (noteReported s1 (some a) r others) w a true := by
          unfold switchByMode
          rw [show (noteReported s1 (some a) r others).mode = .masterOnly from k1.2]; rfl
        rw [hlw, if_neg Bool.false_ne_true] at heq
        dsimp only at heq
        rw [hsb] at heq
        cases herr : (switchTarget (noteReported s1 (some a) r others) w a true).2.2.2 with
        | some e => rw [herr] at heq; subst heq; cases hok
        | none =>
          obtain ⟨hrole, hinst⟩ := switch_success (noteReported s1 (some a) r others) w a true k1.1 herr
          have hact := switch_checks_role (noteReported s1 (some a) r others) w a true k1.1 herr
          rw [herr, hinst] at heq
          subst heq
          exact ⟨sent, a, rfl, hva, rfl, rfl, hrole, List.mem_cons_self, List.mem_append_right _ hact⟩
    · subst heq; cases hok

theorem tryFront_ok_checked (s : St) (w : World) (hstop : s.stopped = false) (hmode : s.mode = .masterOnly)
    (hok : (tryFront s w).2.2.2 = true) :
    ∃ a, (tryFront s w).1.mConn = some ⟨a, false, .arr .master⟩ ∧ a ∈ (tryFront s w).1.reportedM ∧
      Act.role a (.arr .master) ∈ (tryFront s w).2.2.1 :=
  let ⟨_, a, _, _, h1, _, _, h2, h3⟩ := tryFront_ok s w hstop hmode hok
  ⟨a, h1, h2, h3⟩

/-- The refresh path of `switch_master_moves`: when a refresh iteration succeeds in master-only mode, the
    stored master is exactly the address the asked sentinel reported, over a live connection, and that
    node answered ROLE "master" during this iteration. -/
theorem refresh_follows_reported_master (s : St) (w : World) (hstop : s.stopped = false)
    (hmode : s.mode = .masterOnly) (hok : (tryFront s w).2.2.2 = true) :
    ∃ sent a, s.sentinels.head? = some sent ∧ (w.sent sent).master = .addr a ∧
      (tryFront s w).1.mConn = some ⟨a, false, .arr .master⟩ ∧ (tryFront s w).1.mAddr = some a ∧
      w.roleOf a = .arr .master :=
  let ⟨sent, a, h1, h2, h3, h4, h5, _⟩ := tryFront_ok s w hstop hmode hok
  ⟨sent, a, h1, h2, h3, h4, h5⟩

theorem refreshLoop_spec (head : Addr) (budget : Nat) (s : St) (w : World) (acts : List Act) :
    Keeps s (refreshLoop head budget s w acts).1 ∧
    (s.stopped = false → s.mode = .masterOnly → (refreshLoop head budget s w acts).2.2.2 = true →
      ∃ a, (refreshLoop head budget s w acts).1.mConn = some ⟨a, false, .arr .master⟩ ∧
        a ∈ (refreshLoop head budget s w acts).1.reportedM ∧
        Act.role a (.arr .master) ∈ (refreshLoop head budget s w acts).2.2.1) := by
  induction budget generalizing s w acts with
  | zero => exact ⟨Keeps.refl s, fun _ _ => nofun⟩
  | succ n ih =>
    have ht := tryFront_keeps s w
    have ht2 : ∀ l, Keeps s { (tryFront s w).1 with sentinels := l } := fun _ =>
      ht.trans (.of_frame rfl rfl rfl rfl id)
    unfold refreshLoop
    by_cases hst : s.stopped = true
    · rw [if_pos hst]; exact ⟨Keeps.refl s, fun h => nomatch hst.symm.trans h⟩
    · rw [if_neg hst]
      dsimp only
      by_cases hok : (tryFront s w).2.2.2 = true
      · rw [if_pos hok]
        refine ⟨ht, fun hstop hmode _ => ?_⟩
        obtain ⟨a, h1, h2, h3⟩ := tryFront_ok_checked s w hstop hmode hok
        exact ⟨a, h1, h2, List.mem_append_right _ h3⟩
      · rw [if_neg hok]
        cases moveToBack (tryFront s w).1.sentinels (s.sentinels.headD 0) with
        | nil => exact ⟨ht2 _, fun _ _ => nofun⟩
        | cons f _ =>
          dsimp only
          by_cases hf : (f == head) = true
          · rw [if_pos hf]; exact ⟨ht2 _, fun _ _ => nofun⟩
          · rw [if_neg hf]
            exact ⟨(ht2 _).trans (ih _ _ _).1, fun hstop hmode =>
              (ih _ _ _).2 (ht.stopped.trans hstop) (ht.ext.1.trans hmode)⟩

theorem refreshLoop_ok_checked (head : Addr) (budget : Nat) (s : St) (w : World) (acts : List Act)
    (hstop : s.stopped = false) (hmode : s.mode = .masterOnly)
    (hok : (refreshLoop head budget s w acts).2.2.2 = true) :
    ∃ a, (refreshLoop head budget s w acts).1.mConn = some ⟨a, false, .arr .master⟩ ∧
      a ∈ (refreshLoop head budget s w acts).1.reportedM ∧
      Act.role a (.arr .master) ∈ (refreshLoop head budget s w acts).2.2.1 :=
  (refreshLoop_spec head budget s w acts).2 hstop hmode hok

theorem refresh_keeps (s : St) (w : World) (budget : Nat) : Keeps s (refresh s w budget).1 := by
  unfold refresh
  cases s.sentinels with
  | nil => exact Keeps.refl s
  | cons head _ =>
    simp only [apply_ite Prod.fst, ite_self]
    exact (refreshLoop_spec head budget s w []).1

theorem refreshRetry_keeps (fuel : Nat) (s : St) (w : World) (budget : Nat) :
    Keeps s (refreshRetry fuel s w budget).1 := by
  induction fuel generalizing s w with
  | zero => exact Keeps.refl s
  | succ n ih =>
    unfold refreshRetry
    have hr := refresh_keeps s w budget
    simp only [apply_ite Prod.fst]
    split
    · exact hr
    · exact hr.trans (ih _ _)

theorem onEvent_keeps (s : St) (w : World) (ev : Event) (fuel budget : Nat) :
    Keeps s (onEvent s w ev fuel budget).1 := by
  have hsw : ∀ a, Keeps s (onEvent s w (.switchMaster true a) fuel budget).1 := by
    intro a
    -- the event's address is recorded like a master address reported by a sentinel
    have k0 : Keeps s { s with reportedM := a :: s.reportedM } := noteReported_keeps s (some a) none []
    have k1 := k0.trans (switchTarget_keeps { s with reportedM := a :: s.reportedM } w a true
      List.mem_cons_self)
    unfold onEvent
    simp only []
    split
    · exact k1
    · exact k1.trans (refreshRetry_keeps _ _ _ _)
  unfold onEvent
  cases ev with
  | switchMaster named a | rebootMaster named a =>
    -- both events run `switchTargetRetry` on the named address
    cases named
    · exact Keeps.refl s
    · exact hsw a
  | slaveChange named =>
    cases named
    · exact Keeps.refl s
    · simp only []
      split
      · exact Keeps.refl s
      · exact refreshRetry_keeps fuel s w budget
  | other => exact Keeps.refl s

theorem tryFront_inv (s : St) (w : World) (h : Inv s) :
    Inv (tryFront s w).1 ∧ Ext s (tryFront s w).1 :=
  (tryFront_keeps s w).inv_ext h

theorem refresh_inv (s : St) (w : World) (budget : Nat) (h : Inv s) :
    Inv (refresh s w budget).1 ∧ Ext s (refresh s w budget).1 :=
  (refresh_keeps s w budget).inv_ext h

theorem refreshRetry_inv (fuel : Nat) (s : St) (w : World) (budget : Nat) (h : Inv s) :
    Inv (refreshRetry fuel s w budget).1 ∧ Ext s (refreshRetry fuel s w budget).1 :=
  (refreshRetry_keeps fuel s w budget).inv_ext h

theorem onEvent_inv (s : St) (w : World) (ev : Event) (fuel budget : Nat) (h : Inv s) :
    Inv (onEvent s w ev fuel budget).1 ∧ Ext s (onEvent s w ev fuel budget).1 :=
  (onEvent_keeps s w ev fuel budget).inv_ext h

theorem refreshLoop_same (head : Addr) (budget : Nat) (s : St) (w : World) (acts : List Act) :
    Same s (refreshLoop head budget s w acts).1 :=
  (refreshLoop_spec head budget s w acts).1.same

theorem refresh_same (s : St) (w : World) (budget : Nat) : Same s (refresh s w budget).1 :=
  (refresh_keeps s w budget).same

/-- every state the client can reach: any number of refreshes, retry loops and events, each under
    an arbitrary (different) environment -/
inductive Reach : St → Prop where
  | init (mode : Mode) (sentinels : List Addr) : Reach { mode := mode, sentinels := sentinels }
  | refresh {s : St} (w : World) (budget : Nat) : Reach s → Reach (refresh s w budget).1
  | refreshRetry {s : St} (w : World) (fuel budget : Nat) : Reach s → Reach (refreshRetry fuel s w budget).1
  | event {s : St} (w : World) (ev : Event) (fuel budget : Nat) : Reach s → Reach (onEvent s w ev fuel budget).1
  | stop {s : St} : Reach s → Reach { s with stopped := true }

/-- In every reachable state the master connection (`mConn`), if any, belongs
    to a node that a sentinel reply or a +switch-master / +reboot event named as master, and — unless
    the client itself has closed that connection — the last ROLE answer received over it was "master";
    the replica connection (`rConn`) belongs to a node a sentinel offered as a replica without
    s-down-time and whose last ROLE answer was "slave". -/
theorem stored_target_verified (s : St) (h : Reach s) : Inv s := by
  induction h with
  | init mode sentinels => exact ⟨fun x hx => by simp at hx, fun x hx => by simp at hx⟩
  | refresh w budget _ ih => exact (refresh_inv _ w budget ih).1
  | refreshRetry w fuel budget _ ih => exact (refreshRetry_inv fuel _ w budget ih).1
  | event w ev fuel budget _ ih => exact (onEvent_inv _ w ev fuel budget ih).1
  | stop _ ih => exact ih

/-- user traffic (sentinelClient.pick) therefore only reaches a live connection of a verified node -/
theorem traffic_goes_to_verified (s : St) (h : Reach s) (toReplica : Bool) (c : Conn)
    (hc : userTarget s toReplica = some c) (hlive : c.closed = false) :
    (c.lastRole = .arr .master ∧ c.addr ∈ s.reportedM) ∨ (c.lastRole = .arr .slave ∧ c.addr ∈ s.reportedR) := by
  have hinv := stored_target_verified s h
  unfold userTarget at hc
  split at hc
  · exact Or.inr ⟨(hinv.2 c hc).2 hlive, (hinv.2 c hc).1⟩
  · split at hc
    · exact Or.inr ⟨(hinv.2 c hc).2 hlive, (hinv.2 c hc).1⟩
    · exact Or.inl ⟨(hinv.1 c hc).2 hlive, (hinv.1 c hc).1⟩

/-- Event path: a +switch-master (or +reboot master) event for our master set
    naming `a`, when `a` can be dialled and answers ROLE "master", makes `a` the master target over a
    live connection — immediately, without asking a sentinel. -/
theorem switch_master_moves (s : St) (w : World) (a : Addr) (fuel budget : Nat) (hstop : s.stopped = false)
    (hdial : w.nodeDialOk a = true) (hrole : w.roleOf a = .arr .master) :
    (onEvent s w (.switchMaster true a) fuel budget).1.mAddr = some a ∧
    (onEvent s w (.switchMaster true a) fuel budget).1.mConn = some ⟨a, false, .arr .master⟩ ∧
    (onEvent s w (.rebootMaster true a) fuel budget).1.mConn = some ⟨a, false, .arr .master⟩ := by
  have hs : ∀ s' : St, s'.stopped = false → (switchTarget s' w a true).2.2.2 = none ∧
      (switchTarget s' w a true).1 = install s' a true (.arr .master) := fun s' hstop => by
    rcases switchTarget_outcomes s' w a true hstop with ⟨_, h, _⟩ | ⟨h, _⟩ | ⟨_, h1, h2, _⟩
    · cases hdial.symm.trans h
    · exact absurd hrole h
    · exact ⟨h1, h2⟩
  simp only [onEvent]
  obtain ⟨h1, h2⟩ := hs { s with reportedM := a :: s.reportedM } hstop
  rw [h1, h2]
  exact ⟨rfl, rfl, rfl⟩

/-- Refresh path: whenever a refresh of a running master-only
    client succeeds, the master connection it leaves behind — new OR reused because the sentinel named
    the same address again — received a ROLE command during THIS refresh and answered "master", and its
    address was named by a sentinel asked during this refresh or earlier. -/
theorem target_was_role_checked_in_this_evaluation (s : St) (w : World) (budget : Nat)
    (hstop : s.stopped = false) (hmode : s.mode = .masterOnly) (hne : s.sentinels ≠ [])
    (hok : (refresh s w budget).2.2.2 = .ok) :
    ∃ a, (refresh s w budget).1.mConn = some ⟨a, false, .arr .master⟩ ∧
      Act.role a (.arr .master) ∈ (refresh s w budget).2.2.1 := by
  unfold refresh at hok ⊢
  cases hl : s.sentinels with
  | nil => exact absurd hl hne
  | cons head rest =>
    have hst := (refreshLoop_same head budget s w []).2.trans hstop
    simp only [hl, hst, Bool.false_eq_true, if_false] at hok ⊢
    cases hlo : (refreshLoop head budget s w []).2.2.2
    · simp [hlo] at hok
    · simp only [Bool.not_true, Bool.false_eq_true, if_false]
      obtain ⟨a, h1, _, h3⟩ := refreshLoop_ok_checked head budget s w [] hstop hmode hlo
      exact ⟨a, h1, h3⟩

theorem master_switch_was_role_checked (s : St) (w : World) (a : Addr) (hstop : s.stopped = false)
    (h : (switchTarget s w a true).2.2.2 = none) :
    Act.role a (.arr .master) ∈ (switchTarget s w a true).2.2.1 ∧
    (switchTarget s w a true).1.mConn = some ⟨a, false, .arr .master⟩ := by
  rw [(switch_success s w a true hstop h).2]
  exact ⟨switch_checks_role s w a true hstop h, rfl⟩

/-- the same for the event path: a +switch-master / +reboot event that is accepted directly sends ROLE on
    the (new or reused) connection to the named address before that connection carries primary traffic -/
theorem event_target_was_role_checked (s : St) (w : World) (a : Addr) (hstop : s.stopped = false)
    (h : (switchTarget { s with reportedM := a :: s.reportedM } w a true).2.2.2 = none) :
    Act.role a (.arr .master) ∈ (switchTarget { s with reportedM := a :: s.reportedM } w a true).2.2.1 ∧
    (switchTarget { s with reportedM := a :: s.reportedM } w a true).1.mConn = some ⟨a, false, .arr .master⟩ :=
  master_switch_was_role_checked _ w a hstop h

/-- the seeded shortcut ("same address and healthy connection: nothing to do") is exactly what these
    theorems exclude: on the reuse path the model still consumes a ROLE answer, and a demoted node fails -/
example :
    let s0 : St := { mode := .masterOnly, sentinels := [100], mAddr := some 0, mConn := some ⟨0, false, .arr .master⟩,
                     reportedM := [0] }
    let w : World := { sent := fun _ => ⟨true, some [], .addr 0, none⟩, nodeDialOk := fun _ => true,
                       roles := [(0, [.arr .slave])] }
    (refresh s0 w 8).2.2.2 = .failed ∧ (refresh s0 w 8).1.mConn = some ⟨0, true, .arr .slave⟩ ∧
    Act.role 0 (.arr .slave) ∈ (refresh s0 w 8).2.2.1 := by decide

/-- A +switch-master (or +reboot master) event for our master set that
    arrives while a refresh is running is handled right after that refresh — whatever the refresh decided,
    even if it re-confirmed the old master from a stale sentinel answer: if the named node can be dialled
    and answers ROLE "master", it is the master target afterwards. -/
theorem event_during_refresh_not_lost (s : St) (w : World) (a : Addr) (fuel budget : Nat)
    (hstop : s.stopped = false)
    (hdial : (refresh s w budget).2.1.nodeDialOk a = true)
    (hrole : (refresh s w budget).2.1.roleOf a = .arr .master) :
    (eventDuringRefresh s w (.switchMaster true a) fuel budget).1.mConn = some ⟨a, false, .arr .master⟩ ∧
    (eventDuringRefresh s w (.rebootMaster true a) fuel budget).1.mConn = some ⟨a, false, .arr .master⟩ ∧
    (eventDuringRefresh s w (.switchMaster true a) fuel budget).1.mAddr = some a := by
  have hst : (refresh s w budget).1.stopped = false := (refresh_same s w budget).2.trans hstop
  have := switch_master_moves (refresh s w budget).1 (refresh s w budget).2.1 a fuel budget hst hdial hrole
  exact ⟨this.2.1, this.2.2, this.1⟩

/-- the lost-event scenario of the seeded change, on the model: the refresh re-confirms the old master 0
    (stale sentinel, node 0 still answers "master"), the event names node 1 — the client ends on node 1 -/
example :
    let s0 : St := { mode := .masterOnly, sentinels := [100], mAddr := some 0, mConn := some ⟨0, false, .arr .master⟩,
                     reportedM := [0] }
    let w : World := { sent := fun _ => ⟨true, some [], .addr 0, none⟩, nodeDialOk := fun _ => true,
                       roles := [(0, [.arr .master]), (1, [.arr .master])] }
    (refresh s0 w 8).1.mConn = some ⟨0, false, .arr .master⟩ ∧
    (eventDuringRefresh s0 w (.switchMaster true 1) 4 8).1.mConn = some ⟨1, false, .arr .master⟩ := by decide

/-- The handler compares the FIRST FIELD of the payload with the configured master
    set (`m[0] == MasterSet`); an event of any other set — also one whose name merely starts with ours — is
    `named = false` and changes nothing, sends nothing. -/
theorem foreign_event_ignored (s : St) (w : World) (a : Addr) (fuel budget : Nat) :
    onEvent s w (.switchMaster false a) fuel budget = (s, w, [], true) ∧
    onEvent s w (.rebootMaster false a) fuel budget = (s, w, [], true) ∧
    onEvent s w (.slaveChange false) fuel budget = (s, w, [], true) := by
  refine ⟨rfl, rfl, rfl⟩

def demoWorld (roleN0 roleN1 : List RoleAns) (master : Addr) : World :=
  { sent := fun _ => ⟨true, some [], .addr master, some [(2, false)]⟩,
    nodeDialOk := fun _ => true,
    roles := [(0, roleN0), (1, roleN1), (2, [.arr .slave])] }

example : (refresh { mode := .masterOnly, sentinels := [100] } (demoWorld [.arr .master] [.arr .slave] 0) 8).1.mConn
    = some ⟨0, false, .arr .master⟩ := by decide
example : (refresh { mode := .masterOnly, sentinels := [100] } (demoWorld [.arr .slave] [.arr .slave] 0) 8).2.2.2
    = .failed := by decide
example : (refresh { mode := .masterOnly, sentinels := [100] } (demoWorld [.empty] [.arr .slave] 0) 8).1.mConn
    = none := by decide
example : (onEvent (refresh { mode := .masterOnly, sentinels := [100] } (demoWorld [.arr .master] [.arr .slave] 0) 8).1
    (demoWorld [.arr .slave] [.arr .master] 1) (.switchMaster true 1) 4 8).1.mConn = some ⟨1, false, .arr .master⟩ := by
  decide
example : Reach (refresh { mode := .both, sentinels := [100] } (demoWorld [.arr .master] [] 0) 8).1 :=
  .refresh _ _ (.init _ _)

end Rv.C23
