/-
C14 — commands are written as RESP arrays that decode to the same argv.
Model: Rv/Model/WriteCmd.lean (writeN/writeB/writeCmd of /repo/resp.go); the decoder is
the RESP reader model of C12 (what a RESP-conforming server does with the bytes).
-/
import Rv.Lemmas.CodecDigits
import Rv.Props.C12
namespace Rv.C14
open Rv Rv.Resp Rv.Spec Rv.WriteCmd Rv.CodecL

/-- the hypothesis about the floating point expression in `writeN`: for `n ≥ 10` it
    yields the exact leading power of ten, `10 ^ (number of digits − 1)` -/
def LeadOK (lead : Nat → Nat) (n : Nat) : Prop := 10 ≤ n → lead n = exactLead n

/-- non-vacuity: the exact function satisfies the hypothesis everywhere -/
theorem exactLead_ok (n : Nat) : LeadOK exactLead n := fun _ => rfl

/-- `exactLead n` is the largest power of ten not exceeding `n` -/
theorem exactLead_spec (n : Nat) (h : 10 ≤ n) :
    exactLead n = 10 ^ ((digits n).length - 1) ∧ exactLead n ≤ n ∧ n < 10 * exactLead n := by
  obtain ⟨h1, h2⟩ := numDigits_bounds n
  have hp := numDigits_pos n
  refine ⟨by rw [exactLead, numDigits_eq_len], h2 h, ?_⟩
  unfold exactLead
  have e : numDigits n = (numDigits n - 1) + 1 := by omega
  rw [e, Nat.pow_succ] at h1; omega

/-- under the hypothesis, `writeN` emits the type byte, the decimal digits of `n`
    (no sign, no leading zeros, exact for every `n`) and CRLF -/
theorem writeN_digits (lead : Nat → Nat) (id : UInt8) (n : Nat) (h : LeadOK lead n) :
    writeN lead id n = id :: digits n ++ crlf := by
  unfold writeN
  by_cases h10 : n < 10
  · rw [if_pos h10, digits, dif_pos h10]; rfl
  · rw [if_neg h10, h (by omega), loop_exact n (by omega)]; rfl

/-- `writeB` emits exactly the RESP bulk string frame of its argument -/
theorem writeB_blob (lead : Nat → Nat) (id : UInt8) (s : List UInt8) (h : LeadOK lead s.length) :
    writeB lead id s = bytes (.blob id s) := by
  unfold writeB
  rw [writeN_digits lead id _ h]
  simp [bytes, crlf]

private theorem writeArgs_bytesL (lead : Nat → Nat) (args : List (List UInt8))
    (h : ∀ a ∈ args, LeadOK lead a.length) :
    writeArgs lead args = bytesL (args.map (Wire.blob 36)) := by
  induction args with
  | nil => simp [writeArgs, bytesL]
  | cons a as ih =>
    simp only [writeArgs, List.map_cons, bytesL]
    rw [writeB_blob lead 36 a (h a (by simp)), ih (fun x hx => h x (by simp [hx]))]

/-- `writeCmd` emits exactly the RESP array of bulk strings of its argument vector -/
theorem writeCmd_eq_bytes (lead : Nat → Nat) (args : List (List UInt8))
    (hn : LeadOK lead args.length) (h : ∀ a ∈ args, LeadOK lead a.length) :
    writeCmd lead args = bytes (.arr 42 (args.map (Wire.blob 36))) := by
  unfold writeCmd
  rw [writeN_digits lead 42 _ hn, writeArgs_bytesL lead args h]
  simp [bytes, crlf]

/-- the argument vector a decoded message stands for: an array (`*`) whose elements are all
    bulk strings (`$`) -/
def argvOf (m : Msg) : Option (List (List UInt8)) :=
  if m.typ = 42 ∧ m.arr.all (fun x => x.typ == 36 && x.arr.isEmpty) then some (m.arr.map Msg.str) else none

/-- decode one command frame with the RESP reader model of C12 (what a server does) -/
def decodeArgv (B : Nat) (bs : List UInt8) : Option (List (List UInt8) × List UInt8) :=
  match decode B bs with
  | .ok (m, rest) => (argvOf m).map (fun a => (a, rest))
  | _ => none

/-- Go lengths are `int`s -/
def GoSized (args : List (List UInt8)) : Prop :=
  args.length < 9223372036854775808 ∧ ∀ a ∈ args, a.length < 9223372036854775808

private theorem wf_cmd (args : List (List UInt8)) (h : GoSized args) :
    WF (.arr 42 (args.map (Wire.blob 36))) = true := by
  obtain ⟨h1, h2⟩ := h
  have hl : ∀ (as : List (List UInt8)), (∀ a ∈ as, a.length < 9223372036854775808) → WFL (as.map (Wire.blob 36)) = true := by
    intro as
    induction as with
    | nil => intro _; simp [WFL]
    | cons a as ih =>
      intro h
      simp only [List.map_cons, WFL, WF, Bool.and_eq_true]
      exact ⟨⟨by decide, decide_eq_true (h a (by simp))⟩, ih (fun x hx => h x (by simp [hx]))⟩
  simp only [WF, Bool.and_eq_true, List.length_map]
  exact ⟨⟨by decide, decide_eq_true h1⟩, hl args h2⟩

private theorem argv_value (args : List (List UInt8)) :
    argvOf (value (.arr 42 (args.map (Wire.blob 36))) []) = some args := by
  have hv : ∀ as : List (List UInt8), valueL (as.map (Wire.blob 36)) = as.map (fun s => Msg.mk 36 s s.length [] []) := by
    intro as; induction as with
    | nil => simp [valueL]
    | cons a as ih => simp [valueL, value, ih]
  simp only [value, hv, argvOf, Msg.typ, Msg.arr]
  simp [List.map_map, Function.comp_def, Msg.str]

/-- **C14 main theorem.** For every argument vector (any number of arguments incl. none, any
    bytes incl. empty strings, binary, CR/LF), what `writeCmd` puts on the wire, followed by
    anything, decodes to exactly that argument vector and leaves the rest unread. -/
theorem decode_writeCmd (B : Nat) (hb : 32 ≤ B) (lead : Nat → Nat) (args : List (List UInt8))
    (hs : GoSized args) (hn : LeadOK lead args.length) (h : ∀ a ∈ args, LeadOK lead a.length)
    (rest : List UInt8) :
    decodeArgv B (writeCmd lead args ++ rest) = some (args, rest) := by
  unfold decodeArgv
  rw [writeCmd_eq_bytes lead args hn h, Rv.C12.decode_encode B hb _ (wf_cmd args hs) rest]
  simp [argv_value]

/-- consecutive commands are framed independently: the concatenation of two written commands
    decodes to the first argv, and what is left decodes to the second argv -/
theorem frames_independent (B : Nat) (hb : 32 ≤ B) (lead : Nat → Nat) (a1 a2 : List (List UInt8))
    (hs1 : GoSized a1) (hs2 : GoSized a2)
    (hn1 : LeadOK lead a1.length) (h1 : ∀ a ∈ a1, LeadOK lead a.length)
    (hn2 : LeadOK lead a2.length) (h2 : ∀ a ∈ a2, LeadOK lead a.length) (rest : List UInt8) :
    decodeArgv B (writeCmd lead a1 ++ writeCmd lead a2 ++ rest) = some (a1, writeCmd lead a2 ++ rest) ∧
    decodeArgv B (writeCmd lead a2 ++ rest) = some (a2, rest) := by
  rw [List.append_assoc]
  exact ⟨decode_writeCmd B hb lead a1 hs1 hn1 h1 _, decode_writeCmd B hb lead a2 hs2 hn2 h2 rest⟩

/-- decode exactly `n` command frames from `bs`; nothing may be left over -/
def decodeAll (B : Nat) : Nat → List UInt8 → Option (List (List (List UInt8)))
  | 0, bs => if bs.isEmpty then some [] else none
  | n + 1, bs => match decodeArgv B bs with
    | some (a, rest) => (decodeAll B n rest).map (a :: ·)
    | none => none

/-- a whole pipeline: any number of commands written back to back decode, in order, to their argvs -/
theorem pipeline_decodes (B : Nat) (hb : 32 ≤ B) (lead : Nat → Nat) (cmds : List (List (List UInt8)))
    (h : ∀ c ∈ cmds, GoSized c ∧ LeadOK lead c.length ∧ ∀ a ∈ c, LeadOK lead a.length) :
    decodeAll B cmds.length ((cmds.map (writeCmd lead)).flatten) = some cmds := by
  induction cmds with
  | nil => simp [decodeAll]
  | cons c cs ih =>
    obtain ⟨hs, hn, ha⟩ := h c (by simp)
    simp only [List.map_cons, List.flatten_cons, List.length_cons, decodeAll]
    rw [decode_writeCmd B hb lead c hs hn ha]
    simp [ih (fun x hx => h x (by simp [hx]))]

/-- the hypothesis-free corollary for the exact leading power -/
theorem decode_writeCmd_exact (B : Nat) (hb : 32 ≤ B) (args : List (List UInt8)) (hs : GoSized args)
    (rest : List UInt8) : decodeArgv B (writeCmd exactLead args ++ rest) = some (args, rest) :=
  decode_writeCmd B hb exactLead args hs (exactLead_ok _) (fun _ _ => exactLead_ok _) rest

/-! ### the caller's argv is left alone: a second write of the same command is the same frame -/

private theorem writeArgsSt_eq (lead : Nat → Nat) (args : List (List UInt8)) :
    writeArgsSt lead args = (writeArgs lead args, args) := by
  induction args with
  | nil => rfl
  | cons a as ih => simp only [writeArgsSt, ih, writeArgs]

/-- `writeCmd` is a function of the argv only, and the argv (the caller's slice, which belongs to the
    `Completed` command) is exactly what it was before the call -/
theorem writeCmd_leaves_argv (lead : Nat → Nat) (cmd : List (List UInt8)) :
    writeCmdSt lead cmd = (writeCmd lead cmd, cmd) := by
  simp only [writeCmdSt, writeArgsSt_eq, writeCmd]

/-- writing the same command again (retry of a read-only command, MOVED/ASK redirect, reuse of a pinned
    command) emits the same frame again and still leaves the argv unchanged -/
theorem writeCmd_idempotent (lead : Nat → Nat) (cmd : List (List UInt8)) :
    writeTwice lead cmd = (writeCmd lead cmd ++ writeCmd lead cmd, cmd) := by
  simp only [writeTwice, writeCmd_leaves_argv]

/-- … so both frames of a command written twice decode to the argv -/
theorem rewrite_decodes (B : Nat) (hb : 32 ≤ B) (lead : Nat → Nat) (args : List (List UInt8))
    (hs : GoSized args) (hn : LeadOK lead args.length) (h : ∀ a ∈ args, LeadOK lead a.length) :
    decodeAll B 2 (writeTwice lead args).1 = some [args, args] ∧ (writeTwice lead args).2 = args := by
  rw [writeCmd_idempotent]
  refine ⟨?_, rfl⟩
  have := pipeline_decodes B hb lead [args, args] (by
    intro c hc; simp only [List.mem_cons, List.not_mem_nil, or_false, or_self] at hc; subst hc; exact ⟨hs, hn, h⟩)
  simpa using this

/-- a wrong leading power is visible: one power too small at `n = 100` writes `:0` for `100` -/
example : writeN (fun _ => 10) 42 100 = [42, 58, 48, 13, 10] := by
  simp [writeN, loop]

/-! non-vacuity / concrete frames: the empty command, empty and binary arguments -/
example : writeCmd exactLead [] = [42, 48, 13, 10] := by simp [writeCmd, writeN, writeArgs]
example : writeCmd exactLead [[], [13, 10, 0, 255]] =
    [42, 50, 13, 10, 36, 48, 13, 10, 13, 10, 36, 52, 13, 10, 13, 10, 0, 255, 13, 10] := by
  simp [writeCmd, writeN, writeArgs, writeB]
example : GoSized [[], [13, 10, 0, 255]] := by simp [GoSized]

end Rv.C14
