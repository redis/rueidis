/-
The interleaving model Rv/Model/PipeLife.lean is the code: statement-level facts re-extracted from pipe.go
on every run. Kept apart from Rv/Props/C04b.lean so that a change of pipe.go (a regenerated
Rv/Gen/PipeShape.lean) rebuilds only this file, not the lemma stack.
-/
import Rv.Gen.PipeShape
namespace Rv.C04.Life

open Rv.Gen.PipeShape in
/-- The statements the model transcribes, re-extracted from pipe.go on every
    run: the values ever written to `p.state` (0→1 in `background`, 1→2 in `_exit`, 0→2/1→2 in `Close`,
    the final store 4, the static dead pipes 3); `background()` and `_exit` statement by statement (error
    latch, then state CAS, then `conn.Close`); the exit path of `_background` in order (writer exit closes
    `p.close`, `_exit(rerr)`, the wake-up PING, `p.Error()`, the loop `for p.loadWaits() != 0`, `<-p.close`,
    the store); the drain loop body; the deferred handler of the reader; `Close` statement by statement;
    in Do/DoMulti the order ctx check, `incrWaits`, state load, reject branch, tail, put, select, abort
    goroutine (with the verif scheduling point `verifYieldAfterIncrWaits(waits)` between `incrWaits` and the
    state load), and the tail condition `waits == 1 && left != 0` (the model's `fix = true`, fix eac8ecc). -/
theorem pipelife_shape_pinned :
    stateWrites =
      ["background: atomic.CompareAndSwapInt32(&p.state, 0, 1)", "_exit: atomic.CompareAndSwapInt32(&p.state, 1, 2)",
       "_background: atomic.StoreInt32(&p.state, 4)", "Close: atomic.CompareAndSwapInt32(&p.state, 0, 2)",
       "Close: atomic.CompareAndSwapInt32(&p.state, 1, 2)", "deadFn: pipe{state: 3}", "epipeFn: pipe{state: 3}"] ∧
    background_inner =
      ["atomic.CompareAndSwapInt32(&p.state, 0, 1)",
       "if atomic.CompareAndSwapInt32(&p.bgState, 0, 1) { go p._background() }"] ∧
    body__exit =
      ["p.error.CompareAndSwap(nil, &errs{error: err})", "atomic.CompareAndSwapInt32(&p.state, 1, 2)",
       "_ = p.conn.Close()", "p.clhks.Load().(func(error))(err)"] ∧
    backgroundOrder =
      ["writerExit", "readerExit", "wakeupPing", "loadError", "drainLoop", "awaitWriter", "storeClosed"] ∧
    backgroundEndsWithStore = true ∧ wakeupPingDecrements = true ∧ readDeferCompletesInflight = true ∧
    drainLoopBody =
      ["select { case <-p.close: closed = true _, _, _ = p.queue.NextWriteCmd() default: }",
       "if _, _, ch, resps = p.queue.NextResultCh(); ch != nil { resp := resp if !closed || p.rcnt < p.wcnt { resp = sent } p.rcnt++ for i := range resps { resps[i] = resp } ch <- resp p.queue.FinishResult() } else { p.queue.FinishResult() runtime.Gosched() }"] ∧
    closeStmts =
      ["p.error.CompareAndSwap(nil, errClosing)", "block := atomic.AddInt32(&p.blcksig, 1)", "waits := p.incrWaits()",
       "stopping1 := atomic.CompareAndSwapInt32(&p.state, 0, 2)", "stopping2 := atomic.CompareAndSwapInt32(&p.state, 1, 2)",
       "if p.queue != nil { if stopping1 && waits == 1 { p.background() } if block == 1 && (stopping1 || stopping2) { p.incrWaits() ch, _ := p.queue.PutOne(context.Background(), cmds.PingCmd) select { case <-ch: p.decrWaits() case <-time.After(time.Second): go func(ch chan RedisResult) { <-ch p.decrWaits() }(ch) } } }",
       "p.decrWaits()", "atomic.AddInt32(&p.blcksig, -1)", "if p.pingTimer != nil { p.pingTimer.Stop() }",
       "if p.authTimer != nil { p.authTimer.Stop() }", "if p.conn != nil { p.conn.Close() }",
       "if p.r2p != nil { p.r2p.Close() }"] ∧
    expiredStmts = ["p.error.CompareAndSwap(nil, errExpired)", "p.Close()"] ∧
    stateLoadAfterIncr_Do = true ∧ stateLoadAfterIncr_DoMulti = true ∧ yieldOffIsEmpty = true ∧
    admissionOrder_Do = ["ctxCheck", "incrWaits", "loadState", "reject", "tail", "put", "select", "abort"] ∧
    admissionOrder_DoMulti = ["ctxCheck", "incrWaits", "loadState", "reject", "tail", "put", "select", "abort"] ∧
    tail_Do = "left := p.decrWaitsAndIncrRecvs(); waits == 1 && left != 0 { p.background() }" ∧
    tail_DoMulti = "left := p.decrWaitsAndIncrRecvs(); waits == 1 && left != 0 { p.background() }" ∧
    ctxCheckFirst_Do = true ∧ ctxCheckFirst_DoMulti = true ∧ selectOnDone_Do = true ∧ selectOnDone_DoMulti = true ∧
    drainLoopsOnWaits = true ∧ drainChoosesByCounters = true ∧ drainSentGuard = true ∧
    writerCountsBatches = true ∧ readerCountsFetches = true := by
  refine ⟨rfl, rfl, rfl, rfl, rfl, rfl, rfl, rfl, rfl, rfl, rfl, rfl, rfl, rfl, rfl, rfl, rfl, rfl, rfl, rfl,
    rfl, rfl, rfl, rfl, rfl, rfl⟩

end Rv.C04.Life
