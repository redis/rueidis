/-
C02 — the pipeline queue hands each command off exactly once in FIFO order.

Property theorems about the models of /repo/ring.go (Rv/Model/Ring.lean) and
/repo/flowbuffer.go (Rv/Model/FlowBuffer.lean), for ALL interleavings (= all sequences of
enabled transitions from the initial state), any number of callers, any slot count 2^k with
k ≤ 32 (the counters are uint32).
-/
import Rv.Lemmas.RingLive
import Rv.Lemmas.RingLogs
import Rv.Lemmas.RingPos
import Rv.Lemmas.RingFlow
import Rv.Lemmas.RingOrder
import Rv.Lemmas.RingProgress
import Rv.Lemmas.RingOneCond
import Rv.Lemmas.RingWrap
namespace Rv.C02
open Rv.Ring Rv.Spec

/-- `store[counter & mask]`: reducing the counter modulo 2^32 first does not change the slot,
    so the wrap-around of `write`/`read1`/`read2` keeps the round-robin order of the slots -/
theorem wraparound (k c : Nat) (hk : k ≤ 32) : (c % 2 ^ 32) % 2 ^ k = c % 2 ^ k :=
  slotOf_eq k c hk

/-- the slot index used by the model (and by the Go code) is the unbounded counter mod 2^k -/
theorem slot_index (k c : Nat) (hk : k ≤ 32) : slotOf k c = c % 2 ^ k := slotOf_eq k c hk

/-- Refinement "Go counters = model positions mod 2^32", made explicit: `wrap32 σ` is the state
    with `write`, `read1`, `read2` reduced modulo 2^32 (what the uint32 fields hold). The wrap is
    invisible: exactly the same transitions are enabled on the wrapped state, a step on the
    wrapped state followed by wrapping equals wrapping after the step on unbounded positions,
    hence a whole uint32 run is the image of the unbounded run (`run32` = `run` then `wrap32`) —
    because the model (like ring.go) touches the counters only by `+1` and by the slot index
    `counter mod 2^k`, never by an order comparison. -/
theorem wrap_around_invisible (k : Nat) (l : Label) (ls : List Label) (σ : State) :
    enabled k l (wrap32 σ) = enabled k l σ ∧
    wrap32 (apply k l (wrap32 σ)) = wrap32 (apply k l σ) ∧
    run32 k (wrap32 σ) ls = (run k σ ls).map wrap32 :=
  ⟨enabled_wrap32 k l σ, apply_wrap32 k l σ, run_wrap32 k ls σ⟩

/-- comparisons between counters are meaningful only as equalities on residues:
    (1) within 2^32 commands of each other two positions are equal iff their residues are;
    (2) the ORDER of residues is meaningless — one command queued across the wrap gives
        `read1 < write` but `write mod 2^32 < read1 mod 2^32`;
    (3) the equalities are sound emptiness tests: `read1 = write` implies the writer's next slot
        is not filled, `read2 = write` implies the reader's next slot is not in flight. -/
theorem counter_comparisons_on_residues (k : Nat) (hk : k ≤ 32) (σ : State) (h : Reachable k σ) :
    (∀ a b : Nat, a ≤ b → b < a + 2 ^ 32 → (a % 2 ^ 32 = b % 2 ^ 32 ↔ a = b)) ∧
    (∃ read1 write : Nat, read1 < write ∧ write = read1 + 1 ∧ write % 2 ^ 32 < read1 % 2 ^ 32) ∧
    (σ.read1 = σ.write → (σ.slot (slotOf k (σ.read1 + 1))).mark ≠ 1) ∧
    (σ.read2 = σ.write → (σ.slot (slotOf k (σ.read2 + 1))).mark ≠ 2) :=
  ⟨fun a b h1 h2 => ⟨fun h => mod_window_unique _ a b h (by omega) h2, fun h => h ▸ rfl⟩,
    ⟨4294967295, 4294967296, by decide, by decide, by decide⟩,
    nothing_queued_of_eq hk h, nothing_in_flight_of_eq hk h⟩

/-- counters and marks: `read2 ≤ read1 ≤ read2 + N`; one ticket per caller; every slot carries
    the queue position `gen` it serves in its current cycle, `gen ≡ slot (mod N)`,
    `read2 < gen ≤ read2 + N`; a slot is `2` (handed to the writer, reply outstanding) exactly
    when its position has been taken by the writer, otherwise `0` or `1` -/
theorem ring_invariants (k : Nat) (hk : k ≤ 32) (σ : State) (h : Reachable k σ) :
    σ.read2 ≤ σ.read1 ∧ σ.read1 ≤ σ.read2 + 2 ^ k ∧ σ.write = σ.ncalls ∧
    ∀ s, s < 2 ^ k →
      (σ.slot s).mark ≤ 2 ∧ (σ.slot s).gen % 2 ^ k = s ∧
      σ.read2 < (σ.slot s).gen ∧ (σ.slot s).gen ≤ σ.read2 + 2 ^ k ∧
      ((σ.slot s).mark = 2 ↔ (σ.slot s).gen ≤ σ.read1) := by
  have i := Inv.of_reachable hk h
  exact ⟨i.a.r21, i.a.r1N, i.b.wn, fun s hs =>
    ⟨i.a.markle s hs, i.a.genmod s hs, i.a.genlo s hs, i.a.genhi s hs, i.a.mark2 s hs⟩⟩

/-- the writer's and the reader's next slot carry exactly the positions `read1 + 1` and
    `read2 + 1` (when not all N slots are in flight): the three counters chase each other
    round the ring without skipping or repeating a position — also across the 2^32 wrap -/
theorem next_positions (k : Nat) (hk : k ≤ 32) (σ : State) (h : Reachable k σ) :
    (σ.slot (slotOf k (σ.read2 + 1))).gen = σ.read2 + 1 ∧
    (σ.read1 < σ.read2 + 2 ^ k → (σ.slot (slotOf k (σ.read1 + 1))).gen = σ.read1 + 1) := by
  have i := Inv.of_reachable hk h
  have := i.a.r21
  have := Nat.two_pow_pos k
  rw [slotOf_eq k _ hk, slotOf_eq k _ hk]
  exact ⟨i.a.gen_of_window _ (by omega) (by omega), fun hlt => i.a.gen_of_window _ (by omega) (by omega)⟩

theorem cycle_upd (f : Nat → Slot) (s0 s : Nat) (n : Slot)
    (h : n.mark = (f s0).mark ∨ ((f s0).mark = 0 ∧ n.mark = 1) ∨ ((f s0).mark = 1 ∧ n.mark = 2) ∨
      ((f s0).mark = 2 ∧ n.mark = 0)) :
    (upd f s0 n s).mark = (f s).mark ∨ ((f s).mark = 0 ∧ (upd f s0 n s).mark = 1) ∨
      ((f s).mark = 1 ∧ (upd f s0 n s).mark = 2) ∨ ((f s).mark = 2 ∧ (upd f s0 n s).mark = 0) := by
  unfold upd
  split
  next e => rw [e]; exact h
  · exact Or.inl rfl

/-- per-slot cycle: a transition leaves a slot's mark alone or moves it 0→1 (filled), 1→2
    (handed to the writer) or 2→0 (reply slot taken by the reader) -/
theorem slot_cycle (k : Nat) (σ : State) (l : Label) (s : Nat) :
    let m := (σ.slot s).mark
    let m' := ((apply k l σ).slot s).mark
    m' = m ∨ (m = 0 ∧ m' = 1) ∨ (m = 1 ∧ m' = 2) ∨ (m = 2 ∧ m' = 0) := by
  -- a transition keeps `slot` or overwrites one slot, under the guard on that slot's mark
  cases l with
  | arrive => exact Or.inl rfl
  | enter c =>
    simp only [Ring.apply]
    split
    · split
      next h => exact cycle_upd _ _ _ _ (Or.inr (Or.inl ⟨h, rfl⟩))
      · exact Or.inl rfl
    · exact Or.inl rfl
  | wTry =>
    rw [Ring.apply]
    split
    next h => exact cycle_upd _ _ _ _ (Or.inr (Or.inr (Or.inl ⟨h, rfl⟩)))
    · exact Or.inl rfl
  | wWait =>
    rw [Ring.apply]
    split
    next h => exact cycle_upd _ _ _ _ (Or.inr (Or.inr (Or.inl ⟨h, rfl⟩)))
    · exact cycle_upd _ _ _ _ (Or.inl rfl)
  | wWake =>
    simp only [Ring.apply]
    split
    · split
      next h => exact cycle_upd _ _ _ _ (Or.inr (Or.inr (Or.inl ⟨h, rfl⟩)))
      · exact cycle_upd _ _ _ _ (Or.inl rfl)
    · exact Or.inl rfl
  | rBegin =>
    rw [Ring.apply]
    split
    next h => exact cycle_upd _ _ _ _ (Or.inr (Or.inr (Or.inr ⟨h, rfl⟩)))
    · exact Or.inl rfl
  | bcast c | rDeliver c | rUnlock => rw [Ring.apply]; split <;> exact Or.inl rfl
  | rSignal w =>
    rw [Ring.apply]
    split
    · split <;> exact Or.inl rfl
    · exact Or.inl rfl

/-- the unbuffered reply channel of a slot has at most one receiver: two callers blocked on the
    same `n.ch` are the same caller -/
theorem one_receiver (k : Nat) (hk : k ≤ 32) (σ : State) (h : Reachable k σ) (s c c' : Nat)
    (h1 : σ.pc c = .filled s) (h2 : σ.pc c' = .filled s) : c = c' := by
  have i := Inv.of_reachable hk h
  exact i.b.owner_unique i.a (.inl h1) (.inl h2)

/-- the slot's mutex is held from NextResultCh to FinishResult: while the reader is about to
    send the reply of command r on slot s's channel, the slot is locked and free (`mark = 0`),
    no caller can enter it, and the only goroutine receiving on that channel is caller r itself -/
theorem lock_held_during_reply (k : Nat) (hk : k ≤ 32) (σ : State) (h : Reachable k σ) (s r : Nat)
    (hr : σ.rpc = .holding s (some r)) :
    locked σ s = true ∧ (σ.slot s).mark = 0 ∧
    (∀ c, σ.pc c = .ready s → enabled k (.enter c) σ = false) ∧
    (∀ c, enabled k (.rDeliver c) σ = true → c = r) := by
  have i := Inv.of_reachable hk h
  refine ⟨by simp [locked, hr], i.a.hmark s r hr, ?_, ?_⟩
  · intro c hc; simp [enabled, hc, locked, hr]
  · intro c he
    simp only [enabled, hr] at he
    exact (i.b.deliver i.a c s r hr (by simpa using he)).1

/-- each enqueued command is handed to the writer at most once (`wlog` is duplicate free) and
    only after its caller stored it in a slot; the replies are delivered in exactly the
    writer's order (`clog` is the doubled prefix of `wlog`), i.e. the reply of command c goes
    to caller c — the caller that enqueued it — and to nobody else, once; a caller that got a
    reply got the reply of its own command. ("Eventually handed over" is `no_stuck`.) -/
theorem exactly_once (k : Nat) (hk : k ≤ 32) (σ : State) (h : Reachable k σ) :
    σ.wlog.Nodup ∧
    σ.clog = (σ.wlog.take σ.clog.length).map (fun c => (c, c)) ∧
    σ.clog.length ≤ σ.wlog.length ∧
    (∀ c, c ∈ σ.wlog → σ.pos c ≠ 0 ∧ c < σ.ncalls) ∧
    (∀ c r, σ.pc c = .done r → r = c ∧ (c, c) ∈ σ.clog) := by
  have i := Inv.of_reachable hk h
  refine ⟨?_, clog_prefix i, clog_le_wlog i, ?_, ?_⟩
  · rw [i.b.wlog_eq]; exact posList_nodup _ σ.pos _ i.b.atpos
  · intro c hc
    obtain ⟨p, h1, h2, e⟩ := mem_posList.1 (i.b.wlog_eq ▸ hc)
    have := i.b.atpos p h1 h2
    rw [e] at this
    have hne : σ.pos c ≠ 0 := by omega
    exact ⟨hne, lt_ncalls i c fun e => hne (i.b.idl c e)⟩
  · intro c r hd
    obtain ⟨e, p1, p2⟩ := i.b.dne c r hd
    refine ⟨e, i.b.clog_eq ▸ List.mem_map.2 ⟨c, mem_posList.2 ⟨_, p1, p2, ?_⟩, rfl⟩⟩
    exact InvP.of_reachable hk h c (by omega)

/-- FIFO in queue order: the i-th command handed to the writer is the command stored at queue
    position i (slot `i mod N` in its `⌈i/N⌉`-th cycle), for every i, and a filled slot holds
    the command of its current position — the writer can neither skip nor reorder positions -/
theorem fifo_order (k : Nat) (hk : k ≤ 32) (σ : State) (h : Reachable k σ) :
    σ.wlog = (List.range σ.read1).map (fun i => σ.atPos (i + 1)) ∧
    (∀ s c, s < 2 ^ k → (σ.slot s).mark ≠ 0 → (σ.slot s).cmd = some c →
      σ.atPos (σ.slot s).gen = c ∧ σ.pos c = (σ.slot s).gen) := by
  have i := Inv.of_reachable hk h
  refine ⟨i.b.wlog_eq, ?_⟩
  intro s c hs hm hc
  obtain ⟨c', h1, _, h3, h4⟩ := i.b.occ s hs hm
  rw [hc] at h1; injection h1 with h1; subst h1
  exact ⟨h3, h4⟩

/-- schedule of 3 callers on a ring of 2 slots: caller 0 takes ticket 1 and stalls before
    locking; caller 1 (ticket 2) completes its PutOne; caller 2 arrives afterwards, gets ticket
    3 = slot 1 again, finds it free and fills it -/
def overtakeSchedule : List Label :=
  [.arrive, .arrive, .enter 1, .arrive, .enter 2, .wTry, .wTry,
   .rBegin, .rDeliver 2, .rUnlock, .rSignal none, .enter 0, .wTry]

/-- The stronger reading "the writer sees commands in ticket order" (= call ids 0,1,2,…) does
    NOT hold for the ring as it is when more callers than slots are in flight: in the reachable
    run `overtakeSchedule` the writer receives 2, 1, 0, although caller 1's PutOne had returned
    (`pc 1 = filled`) before caller 2 had even arrived (`ncalls = 2`). The ring is therefore
    not a linearizable FIFO w.r.t. PutOne call intervals; the harness observes the same
    overtaking on the real ring (`ring:realtime-overtake`, only with callers > slots). -/
theorem ticket_order_fails :
    (run 1 (init 1) overtakeSchedule).map (·.wlog) = some [2, 1, 0] ∧
    (run 1 (init 1) (overtakeSchedule.take 3)).map (fun σ => (σ.pc 1, σ.ncalls)) = some (.filled 0, 2) := by
  decide

/-- the position a caller fills is always congruent to its slot, i.e. it can deviate from the
    caller's ticket only by a multiple of N (a whole number of ring cycles) -/
theorem fill_position_congruent (k : Nat) (hk : k ≤ 32) (σ : State) (h : Reachable k σ) (c s : Nat)
    (hc : σ.pc c = .filled s ∨ σ.pc c = .bcast s) (hm : (σ.slot s).mark ≠ 0) :
    σ.pos c % 2 ^ k = s := by
  have i := Inv.of_reachable hk h
  obtain ⟨hs, l2⟩ := i.b.live c s hc
  obtain ⟨c', h1, _, _, h4⟩ := i.b.occ s hs hm
  rcases l2 with l2 | l2
  · rw [l2.2] at h1; injection h1 with h1; subst h1
    rw [h4]; exact i.a.genmod s hs
  · exact absurd (i.a.hmark s c l2) hm

/-- Exact condition for ticket order = hand-off order: never more callers in flight than
    slots. `Bounded k σ` is the decidable state predicate `write ≤ read2 + 2^k` (tickets issued
    minus reply slots taken ≤ N; implied by "at most N caller goroutines, each waiting for its
    reply before the next call") and `ReachableB` are the runs all of whose states satisfy it.
    In every such run, for ANY interleaving: every stored command sits at the queue position of
    its caller's ticket (`pos c = c + 1`, call ids are issued in ticket order), the writer
    receives the calls' commands in ticket order `0, 1, 2, …` and the replies follow the same
    order. Outside the condition the statement is false: `ticket_order_fails`. -/
theorem fifo_ticket_order (k : Nat) (hk : k ≤ 32) (σ : State) (h : ReachableB k σ) :
    σ.wlog = List.range σ.read1 ∧
    σ.clog = (List.range σ.clog.length).map (fun c => (c, c)) ∧
    (∀ c, σ.pos c ≠ 0 → σ.pos c = c + 1) := by
  have w := wlog_ticket_order hk h
  have i := Inv.of_reachable hk h.reachable
  refine ⟨w, ?_, (InvJ.of_reachableB hk h).j2⟩
  have hp := clog_prefix i
  have hle : σ.clog.length ≤ σ.read1 := by
    have := clog_le_wlog i
    rwa [w, List.length_range] at this
  conv => lhs; rw [hp, w, List.take_range, Nat.min_eq_left hle]

/-- the ticket-order hypothesis is decidable on a run (`runB` checks it state by state), it is
    satisfiable (two callers on two slots, handed over in ticket order), and the overtaking
    schedule of `ticket_order_fails` is exactly a run that leaves it (its third arrival makes
    `write = 3 > read2 + 2`) -/
theorem fifo_ticket_order_nonvacuous :
    (runB 1 (init 1) [.arrive, .arrive, .enter 1, .enter 0, .wTry, .wTry]).map (·.wlog) = some [0, 1] ∧
    runB 1 (init 1) overtakeSchedule = none ∧
    (run 1 (init 1) overtakeSchedule).isSome = true := by
  decide

/-- every run of the ring maps to a run of the FIFO specification (forward simulation, each
    ring transition ↦ zero, one or two spec events appended in time order) with the same
    writer-dequeue sequence, the same completion sequence (command, receiving caller) and the
    same multiset of enqueued (command, owner) pairs; the enqueue is linearised immediately
    before the dequeue (see `ticket_order_fails` for why no earlier point works in general) -/
theorem ring_refines_fifo (k : Nat) (hk : k ≤ 32) (σ : State) (h : Reachable k σ) :
    ∃ evs q, Fifo.run Fifo.empty evs = some q ∧
      Fifo.deqs evs = σ.wlog ∧ Fifo.fins evs = σ.clog ∧
      Fifo.enqs evs = σ.wlog.map (fun c => (c, c)) ∧
      q.written = (σ.wlog.drop σ.clog.length).map (fun c => (c, c)) := by
  suffices ∃ evs q, Sim σ evs q by
    obtain ⟨evs, q, s⟩ := this
    exact ⟨evs, q, s.run, s.deqs, s.fins, s.enqs, s.writ⟩
  induction h with
  | init => exact ⟨[], Fifo.empty, ⟨rfl, rfl, rfl, rfl, rfl, rfl⟩⟩
  | step l hr he ih =>
    obtain ⟨evs, q, s⟩ := ih
    obtain ⟨evs', q', s'⟩ := sim_step hk (Inv.of_reachable hk hr) he s
    exact ⟨_, _, s'⟩

/-- No lost wake-up, no deadlock — for any number of callers, also many more than slots.
    In every reachable state in which some caller is pending (inside PutOne/PutMulti or waiting
    for its reply) a *productive* transition is enabled, where productive excludes new
    arrivals, polls that find nothing and the writer merely going to sleep.
    Fairness / environment assumption made explicit: every goroutine with an enabled
    transition is eventually scheduled; the reader calls NextResultCh once a written command
    is outstanding ("the server answers what was written": `rBegin` counts as productive only
    when the slot is marked 2) and then sends the reply and calls FinishResult; the writer
    alternates NextWriteCmd / WaitForWrite; `sync.Cond.Wait` registers the waiter before
    releasing the mutex, `Signal` wakes one registered waiter if there is one. -/
theorem no_stuck (k : Nat) (hk : k ≤ 32) (σ : State) (h : Reachable k σ) (c : Nat)
    (hc : σ.pc c ≠ .idle ∧ ∀ r, σ.pc c ≠ .done r) :
    ∃ l, l ≠ .arrive ∧ enabled k l σ = true ∧ productive k l σ = true := by
  obtain ⟨l, h1, h2⟩ := (Full.of_reachable hk h).no_stuck hk c hc
  refine ⟨l, ?_, h1, h2⟩
  intro e; subst e; simp [productive] at h2

/-- the three wake-up invariants behind `no_stuck`, stated on their own:
    (1) `slept` is true only while the writer is parked on (or just woken from) that slot;
    (2) a caller that filled a slot whose `slept` flag was set still owes the Broadcast, and
        the writer is still parked there — the Broadcast cannot be lost or go stale;
    (3) a caller in c1's wait set is covered by a filled slot, by the reader inside
        NextResultCh…FinishResult/Signal on that slot, or by an already woken caller -/
theorem no_lost_wakeup (k : Nat) (hk : k ≤ 32) (σ : State) (h : Reachable k σ) :
    (∀ s, (σ.slot s).slept = true → σ.wpc = .sleeping s ∨ σ.wpc = .woken s) ∧
    (∀ c s, σ.pc c = .bcast s → σ.wpc = .sleeping s ∧ (σ.slot s).mark = 1) ∧
    (∀ s, σ.wpc = .sleeping s → (σ.slot s).mark = 1 → ∃ c, (σ.slot s).cmd = some c ∧ σ.pc c = .bcast s) ∧
    (∀ c s, σ.pc c = .waiting s → Covered σ s) := by
  have f := Full.of_reachable hk h
  exact ⟨f.w.sl, f.w.bc, f.w.lw2, f.s.lw1⟩

/-- `no_stuck` in the plain form: no reachable deadlock state. Whenever some caller is pending
    there is an enabled transition of a caller, the writer or the reader that is not a new
    arrival (and not an empty poll) -/
theorem ring_no_deadlock (k : Nat) (hk : k ≤ 32) (σ : State) (h : Reachable k σ)
    (hp : ∃ c, pending σ c) : ∃ l, l ≠ .arrive ∧ enabled k l σ = true ∧ productive k l σ = true := by
  obtain ⟨c, hc⟩ := hp
  exact no_stuck k hk σ h c hc

/-- the progress measure `mu σ = 6·(ncalls − read2) + 2·#ready + #bcast + (ncalls − read1) +
    readerPhase` strictly decreases on every productive transition of a caller, the writer or
    the reader (everything except: a new arrival, NextWriteCmd/NextResultCh polls that find
    nothing, the writer going to sleep), in every reachable state -/
theorem ring_progress_measure_decreases (k : Nat) (hk : k ≤ 32) (σ : State) (h : Reachable k σ)
    (l : Label) (he : enabled k l σ = true) (hpr : productive k l σ = true) :
    mu (apply k l σ) < mu σ :=
  mu_decreases hk (Full.of_reachable hk h) l he hpr

/-- hence between two arrivals at most `mu σ` productive transitions can happen (no livelock),
    and together with `ring_no_deadlock`: with finitely many arrivals, under the fairness
    assumption of `no_stuck`, every run reaches a state without productive transitions, and in
    such a state every caller that arrived has received the reply of its own command — for
    any number of callers, also many more than slots -/
theorem ring_progress (k : Nat) (hk : k ≤ 32) (σ : State) (h : Reachable k σ) :
    (∀ ls σ', runP k σ ls = some σ' → mu σ' + ls.length ≤ mu σ) ∧
    ((∀ l, enabled k l σ = true → productive k l σ = false) →
      ∀ c, c < σ.ncalls → σ.pc c = .done c) := by
  refine ⟨fun ls σ' r => (runP_bound hk ls σ σ' h r).1, ?_⟩
  intro hq c hc
  have i := Inv.of_reachable hk h
  refine Decidable.byContradiction fun hnd => ?_
  have hpend : pending σ c := ⟨arrived_not_idle h c hc, fun r hr => hnd ((i.b.dne c r hr).1 ▸ hr)⟩
  obtain ⟨l, _, h1, h2⟩ := no_stuck k hk σ h c hpend
  rw [hq l h1] at h2; cases h2

/-- wake-up targets of the model (= of ring.go as it is): FinishResult's `c1.Signal` wakes a
    caller parked in `c1.Wait` on that slot whenever there is one — never the writer, whose pc
    it leaves untouched — and does nothing only if no caller is parked there -/
theorem signal_wakes_a_waiting_caller (k : Nat) (hk : k ≤ 32) (σ : State) (h : Reachable k σ)
    (s : Nat) (w : Option Nat) (hr : σ.rpc = .signal s) (he : enabled k (.rSignal w) σ = true) :
    (apply k (.rSignal w) σ).wpc = σ.wpc ∧
    (match w with
     | some c => σ.pc c = .waiting s ∧ (apply k (.rSignal w) σ).pc c = .ready s
     | none => ∀ c, σ.pc c ≠ .waiting s) := by
  have i := Inv.of_reachable hk h
  simp only [enabled, hr] at he
  cases w with
  | some c =>
    have hpc : σ.pc c = .waiting s := by simpa using he
    simp [Ring.apply, hr, hpc]
  | none =>
    refine ⟨by simp [Ring.apply, hr], ?_⟩
    intro c hc
    have hlt : c < σ.ncalls := lt_ncalls i c (by rw [hc]; simp)
    have := List.all_eq_true.1 he c (List.mem_range.2 hlt)
    simp [hc] at this

/-- the callers' `c2.Broadcast` wakes the writer if (and only if) it is parked on that slot and
    wakes no caller: apart from the broadcasting caller itself every pc is unchanged -/
theorem broadcast_wakes_only_the_writer (k : Nat) (σ : State) (c s : Nat) (hpc : σ.pc c = .bcast s) :
    (apply k (.bcast c) σ).wpc = (if σ.wpc = .sleeping s then .woken s else σ.wpc) ∧
    ∀ c', c' ≠ c → (apply k (.bcast c) σ).pc c' = σ.pc c' := by
  refine ⟨by simp only [Ring.apply, hpc], fun c' hne => ?_⟩
  simp only [Ring.apply, hpc, upd_apply, hne, if_false]

/-- the deadlock-freedom theorems depend on these targets: in the variant with ONE wait set per
    slot (writer and callers park on the same condition variable, Signal wakes an arbitrary
    member of it, Broadcast all of it — Rv/Lemmas/RingOneCond.lean) a deadlock is reachable on
    2 slots: ring full of written-and-unanswered commands, writer parked on the oldest slot,
    one more caller parked behind it, the reader's Signal is consumed by the writer; the final
    state has no enabled productive transition although caller 2 is still waiting -/
theorem one_cond_var_variant_deadlocks :
    (OneCond.run1 1 (init 1) OneCond.deadlockSchedule).map
      (fun σ => OneCond.stuck1 1 σ && σ.pc 2 == .waiting 1 && σ.wpc == .sleeping 1 && σ.rpc == .idle &&
        (σ.slot 1).mark == 0 && σ.read1 == 2 && σ.read2 == 2) = some true :=
  OneCond.one_cond_var_deadlocks

/-- token conservation: the `size` tokens are always split between the three channels, the
    callers between `<-b.f` and `b.w <- cmd`, and the reader's `b.c` -/
theorem flow_token_conservation (size : Nat) (σ : Flow.State) (h : Flow.Reachable size σ) :
    σ.f.length + σ.hold.length + σ.w.length + σ.r.length + (if σ.cur.isSome then 1 else 0) = size :=
  (Flow.InvU.of_reachable h).conservation

/-- hence no send ever blocks: a caller holding a token finds room in `w`, the writer finds
    room in `r`, FinishResult finds room in `f` -/
theorem flow_sends_never_block (size : Nat) (σ : Flow.State) (h : Flow.Reachable size σ) :
    (∀ c ch, (c, ch) ∈ σ.hold → σ.w.length < σ.size) ∧
    (σ.w ≠ [] → σ.r.length < σ.size) ∧
    (σ.cur.isSome → σ.f.length < σ.size) :=
  (Flow.InvU.of_reachable h).room

/-- the reply-channel ids of the `size` tokens stay pairwise distinct: every id occurs at most
    once over f, the callers between `<-b.f` and `b.w <- cmd`, w, r and b.c (the tokens are
    created once with fresh channels and only move) -/
theorem flow_channel_ids_distinct (size : Nat) (σ : Flow.State) (h : Flow.Reachable size σ) (x : Nat) :
    Flow.tcount σ x ≤ 1 := (Flow.InvU.of_reachable h).tc x

/-- the flow buffer refines the FIFO specification with `b.w <- cmd` as the linearisation point
    of the enqueue: same enqueue order (`elog`), same writer-dequeue sequence, same completion
    sequence of (command, receiving caller) pairs; the spec's pending list is `w` -/
theorem flow_refines_fifo (size : Nat) (σ : Flow.State) (h : Flow.Reachable size σ) :
    ∃ evs q, Fifo.run Fifo.empty evs = some q ∧
      Fifo.enqs evs = σ.elog.map (fun c => (c, c)) ∧
      Fifo.deqs evs = σ.wlog ∧
      Fifo.fins evs = σ.clog ∧
      q.pending = σ.w.map (fun t => (t.2, t.2)) ∧
      σ.elog = σ.wlog ++ σ.w.map (·.2) := by
  have lg := Flow.Logs.of_reachable h
  obtain ⟨evs, s⟩ := lg.sim
  exact ⟨evs, _, s.run, s.enqs, s.deqs, s.fins, rfl, lg.enq⟩

/-- the reply of a command goes to the caller that enqueued it and to nobody else: the only
    caller that can receive on the channel in `b.c` is the owner of the command travelling with
    that token; every completed (command, receiver) pair is (c, c); commands leave in exactly
    the order in which callers sent them to `w` and the reader meets them in that order -/
theorem flow_reply_to_enqueuer (size : Nat) (σ : Flow.State) (h : Flow.Reachable size σ) :
    (∀ c ch cmd, σ.cur = some (ch, cmd) → Flow.enabled (.rDeliver c) σ = true → c = cmd) ∧
    (∀ p, p ∈ σ.clog → p.1 = p.2) ∧
    (∀ c ch, σ.pc c = .filled ch → Flow.inFlight σ ch c) ∧
    σ.elog = σ.wlog ++ σ.w.map (·.2) ∧
    σ.wlog = σ.clog.map (·.1) ++ Flow.pcur σ ++ σ.r.map (·.2) := by
  have lg := Flow.Logs.of_reachable h
  have u := Flow.InvU.of_reachable h
  refine ⟨?_, lg.diag, fun c ch hp => Flow.inFlight_iff.2 ((u.pcf c ch).1 hp), lg.enq, lg.wr⟩
  intro c ch cmd hcur he
  simp only [Flow.enabled, hcur, Bool.and_eq_true] at he
  exact u.deliver_eq hcur (by simpa using he.2)

/-- the flow buffer never deadlocks: whenever a caller holds a token or waits for its reply, a
    transition other than a new arrival is enabled (send / writer take / reader begin /
    deliver / finish) — for any number of callers -/
theorem flow_no_deadlock (size : Nat) (σ : Flow.State) (h : Flow.Reachable size σ)
    (hp : ∃ c, Flow.pending σ c) : ∃ l, l ≠ .recv ∧ Flow.enabled l σ = true := by
  obtain ⟨c, hc⟩ := hp
  exact Flow.no_deadlock h c hc

example : ∃ σ, Reachable 1 σ ∧ σ.wlog = [2, 1, 0] ∧ σ.clog = [(2, 2)] :=
  ⟨(run 1 (init 1) overtakeSchedule).get fifo_ticket_order_nonvacuous.2.2,
    run_reachable 1 _ _ _ .init (Option.some_get _).symm, by decide +kernel⟩

end Rv.C02
