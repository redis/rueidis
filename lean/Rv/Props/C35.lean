/-
C35 — Bloom filters never report a false negative.

Chain from the Lua/Go source to these theorems:
 1. `Rv.Gen.LuaScripts` is regenerated from /repo on every run; the `*_pinned` theorems
    below fix the exact script texts the model `Rv.Bloom` was transcribed from. An edited
    script breaks the pin, and the property is reported as no longer proved.
 2. `Rv.Bloom.addScript/existsScript/…` are hand transcriptions of those texts (trusted),
    `Rv.Bloom.addMulti/existsMulti/…` of the Go glue; both are tied to the real code by the
    `bloom` correspondence suite (fake server validated against the script model, real glue
    run end-to-end against the fake).
 3. Everything below is proved for all hash values, all m ≥ 1, all k ≥ 1 and all histories.
-/
import Rv.Gen.LuaScripts
import Rv.Model.Bloom
import Rv.Lemmas.GroupLoop

namespace Rv.C35
open Rv.Bloom Rv.GroupLoop

theorem bloom_add_script_pinned : Rv.Gen.rueidisprob_bloomFilterAddMultiScript =
  "\nlocal hashIterations = tonumber(ARGV[1])\nlocal numElements = tonumber(#ARGV) - 1\nlocal filterKey = KEYS[1]\nlocal counterKey = KEYS[2]\n\nlocal counter = 0\nlocal oneBits = 0\nfor i=1, numElements do\n\tlocal bitset = redis.call('BITFIELD', filterKey, 'SET', 'u1', ARGV[i+1], '1')\n\n\toneBits = oneBits + bitset[1]\n\tif i % hashIterations == 0 then\n\t\tif oneBits ~= hashIterations then\n\t\t\tcounter = counter + 1\n\t\tend\n\n\t\toneBits = 0\n\tend\nend\n\nreturn redis.call('INCRBY', counterKey, counter)\n" := rfl

theorem bloom_exists_script_pinned : Rv.Gen.rueidisprob_bloomFilterExistsMultiScript =
  "\nlocal hashIterations = tonumber(ARGV[1])\nlocal numElements = tonumber(#ARGV) - 1\nlocal filterKey = KEYS[1]\n\nlocal result = {}\nlocal oneBits = 0\nfor i=1, numElements do\n\tlocal index = tonumber(ARGV[i+1])\n\tlocal bitset = redis.call('BITFIELD', filterKey, 'GET', 'u1', index)\n\n\toneBits = oneBits + bitset[1]\n\tif i % hashIterations == 0 then\n\t\ttable.insert(result, oneBits == hashIterations)\n\n\t\toneBits = 0\n\tend\nend\n\nreturn result\n" := rfl

theorem bloom_exists_ro_script_pinned : Rv.Gen.rueidisprob_bloomFilterExistsMultiReadOnlyScript =
  "\nlocal hashIterations = tonumber(ARGV[1])\nlocal numElements = tonumber(#ARGV) - 1\nlocal filterKey = KEYS[1]\n\nlocal result = {}\nlocal oneBits = 0\nfor i=1, numElements do\n\tlocal index = tonumber(ARGV[i+1])\n\tlocal bitset = redis.call('BITFIELD_RO', filterKey, 'GET', 'u1', index)\n\n\toneBits = oneBits + bitset[1]\n\tif i % hashIterations == 0 then\n\t\ttable.insert(result, oneBits == hashIterations)\n\n\t\toneBits = 0\n\tend\nend\n\nreturn result\n" := rfl

theorem bloom_reset_script_pinned : Rv.Gen.rueidisprob_bloomFilterResetScript =
  "\nlocal filterKey = KEYS[1]\nlocal counterKey = KEYS[2]\n\nredis.call('SET', filterKey, \"\")\nredis.call('SET', counterKey, 0)\n\nreturn 1\n" := rfl

theorem bloom_delete_script_pinned : Rv.Gen.rueidisprob_bloomFilterDeleteScript =
  "\nlocal filterKey = KEYS[1]\nlocal counterKey = KEYS[2]\n\nredis.call('DEL', filterKey)\nredis.call('DEL', counterKey)\n\nreturn 1\n" := rfl

/-- `index` (uint64 arithmetic with wrap-around, as Go computes it) is the statement's formula. -/
theorem index_eq_formula (h1 h2 i m : Nat) :
    indexGo h1 h2 i m = ((h1 + i * h2) % 2 ^ 64) % m := by
  unfold indexGo
  rw [Nat.add_mod_mod]

/-- every index addresses a bit inside the filter -/
theorem index_lt (h1 h2 i m : Nat) (hm : 1 ≤ m) : indexGo h1 h2 i m < m := by
  unfold indexGo
  exact Nat.mod_lt _ (by omega)

/-- the clamp in `numberOfBloomFilterHashFunctions`: at least one hash function, whatever the
floating-point computation produced -/
theorem hashFunctions_ge_one (raw : Nat) : 1 ≤ hashFunctions raw := by
  unfold hashFunctions; omega

private theorem ok_of_ite_error {ε α : Type} {c : Prop} [Decidable c] {e : ε} {x : Except ε α} {v : α}
    (h : (if c then .error e else x) = .ok v) : ¬ c ∧ x = .ok v := by
  split at h
  · cases h
  · exact ⟨‹_›, h⟩

/-- every configuration `NewBloomFilter` accepts has `1 ≤ m ≤ 2^32` bits and `k ≥ 1` hash functions -/
theorem accepted_cfg_usable (nameLen : Nat) (rc : Int) (bitsRaw hashRaw : Nat) (c : Cfg)
    (h : newBloomFilter nameLen rc bitsRaw hashRaw = .ok c) :
    1 ≤ c.m ∧ c.m ≤ 2 ^ 32 ∧ 1 ≤ c.k := by
  obtain ⟨-, h⟩ := ok_of_ite_error h
  obtain ⟨-, h⟩ := ok_of_ite_error h
  obtain ⟨-, h⟩ := ok_of_ite_error h
  obtain ⟨h0, h⟩ := ok_of_ite_error h
  obtain ⟨hmax, h⟩ := ok_of_ite_error h
  cases h
  exact ⟨Nat.pos_of_ne_zero h0, Nat.le_of_not_lt hmax, hashFunctions_ge_one _⟩

/-- non-vacuity: accepted configurations exist (n = 100, rate 0.9 gives bitsRaw = 22, hashRaw = 0) -/
example : newBloomFilter 2 0 22 0 = .ok ⟨22, 1⟩ := by rfl

private theorem oneBits (b : Bits) : ∀ (g : List Nat) (a : Nat),
    g.foldl (fun a x => a + bitVal b x) a ≤ a + g.length ∧
    (g.foldl (fun a x => a + bitVal b x) a = a + g.length ↔ g.all b = true)
  | [], a => ⟨Nat.le_refl a, iff_of_true rfl rfl⟩
  | x :: g, a => by
    rw [List.foldl_cons, List.all_cons, List.length_cons, bitVal]
    cases b x
    · have hle := (oneBits b g a).1
      rw [if_neg Bool.false_ne_true, Nat.add_zero]
      exact ⟨Nat.le_succ_of_le hle, iff_of_false (Nat.ne_of_lt (Nat.lt_succ_of_le hle)) nofun⟩
    · have h := oneBits b g (a + 1)
      rw [Nat.add_right_comm] at h
      rw [if_pos rfl, Bool.true_and]
      exact h

/-- The exists script over the concatenation of groups of `k ≥ 1` indexes answers, per group
and in order, whether all bits of the group are set. -/
theorem existsScript_groups (k : Nat) (hk : 1 ≤ k) (gs : List (List Nat)) (b : Bits)
    (hlen : ∀ g ∈ gs, g.length = k) :
    existsScript k gs.flatten b = gs.map (fun g => g.all b) := by
  rw [existsScript, gloop_read k hk (bitVal b) (· + ·) 0 (· == k) gs hlen]
  refine List.map_congr_left fun g hg => ?_
  rw [Bool.eq_iff_iff, beq_iff_eq, ← hlen g hg, ← (oneBits b g 0).2, Nat.zero_add]

/-- whatever `k` is, the add script sets exactly the bits it was given (and clears none) -/
theorem addScript_bits (k : Nat) (idxs : List Nat) (s : St) :
    (addScript k idxs s).1.bits = idxs.foldl setBit s.bits := by
  refine gloop_proj k _ _ _ _ (·.1) setBit ?_ ?_ idxs 1 0 (s.bits, 0) <;> intros <;> rfl

theorem foldl_setBit_mono (idxs : List Nat) (b : Bits) (x : Nat) (h : b x = true) :
    (idxs.foldl setBit b) x = true :=
  foldl_preserves (· x = true) setBit idxs b (fun b y _ h => by unfold setBit; split <;> simp [h]) h

theorem foldl_setBit_mem (idxs : List Nat) : ∀ (b : Bits) (x : Nat),
    x ∈ idxs → (idxs.foldl setBit b) x = true := by
  induction idxs with
  | nil => exact fun _ _ h => nomatch h
  | cons y ys ih =>
    intro b x h
    rcases List.mem_cons.mp h with h | h
    · exact foldl_setBit_mono ys _ x (by simp [setBit, h])
    · exact ih _ _ h

/-- the counter never decreases through the add script -/
theorem addScript_counter (k : Nat) (idxs : List Nat) (s : St) :
    s.counter.getD 0 ≤ (addScript k idxs s).1.counter.getD 0 := by
  simp [addScript]

/-- an item is present in a state: all its `k` bits are set -/
def present (c : Cfg) (s : St) (key : Nat × Nat) : Bool := (itemIdx c.m c.k key).all s.bits

theorem itemIdx_length (m k : Nat) (key : Nat × Nat) : (itemIdx m k key).length = k := by
  rw [itemIdx, List.length_map, List.length_range]

theorem groups_length (m k : Nat) (keys : List (Nat × Nat)) : ∀ g ∈ keys.map (itemIdx m k), g.length = k :=
  List.forall_mem_map.2 fun _ _ => itemIdx_length ..

theorem existsScript_keys (m k : Nat) (hk : 1 ≤ k) (keys : List (Nat × Nat)) (b : Bits) :
    existsScript k (allIdx m k keys) b = keys.map fun key => (itemIdx m k key).all b := by
  rw [allIdx, existsScript_groups k hk _ b (groups_length m k keys), List.map_map]
  rfl

/-- `per_key_in_order`: for `k ≥ 1`, `ExistsMulti` returns exactly one answer per input key, in
input order, and the answer for a key is whether all of that key's bits are set. -/
theorem per_key_in_order (c : Cfg) (hk : 1 ≤ c.k) (keys : List (Nat × Nat)) (s : St)
    (hne : keys ≠ []) :
    existsMulti c keys s = .ok (keys.map (present c s)) := by
  have hscript : existsScript c.k (allIdx c.m c.k keys) s.bits = keys.map (present c s) :=
    existsScript_keys c.m c.k hk keys s.bits
  simp [existsMulti, List.isEmpty_eq_false_iff.2 hne, hscript]

/-- `argv_depends_only_on_item`: the arguments `AddMulti` / `ExistsMulti` hand to the client are a
function of the call's own keys and of (m, k) only — the same whatever the server state, whatever
ran before and whatever other call on the same filter value is in flight — namely `k` followed by
the `k` indexes of each key in input order; and the state change of `AddMulti` is the add script
run on exactly these arguments. The `bloom` suite ties this to the code by comparing the argv the
client consumed (also for a call parked while another one ran) with this argv. -/
theorem argv_depends_only_on_item (c : Cfg) (keys : List (Nat × Nat)) (hne : keys ≠ []) (s s' : St) :
    (addMultiTrace c keys s).2 = some (c.k :: (keys.map (itemIdx c.m c.k)).flatten) ∧
    (addMultiTrace c keys s).2 = (addMultiTrace c keys s').2 ∧
    (existsMultiTrace c keys s).2 = (addMultiTrace c keys s').2 ∧
    (addMultiTrace c keys s).1 = addMulti c keys s ∧
    addMulti c keys s = (addScript c.k (keys.map (itemIdx c.m c.k)).flatten s).1 := by
  have hemp : keys.isEmpty = false := List.isEmpty_eq_false_iff.2 hne
  simp [addMultiTrace, existsMultiTrace, addMulti, allIdx, hemp]

/-- the argv of a multi-key call is the concatenation of the per-item index groups: an item's
indexes do not depend on which other items travel in the same call -/
theorem allIdx_append (m k : Nat) (a b : List (Nat × Nat)) :
    allIdx m k (a ++ b) = allIdx m k a ++ allIdx m k b := by
  simp [allIdx]

inductive Op where
  | add (keys : List (Nat × Nat))
  | exists_ (keys : List (Nat × Nat))
  | count
  | reset
  | delete

def Op.keeps : Op → Bool
  | .reset => false
  | .delete => false
  | _ => true

/-- state transition of one glue operation (queries do not change the server state) -/
def apply (c : Cfg) (s : St) : Op → St
  | .add keys => addMulti c keys s
  | .exists_ _ => s
  | .count => s
  | .reset => resetScript s
  | .delete => deleteScript s

def run (c : Cfg) (s : St) (ops : List Op) : St := ops.foldl (apply c) s

private theorem apply_keeps (c : Cfg) (s : St) : ∀ op : Op, op.keeps = true →
    apply c s op = s ∨ ∃ idxs, apply c s op = (addScript c.k idxs s).1
  | .add keys, _ => by
    rw [apply, addMulti]
    split
    · exact .inl rfl
    · exact .inr ⟨_, rfl⟩
  | .exists_ _, _ | .count, _ => .inl rfl

private theorem apply_present (c : Cfg) (s : St) (op : Op) (hop : op.keeps = true) (key : Nat × Nat)
    (h : present c s key = true) : present c (apply c s op) key = true := by
  rcases apply_keeps c s op hop with e | ⟨idxs, e⟩ <;> rw [e]
  · exact h
  · rw [present, List.all_eq_true] at h ⊢
    exact fun x hx => addScript_bits .. ▸ foldl_setBit_mono _ _ _ (h x hx)

theorem present_after_add (c : Cfg) (keys : List (Nat × Nat)) (s : St) (key : Nat × Nat)
    (hmem : key ∈ keys) : present c (addMulti c keys s) key = true := by
  unfold present addMulti
  rw [if_neg (by simpa using List.ne_nil_of_mem hmem), addScript_bits, List.all_eq_true]
  exact fun x hx => foldl_setBit_mem _ _ _ (List.mem_flatten.2 ⟨_, List.mem_map_of_mem hmem, hx⟩)

/-- `exists_after_add` (state form): after a successful `Add`/`AddMulti` of `key`, through any
history without `Reset`/`Delete` — from any starting state, for any hash values, any `m`, any
`k` — all of the key's bits are set. -/
theorem present_after_add_history (c : Cfg) (s : St) (keys : List (Nat × Nat)) (key : Nat × Nat)
    (hist : List Op) (hmem : key ∈ keys) (hkeep : ∀ op ∈ hist, op.keeps = true) :
    present c (run c (addMulti c keys s) hist) key = true :=
  foldl_preserves (present c · key = true) (apply c) hist _ (fun s op hop => apply_present c s op (hkeep op hop) key)
    (present_after_add c keys s key hmem)

/-- `exists_after_add`: for `k ≥ 1`, after a successful add of `key` and any later history
without `Reset`/`Delete`, `ExistsMulti qs` answers `true` at every position holding `key`
(and `Exists key`, i.e. `ExistsMulti [key]` then `[0]`, answers `true`). -/
theorem exists_after_add (c : Cfg) (hk : 1 ≤ c.k) (s : St) (keys : List (Nat × Nat))
    (key : Nat × Nat) (hist : List Op) (hmem : key ∈ keys)
    (hkeep : ∀ op ∈ hist, op.keeps = true) (qs : List (Nat × Nat)) (hq : qs ≠ []) :
    ∃ r, existsMulti c qs (run c (addMulti c keys s) hist) = .ok r ∧ r.length = qs.length ∧
      ∀ i (hi : i < qs.length) (hr : i < r.length), qs[i] = key → r[i] = true := by
  refine ⟨_, per_key_in_order c hk qs _ hq, by simp, ?_⟩
  intro i hi hr hqi
  simp only [List.getElem_map, hqi]
  exact present_after_add_history c s keys key hist hmem hkeep

/-- `Exists key` (single-key form) -/
theorem exists1_after_add (c : Cfg) (hk : 1 ≤ c.k) (s : St) (keys : List (Nat × Nat))
    (key : Nat × Nat) (hist : List Op) (hmem : key ∈ keys)
    (hkeep : ∀ op ∈ hist, op.keeps = true) :
    existsMulti c [key] (run c (addMulti c keys s) hist) = .ok [true] := by
  rw [per_key_in_order c hk [key] _ (by simp)]
  simp [present_after_add_history c s keys key hist hmem hkeep]

/-- the statement for every configuration the (repaired) constructor accepts -/
theorem exists_after_add_accepted (nameLen : Nat) (rc : Int) (bitsRaw hashRaw : Nat) (c : Cfg)
    (hacc : newBloomFilter nameLen rc bitsRaw hashRaw = .ok c)
    (s : St) (keys : List (Nat × Nat)) (key : Nat × Nat) (hist : List Op) (hmem : key ∈ keys)
    (hkeep : ∀ op ∈ hist, op.keeps = true) :
    existsMulti c [key] (run c (addMulti c keys s) hist) = .ok [true] :=
  exists1_after_add c (accepted_cfg_usable nameLen rc bitsRaw hashRaw c hacc).2.2 s keys key hist hmem hkeep

/-- why the clamp matters: with `k = 0` (accepted before the repair, e.g. n = 100, rate 0.9)
an added item is reported absent -/
theorem k0_false_negative :
    existsMulti ⟨22, 0⟩ [(5, 7)] (addMulti ⟨22, 0⟩ [(5, 7)] St.init) = .ok [false] := by
  decide

/-- `count_monotone`: `Count` never decreases through a history without `Reset`/`Delete` -/
theorem count_monotone (c : Cfg) (ops : List Op) : ∀ (s : St),
    (∀ op ∈ ops, op.keeps = true) → count s ≤ count (run c s ops) := by
  refine fun s hk => foldl_preserves (count s ≤ count ·) (apply c) ops s (fun s' op hop h => Nat.le_trans h ?_)
    (Nat.le_refl _)
  rcases apply_keeps c s' op (hk op hop) with e | ⟨idxs, e⟩ <;> rw [e]
  · exact Nat.le_refl _
  · exact addScript_counter _ _ _

/-- non-vacuity of the history hypotheses -/
example : ∀ op ∈ [Op.add [(1, 2)], Op.exists_ [(3, 4)], Op.count], op.keeps = true := by decide

end Rv.C35
