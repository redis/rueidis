/-
C41 — go-redis adapter pipelines keep order and wrap transactions exactly.
-/
import Rv.Model.CompatPipe
namespace Rv.C41
open Rv.CompatPipe Rv.Gen.Compat

/-- the hand model of proxy.Do / Pipeline.Len, Do, Discard, Exec / TxPipeline.Exec was transcribed
    from exactly the source text /repo has now -/
theorem model_pinned_to_source : pinnedHashes = seenHashes := by
  decide +kernel

/-- every method of *Pipeline is a plain wrapper, the guarded wrapper, a refusal, or one of the nine
    pipeline-control methods; TxPipeline adds only the control methods and embeds the pipeline -/
theorem table_kinds :
    rows.all (fun r =>
      match r.kind with
      | .wrap1 | .wrapq => r.sameName && r.argsFwd
      | .panics => ["Cache", "Subscribe", "PSubscribe", "SSubscribe", "Watch", "ForEachMaster"].contains r.method
      | .control => ["Client", "Len", "Do", "Discard", "Exec", "Pipelined", "Pipeline", "TxPipelined", "TxPipeline"].contains r.method) = true
    ∧ txOwn.all (["Exec", "Pipelined", "Pipeline", "TxPipelined", "TxPipeline"].contains ·) = true
    ∧ txEmbeds = "*rePipeline" := by
  decide +kernel

/-- how a table row acts on the pipeline state when its Compat method sent `d` commands through the
    capture proxy -/
def rowCall (r : Row) (d : Nat) : Call :=
  match r.kind with
  | .wrap1 => .wrap1 d
  | .wrapq => .wrapq d
  | .panics => .rejects
  | .control => .rejects

private theorem rowCall_ok (r : Row) : (rowCall r 1).ok ∧ (r.kind = .wrapq → (rowCall r 0).ok) := by
  obtain ⟨_, k, _, _, _⟩ := r
  cases k <;> simp [rowCall, Call.ok]

/-- **per-method obligation, wrapper half**: every command wrapper of the table appends exactly one
    result when its Compat method queued exactly one command — and the guarded wrapper appends none
    when none was queued -/
theorem every_wrapper_appends_one :
    ∀ r ∈ rows, (rowCall r 1).ok ∧ (r.kind = .wrapq → (rowCall r 0).ok) :=
  fun r _ => rowCall_ok r

theorem call_preserves_aligned (p : Pipe) (l : Nat) (c : Call) (h : Aligned p) (hc : c.ok) :
    Aligned (p.call l c) := by
  unfold Aligned at *
  cases c with
  | wrap1 d => simp [Call.ok] at hc; subst hc; simp [Pipe.call, h]
  | wrapq d =>
    simp [Call.ok] at hc
    have : d = 0 ∨ d = 1 := by omega
    rcases this with rfl | rfl <;> simp [Pipe.call, h]
  | doArgs n => cases n <;> simp [Pipe.call, h]
  | rejects => simpa [Pipe.call] using h

inductive Op
  | call (label : Nat) (c : Call)
  | discard
  | exec (reply : List Res)
  | txExec (qreply : List Res) (ex : ExecRes)

def Op.ok : Op → Prop
  | .call _ c => c.ok
  | _ => True

def step (p : Pipe) : Op → Pipe
  | .call l c => p.call l c
  | .discard => p.discard
  | .exec r => (p.exec r).1
  | .txExec q e => (p.txExec q e).1

private theorem step_aligned (p : Pipe) (o : Op) (h : Aligned p) (ho : o.ok) : Aligned (step p o) := by
  cases o with
  | call l c => exact call_preserves_aligned p l c h ho
  | discard => exact (rfl : Aligned Pipe.empty)
  | exec r =>
    simp only [step, Pipe.exec]
    split
    · exact h
    · exact rfl
  | txExec q e =>
    simp only [step, Pipe.txExec]
    split
    · exact h
    · exact rfl

/-- **Invariant**: in every program (any interleaving of method calls, Discard, Exec, TxPipeline.Exec
    with any server replies) whose method calls meet their obligation, the command list and the
    result list stay aligned -/
theorem reachable_aligned (ops : List Op) (h : ∀ o ∈ ops, o.ok) :
    Aligned (ops.foldl step Pipe.empty) := by
  suffices ∀ p, Aligned p → Aligned (ops.foldl step p) from this _ rfl
  induction ops with
  | nil => exact fun _ hp => hp
  | cons o rest ih =>
    exact fun p hp => ih (fun o' ho' => h o' (List.mem_cons_of_mem _ ho')) _ (step_aligned p o hp (h o List.mem_cons_self))

private theorem fill_eq {rets : List Cmder} {rs : List Res} {e : Option Err} (h : rets.length = rs.length) :
    fill rets rs e = some (List.zipWith (fun c r => (⟨c.id, fromRes r⟩ : Cmder)) rets rs,
      match e with | some x => some x | none => (rs.map fromRes).findSome? (·.err)) := by
  induction rets generalizing rs e with
  | nil => cases rs <;> simp_all [fill]; cases e <;> rfl
  | cons c t ih =>
    cases rs with
    | nil => simp at h
    | cons r rs =>
      simp only [List.length_cons, Nat.add_right_cancel_iff] at h
      simp only [fill, ih h, List.zipWith_cons_cons, List.map_cons, List.findSome?_cons]
      cases e with
      | some x => simp [orElse]
      | none =>
        simp only [orElse]
        cases hh : (fromRes r).err <;> simp

private theorem exec_nonempty (p : Pipe) (reply : List Res) (ha : Aligned p) (hne : p.cmds ≠ [])
    (hr : reply.length = p.cmds.length) :
    (p.exec reply).2 = ⟨some p.cmds, some (List.zipWith (fun c r => (⟨c.id, fromRes r⟩ : Cmder)) p.rets reply,
      (reply.map fromRes).findSome? (·.err))⟩ := by
  simp [Pipe.exec, hne, fill_eq (hr.trans ha).symm]

/-- with aligned lists and one reply per command (the client's DoMulti contract),
    Exec sends the queued commands in queue order as one batch, returns exactly the Cmders handed out
    at queue time, in queue order, and the i-th one carries the i-th reply — nothing else -/
theorem exec_positional (p : Pipe) (reply : List Res) (ha : Aligned p) (hne : p.cmds ≠ [])
    (hr : reply.length = p.cmds.length) :
    (p.exec reply).2.sent = some p.cmds ∧
    ∃ out e, (p.exec reply).2.result = some (out, e) ∧ out.length = p.rets.length ∧
      ∀ i (h1 : i < out.length) (h2 : i < p.rets.length) (h3 : i < reply.length),
        out[i].id = p.rets[i].id ∧ out[i].st = fromRes reply[i] := by
  have hlen : p.rets.length = reply.length := (hr.trans ha).symm
  rw [exec_nonempty p reply ha hne hr]
  exact ⟨rfl, _, _, rfl, by simp [hlen], by simp⟩

/-- the error Exec returns is the error of the first failed command in queue order,
    and nil iff no command failed -/
theorem first_error (p : Pipe) (reply : List Res) (ha : Aligned p) (hne : p.cmds ≠ [])
    (hr : reply.length = p.cmds.length) :
    ∃ out, (p.exec reply).2.result = some (out, (reply.map fromRes).findSome? (·.err)) := by
  rw [exec_nonempty p reply ha hne hr]
  exact ⟨_, rfl⟩

private theorem findSome_zipWith {g : α → Nat} {cs : List α} {rs : List Res} (h : cs.length = rs.length) :
    (List.zipWith (fun c r => (⟨g c, fromRes r⟩ : Cmder)) cs rs).findSome? (·.st.err)
      = (rs.map fromRes).findSome? (·.err) := by
  induction cs generalizing rs with
  | nil => cases rs <;> simp_all
  | cons a t ih =>
    cases rs with
    | nil => simp at h
    | cons r rs =>
      simp only [List.length_cons, Nat.add_right_cancel_iff] at h
      simp [List.findSome?_cons, ih h]

/-- the model of Exec coincides with the specification used on `!` oracle lines -/
theorem exec_meets_spec (p : Pipe) (reply : List Res) (ha : Aligned p)
    (hr : reply.length = p.cmds.length) (labels : List Nat)
    (hc : p.cmds = labels.map .user) (hi : p.rets.map (·.id) = labels) :
    ((p.exec reply).2.sent, (p.exec reply).2.result) =
      ((Spec.exec labels reply).1, some ((Spec.exec labels reply).2.1, (Spec.exec labels reply).2.2)) := by
  cases labels with
  | nil =>
    have h1 : p.cmds = [] := by simpa using hc
    simp [Pipe.exec, Spec.exec, h1]
  | cons l ls =>
    rw [exec_nonempty p reply ha (by simp [hc]) hr, hc]
    simp only [Spec.exec, List.isEmpty_cons, Bool.false_eq_true, if_false]
    rw [← hi, List.zipWith_map_left, findSome_zipWith (hr.trans ha).symm]

/-- Exec on an empty pipeline sends nothing and returns (nil, nil); after a non-empty Exec the
    pipeline is empty again -/
theorem exec_resets (p : Pipe) (reply : List Res) :
    (p.cmds = [] → (p.exec reply).2 = ⟨none, some ([], none)⟩) ∧
    (p.cmds ≠ [] → (p.exec reply).1 = Pipe.empty ∧ (p.exec reply).1.len = 0) :=
  ⟨fun h => by simp [Pipe.exec, h], fun h => by simp [Pipe.exec, h, Pipe.empty, Pipe.len]⟩

private theorem swapAt_append (xs : List α) (a b : α) (t : List α) :
    swapAt xs.length (xs ++ a :: b :: t) = xs ++ b :: a :: t := by
  induction xs with
  | nil => rfl
  | cons x xs ih => simp [swapAt, ih]

private theorem bubble_append {n : Nat} (xs : List α) (m : α) (t : List α) (h : xs.length = n) :
    bubble n (xs ++ m :: t) = m :: xs ++ t := by
  induction n generalizing xs t with
  | zero => obtain rfl := List.eq_nil_of_length_eq_zero h; rfl
  | succ n ih =>
    rcases List.eq_nil_or_concat xs with rfl | ⟨ys, y, rfl⟩
    · simp at h
    · rw [List.concat_eq_append] at h ⊢
      have hy : ys.length = n := by simpa using h
      rw [bubble, List.append_assoc, List.singleton_append, ← hy, swapAt_append, hy, ih ys (y :: t) hy]
      simp

/-- the swap loop of TxPipeline.Exec turns `cmds ++ [MULTI, EXEC]` into
    MULTI, the queued commands in queue order, EXEC — for every queue -/
theorem tx_shape (cmds : List Cmd) : txBatch cmds = .multi :: cmds ++ [.exec] := by
  unfold txBatch
  simp only [List.length_append, List.length_cons, List.length_nil, Nat.add_sub_cancel]
  exact bubble_append cmds .multi [.exec] rfl

/-- TxPipeline.Exec sends that batch, as one batch -/
theorem tx_sends_one_batch (p : Pipe) (q : List Res) (ex : ExecRes) (hne : p.cmds ≠ []) :
    (p.txExec q ex).2.sent = some (.multi :: p.cmds ++ [.exec]) := by
  simp [Pipe.txExec, hne, tx_shape]

private theorem fillTx_eq_fill {xs : List Msg} {rets : List Cmder} {nr : List (Option Bytes)} {e : Option Err}
    (hn : xs.length ≤ nr.length) (hq : ∀ q ∈ nr, q = none) :
    fillTx rets xs nr e = fill rets (xs.map .msg) e := by
  induction xs generalizing rets nr e with
  | nil => cases rets <;> rfl
  | cons m ms ih =>
    cases nr with
    | nil => simp at hn
    | cons q qs =>
      obtain rfl : q = none := hq q List.mem_cons_self
      cases rets with
      | nil => rfl
      | cons c t =>
        simp only [fillTx, fill, List.map_cons]
        rw [ih (by simpa using hn) (fun q hqm => hq q (List.mem_cons_of_mem _ hqm))]

/-- when EXEC answers with an array of one element per queued command
    (and no connection error hit the batch), the i-th element goes to the i-th queued command's
    Cmder — the ones handed out at queue time, in order — and the returned error is the first error
    inside the array -/
theorem tx_maps_exec_elements (p : Pipe) (q : List Res) (xs : List Msg) (ha : Aligned p) (hne : p.cmds ≠ [])
    (hq : q.length = p.cmds.length + 1) (hx : xs.length = p.cmds.length) (hnet : ∀ r ∈ q, nonRedis r = none) :
    (p.txExec q (.arr xs)).2.result =
      some (List.zipWith (fun c m => (⟨c.id, fromRes (.msg m)⟩ : Cmder)) p.rets xs,
            (xs.map (fun m => fromRes (.msg m))).findSome? (·.err)) := by
  have h2 : xs.length ≤ ((q.drop 1).map nonRedis ++ [none]).length := by simp; omega
  have h3 : ∀ r ∈ (q.drop 1).map nonRedis ++ [none], r = none := by
    intro r hr
    simp only [List.mem_append, List.mem_map, List.mem_singleton] at hr
    rcases hr with ⟨a, ha', rfl⟩ | rfl
    · exact hnet a (List.mem_of_mem_drop ha')
    · rfl
  simp only [Pipe.txExec, List.isEmpty_iff, hne, if_false, toArray]
  rw [fillTx_eq_fill h2 h3, fill_eq (by simpa using (hx.trans ha).symm)]
  simp [List.zipWith_map_right, Function.comp_def]

/-- when EXEC answers nil (a WATCHed key changed), Exec reports TxFailedErr and
    no queued command receives a result -/
theorem txfailed_on_nil (p : Pipe) (q : List Res) (hne : p.cmds ≠ []) :
    (p.txExec q (.msg .nil)).2.result = some (p.rets, some .txFailed) := by
  simp [Pipe.txExec, hne, toArray, fillTx]

/-- an error reply to EXEC (e.g. EXECABORT) or a connection error is returned as the error -/
theorem tx_exec_error (p : Pipe) (q : List Res) (hne : p.cmds ≠ []) (m e : Bytes) :
    (p.txExec q (.msg (.err m))).2.result = some (p.rets, some (.redis m)) ∧
    (p.txExec q (.net e)).2.result = some (p.rets, some (.net e)) := by
  simp [Pipe.txExec, hne, toArray, fillTx]

/-- the transaction model coincides with the specification used on `!` oracle lines -/
theorem tx_meets_spec (p : Pipe) (q : List Res) (xs : List Msg) (labels : List Nat) (ha : Aligned p)
    (hne : labels ≠ []) (hc : p.cmds = labels.map .user) (hi : p.rets.map (·.id) = labels)
    (hq : q.length = p.cmds.length + 1) (hx : xs.length = p.cmds.length) (hnet : ∀ r ∈ q, nonRedis r = none) :
    (p.txExec q (.arr xs)).2.sent = (Spec.txExecArr labels xs).1 ∧
    (p.txExec q (.arr xs)).2.result = some ((Spec.txExecArr labels xs).2.1,
      (xs.map (fun m => fromRes (.msg m))).findSome? (·.err)) := by
  have hne' : p.cmds ≠ [] := by simpa [hc] using hne
  refine ⟨?_, ?_⟩
  · rw [tx_sends_one_batch p q _ hne', hc]; simp [Spec.txExecArr, hne]
  · rw [tx_maps_exec_elements p q xs ha hne' hq hx hnet]
    simp only [Spec.txExecArr, List.isEmpty_iff, hne, if_false]
    rw [← hi, List.zipWith_map_left]

/-- Discard drops every queued command and result; Len is 0 and the next Exec
    sends nothing -/
theorem discard_empties (p : Pipe) (reply : List Res) (q : List Res) (ex : ExecRes) :
    p.discard = Pipe.empty ∧ p.discard.len = 0 ∧
    (p.discard.exec reply).2 = ⟨none, some ([], none)⟩ ∧ (p.discard.txExec q ex).2 = ⟨none, some ([], none)⟩ := by
  simp [Pipe.discard, Pipe.empty, Pipe.len, Pipe.exec, Pipe.txExec]

/-- Len counts the queued commands: it grows by one per accepted call -/
theorem len_counts (p : Pipe) (l : Nat) :
    (p.call l (.wrap1 1)).len = p.len + 1 ∧ (p.call l .rejects).len = p.len ∧
    (p.call l (.wrapq 0)).len = p.len ∧ (p.call l (.doArgs 0)).len = p.len := by
  simp [Pipe.call, Pipe.len]

/-! ### Why the obligation matters (the defect repaired by the `fix:` commit) -/

/-- A plain wrapper whose Compat method sends no command (the former `BitCount` with an unknown
    Unit: `wrap1 0`) breaks alignment: the rejected call's Cmder receives the NEXT command's reply and
    the last Cmder stays "not executed". With the guarded wrapper (`wrapq 0`) results stay positional. -/
theorem unguarded_wrapper_shifts :
    let bad := ((Pipe.empty.call 1 (.wrap1 1)).call 2 (.wrap1 0)).call 3 (.wrap1 1)
    let good := ((Pipe.empty.call 1 (.wrap1 1)).call 2 (.wrapq 0)).call 3 (.wrap1 1)
    ¬ Aligned bad ∧
    (bad.exec [.msg (.val 1), .msg (.val 3)]).2.result =
      some ([⟨1, ⟨some 1, none⟩⟩, ⟨2, ⟨some 3, none⟩⟩, ⟨3, notExec⟩], none) ∧
    Aligned good ∧
    (good.exec [.msg (.val 1), .msg (.val 3)]).2.result =
      some ([⟨1, ⟨some 1, none⟩⟩, ⟨3, ⟨some 3, none⟩⟩], none) := by
  decide

/-! ### Non-vacuity -/

example : (rows.filter (fun r => r.kind == .wrap1 || r.kind == .wrapq)).length ≥ 500 := by decide +kernel
example : txBatch [.user 1, .user 2, .user 3] = [.multi, .user 1, .user 2, .user 3, .exec] := by decide
example : ((Pipe.empty.call 1 (.wrap1 1)).call 2 (.doArgs 3)).txExec
    [.msg (.val 0), .msg (.val 0), .msg (.val 0)] (.arr [.val 1, .err [1]]) =
    (Pipe.empty, ⟨some [.multi, .user 1, .user 2, .exec],
      some ([⟨1, ⟨some 1, none⟩⟩, ⟨2, ⟨none, some (.redis [1])⟩⟩], some (.redis [1]))⟩) := by decide

end Rv.C41
