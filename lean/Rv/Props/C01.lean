/-
C01 — auto-pipelined calls always receive their own replies, in order.

Property theorems about the model of /repo/pipe.go `_backgroundRead` + `handlePush`
(Rv/Model/Reader.lean; tied to the code by the `reader` / `reader-flow` trace-replay suites)
against the Redis answer discipline (Rv/Spec/ReaderSpec.lean, trusted), for ALL event
sequences: any number of batches, commands, channels per SUBSCRIBE, pushes, in any
interleaving of writes and arriving frames that the discipline allows.

`queue` of the model is a FIFO in wire order: that is C02's theorem (`Rv.C02.ring_refines_fifo`,
`Rv.C02.flow_refines_fifo`); the server answering in order is the trusted assumption `Disciplined`.

Abandoned callers (`abandon_safe` of the design): the model has no notion of the caller — a
batch whose caller gave up on its context stays in the queue (pipe.go keeps draining its
result channel in a helper goroutine) and is matched like any other, so every theorem below
covers it: the deliveries for the abandoned batch are still made, exactly once, and the
batches written after it get their own answers.
-/
import Rv.Lemmas.ReaderRefine
namespace Rv.C01
open Rv.Reader Rv.Spec.Reader Rv.ReaderL

/-! ### The discipline is satisfiable, and it is needed -/

private def get (id : Nat) : Cmd := { id := id, noReply := false, isUnsub := false, nargs := 2 }
private def subAB : Cmd := { id := 10, noReply := true, isUnsub := false, nargs := 3 }   -- SUBSCRIBE a b
private def unsubA : Cmd := { id := 20, noReply := true, isUnsub := true, nargs := 2 }   -- UNSUBSCRIBE a

/-- two batches (a DoMulti of GET, SUBSCRIBE a b, GET and a single UNSUBSCRIBE a written while
    the first is being answered), data pushes and notifications interleaved -/
private def demo : List Ev :=
  [ .m (.push 100 .unsub),                       -- unsolicited, nothing pending
    .w [get 1, subAB, get 2],
    .m (.push 101 .data),
    .m (.reply 1 false false),                   -- GET 1
    .m (.push 102 .unsub),
    .m (.push 103 .sub),                         -- subscribe a
    .w [unsubA],
    .m (.push 104 .data),                        -- a message between the two confirmations
    .m (.push 105 .sub),                         -- subscribe b
    .m (.push 106 .data),
    .m (.reply 2 false false),                   -- GET 2, completes the batch
    .m (.push 107 .unsub),                       -- solicited notification of UNSUBSCRIBE a
    .m (.reply 3 true false),                    -- PONG
    .m (.push 108 .unsub) ]

example : Disciplined demo := by decide

example : run {} demo =
    [.skipped, .skipped, .deliver 1 (some 1) false, .skipped, .deliver 10 none false, .skipped, .skipped,
     .skipped, .deliver 2 (some 2) true, .skipped, .deliver 20 (some 3) true, .skipped] := by rfl

/-- a refused UNSUBSCRIBE (error reply, then the PONG of the appended PING) and a refused SUBSCRIBE -/
example : Disciplined
    [.w [unsubA], .w [subAB, get 1], .m (.reply 1 false false), .m (.push 2 .unsub), .m (.reply 3 true false),
     .m (.reply 4 false false), .m (.reply 5 false false)] := by decide

/-- why the discipline excludes an unsubscribe notification *inside* the confirmations of one
    SUBSCRIBE: it would be counted as a confirmation and the real one hits `panic(protocolbug)` -/
example : run {} [.w [subAB], .m (.push 1 .sub), .m (.push 2 .unsub), .m (.push 3 .sub)] =
    [.deliver 10 none true, .skipped, .panic "protocolbug"] := by rfl

example : ¬ Disciplined [.w [subAB], .m (.push 1 .sub), .m (.push 2 .unsub), .m (.push 3 .sub)] := by decide

/-- a reply nobody asked for: the automaton panics, the discipline rejects it -/
example : run {} [.m (.reply 1 false false)] = [.panic "protocolbug"] := by rfl
example : ¬ Disciplined [.m (.reply 1 false false)] := by decide

/-- **refinement**: for every disciplined event list the reader automaton produces, frame by
    frame, exactly the outputs of the FIFO specification (each significant frame goes to the
    oldest pending command; everything else is skipped) -/
theorem reader_refines_spec (es : List Ev) (h : Disciplined es) : run {} es = specRun {} es :=
  run_refines (Run.of_disc h) {} rel_init

/-- the protocol-bug / multiexecsub panics of `_backgroundRead` are unreachable -/
theorem reader_never_panics (es : List Ev) (h : Disciplined es) (w : String) : Out.panic w ∉ run {} es := by
  rw [reader_refines_spec es h]; exact specRun_no_panic (Run.of_disc h) w

/-- for every disciplined event list
    * the automaton never panics and produces one output per arriving frame;
    * the written commands (wire order) split into an answered prefix `ds` and the commands
      whose block has not arrived yet (`specEnd`'s FIFO);
    * `Matched`: the k-th command of `ds` received the k-th delivery — exactly one — and that
      delivery was made on a frame that answers this command (`answers`), hands out that very
      frame (`payload`: the reply, or `none` = empty message for a SUBSCRIBE confirmation), and
      carries `done = true` exactly when the command is the last of its batch (`written` flags).
    No reply is lost, duplicated, reordered or handed to another command. -/
theorem reader_matches (es : List Ev) (h : Disciplined es) :
    (∀ w, Out.panic w ∉ run {} es) ∧
    (run {} es).length = (frames es).length ∧
    ∃ ds, written es = ds ++ (specEnd {} es).pend ∧ Matched ds (deliveries (frames es) (run {} es)) := by
  refine ⟨reader_never_panics es h, ?_, ?_⟩
  · rw [reader_refines_spec es h]; exact (spec_payload (Run.of_disc h)).1
  · rw [reader_refines_spec es h]
    obtain ⟨ds, h1, h2⟩ := spec_matched (Run.of_disc h)
    exact ⟨ds, by simpa using h1, h2⟩

/-- every output made on a frame is either `skipped` or a delivery of that very frame
    (never a stored, earlier or foreign one) -/
theorem reader_hands_own_frame (es : List Ev) (h : Disciplined es) :
    ((frames es).zip (run {} es)).all (fun p => okPayload p.1 p.2) = true := by
  rw [reader_refines_spec es h]; exact (spec_payload (Run.of_disc h)).2

/-- **conservation** (no loss, no duplication): the delivered (command, done) pairs followed
    by the still pending ones are exactly the written ones, in written order -/
theorem reader_conservation (es : List Ev) (h : Disciplined es) :
    delivered (run {} es) ++ (specEnd {} es).pend.map key = (written es).map key := by
  rw [reader_refines_spec es h]
  simpa using spec_conservation (Run.of_disc h)

/-- **order**: the deliveries are a prefix of the written commands, in written order -/
theorem reader_in_order (es : List Ev) (h : Disciplined es) :
    delivered (run {} es) <+: (written es).map key :=
  ⟨_, reader_conservation es h⟩

/-- **completeness**: once the block of every written command has arrived, every command has
    received its delivery: the deliveries are exactly the written commands -/
theorem reader_complete (es : List Ev) (h : Disciplined es) (hq : (specEnd {} es).pend = []) :
    delivered (run {} es) = (written es).map key := by
  have := reader_conservation es h
  rw [hq] at this; simpa using this

/-- the `done` flag (`ch <- resp`, the caller is released) is set exactly on the last command
    of a batch -/
theorem done_on_last (b : Batch) (hb : b ≠ []) :
    (mark b).map Prod.snd = List.replicate (b.length - 1) false ++ [true] := by
  induction b with
  | nil => exact absurd rfl hb
  | cons c l ih =>
    cases l with
    | nil => rfl
    | cons c' l' =>
      rw [mark_cons, List.map_cons, ih (by simp)]
      simp [List.replicate_succ]

/-- moving a write event before the frame that precedes it keeps a
    disciplined history disciplined and changes no output of the reader. (Repeating it moves a
    write arbitrarily far to the front: the only ordering the discipline demands between writes
    and frames is that a block does not start before the write of its batch.) -/
theorem write_commutes (pre es : List Ev) (i : In) (b : Batch)
    (h : Disciplined (pre ++ .m i :: .w b :: es)) :
    Disciplined (pre ++ .w b :: .m i :: es) ∧
    run {} (pre ++ .w b :: .m i :: es) = run {} (pre ++ .m i :: .w b :: es) := by
  obtain ⟨h1, h2⟩ := (Run.of_disc h).write_earlier
  exact ⟨h1.disc.1, by rw [reader_refines_spec _ h1.disc.1, reader_refines_spec _ h, h2]⟩

/-- cross-check of the acceptor `onMsg` against the prose discipline written as a grammar
    (`Blocks`: noise*, block of the 1st command, noise*, block of the 2nd command, …): all
    batches written, then any frame stream of that shape, is disciplined and leaves nothing
    pending — -/
theorem blocks_disciplined (bs : List Batch) (fs : List In) (hw : ∀ b, b ∈ bs → wfBatch b = true)
    (h : Blocks bs.flatten fs) : Disciplined (bs.map .w ++ fs.map .m) :=
  (blocks_disc bs fs hw h).1

/-- — hence every written command gets its delivery, in order, the automaton never panics -/
theorem reader_answers_blocks (bs : List Batch) (fs : List In) (hw : ∀ b, b ∈ bs → wfBatch b = true)
    (h : Blocks bs.flatten fs) :
    delivered (run {} (bs.map .w ++ fs.map .m)) = (written (bs.map .w ++ fs.map .m)).map key ∧
    ∀ w, Out.panic w ∉ run {} (bs.map .w ++ fs.map .m) :=
  ⟨reader_complete _ (blocks_disciplined bs fs hw h) (blocks_disc bs fs hw h).2,
   reader_never_panics _ (blocks_disciplined bs fs hw h)⟩

/-! ### The packed waits/recvs counter (`pipe.wrCounter`, uint64: low 32 bits waits, high 32 bits recvs) -/

theorem lo_mod (x : Nat) : (x % 2 ^ 64) % 2 ^ 32 = x % 2 ^ 32 := Nat.mod_mod_of_dvd x ⟨2 ^ 32, by decide⟩

/-- after `lo_mod` and this rewrite the facts below are linear arithmetic with one modulus -/
theorem hi_mod (x : Nat) : (x % 2 ^ 64) / 2 ^ 32 = (x / 2 ^ 32) % 2 ^ 32 := by
  rw [show (2 : Nat) ^ 64 = 2 ^ 32 * 2 ^ 32 by decide, Nat.mod_mul_right_div_self]

/-- `decrWaitsAndIncrRecvs`: `Add(decrLoIncrHi)` with `decrLoIncrHi = 2^32 − 1` decrements the
    low half and increments the high half (mod 2^32) iff the low half is ≥ 1 -/
theorem decrLoIncrHi_spec (c : Nat) :
    1 ≤ c % 2 ^ 32 ↔
      (((c + (2 ^ 32 - 1)) % 2 ^ 64) % 2 ^ 32 + 1 = c % 2 ^ 32 ∧
       ((c + (2 ^ 32 - 1)) % 2 ^ 64) / 2 ^ 32 = (c / 2 ^ 32 + 1) % 2 ^ 32) := by
  rw [lo_mod, hi_mod]; omega

/-- `decrWaits`: `Add(decrLo)` with `decrLo = 2^64 − 1` decrements the low half and leaves the
    high half intact iff the low half is ≥ 1 -/
theorem decrLo_spec (c : Nat) (hc : c < 2 ^ 64) :
    1 ≤ c % 2 ^ 32 ↔
      (((c + (2 ^ 64 - 1)) % 2 ^ 64) % 2 ^ 32 + 1 = c % 2 ^ 32 ∧
       ((c + (2 ^ 64 - 1)) % 2 ^ 64) / 2 ^ 32 = c / 2 ^ 32) := by
  rw [lo_mod, hi_mod]; omega

/-- `incrWaits`: `Add(1)` increments the low half without touching the high half iff the low
    half is < 2^32 − 1 -/
theorem incrLo_spec (c : Nat) (hc : c < 2 ^ 64) :
    c % 2 ^ 32 < 2 ^ 32 - 1 ↔
      (((c + 1) % 2 ^ 64) % 2 ^ 32 = c % 2 ^ 32 + 1 ∧
       ((c + 1) % 2 ^ 64) / 2 ^ 32 = c / 2 ^ 32) := by
  rw [lo_mod, hi_mod]; omega

/-- the value returned by `decrWaitsAndIncrRecvs` / `decrWaits` / `incrWaits` (`uint32(new)`) is
    the new low half, and `loadWaits` / `loadRecvs` read the two halves: a `uint64` is its halves -/
theorem halves (c : Nat) (hc : c < 2 ^ 64) :
    c = (c / 2 ^ 32) * 2 ^ 32 + c % 2 ^ 32 ∧ c / 2 ^ 32 < 2 ^ 32 ∧ c % 2 ^ 32 < 2 ^ 32 :=
  ⟨(Nat.div_add_mod' c _).symm, Nat.div_lt_of_lt_mul hc, Nat.mod_lt _ (by decide)⟩

end Rv.C01
