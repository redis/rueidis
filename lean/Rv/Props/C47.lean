import Rv.Model.InitPlan
/-!
C47 — connection setup applies the configured session settings.

The command lists are the ones regenerated from `_newPipe` (`Rv.Gen.InitPlan`); the
theorems below hold for EVERY option record (the plan depends on the option record only
through the guard conditions of the extracted statements; token-level facts are proved for
every valuation of those guards, then transported to strings by `map`), for every resolved
credential pair and for every reply function of the server (induction over the
reply-evaluation loops).
-/
namespace Rv.C47
open Rv.InitPlan Rv.Gen.InitPlan

/-! ### the plan under an arbitrary valuation of the guards

`buildT` folds over the extracted statements. Each table is three stretches: the statements that
build and push HELLO (RESP2: `AUTH`, the HELLO index, `HELLO 2`), evaluated by cases on the two or
three atoms they mention; guarded `push`es, each contributing `pushed ev s` whatever the other
guards say; and the CLIENT SETINFO statements, the same six in both tables. What the settings
demand is matched against the middle stretch statement by statement, not valuation by valuation. -/

def stepT (ev : Atom → Bool) (b : BuiltT) (s : Step) : BuiltT :=
  if guardHolds ev s.guard then applyAct b s.act else b

theorem buildT_eq (steps : List Step) (ev : Atom → Bool) : buildT steps ev = steps.foldl (stepT ev) {} := rfl

def pushed (ev : Atom → Bool) (s : Step) : List (List Tok) :=
  match s.act with
  | .push ws => if guardHolds ev s.guard then [ws] else []
  | _ => []

/-- statements that append to `init` or leave it alone -/
def appends (s : Step) : Bool :=
  match s.act with
  | .reset | .pushHello => false
  | _ => true

theorem foldl_init (ev : Atom → Bool) : ∀ (steps : List Step) (b : BuiltT), steps.all appends = true →
    (steps.foldl (stepT ev) b).init = b.init ++ steps.flatMap (pushed ev)
  | [], b, _ => by simp
  | s :: steps, b, h => by
    simp only [List.all_cons, Bool.and_eq_true] at h
    rw [List.foldl_cons, foldl_init ev steps _ h.2, List.flatMap_cons, ← List.append_assoc]
    congr 1
    obtain ⟨g, a⟩ := s
    cases a <;> simp only [stepT, pushed] <;> split <;> simp_all [applyAct, appends]

theorem all_pushed (ev : Atom → Bool) (P : List Tok → Bool) (steps : List Step)
    (h : steps.all (fun s => match s.act with | .push ws => P ws | _ => true) = true) :
    (steps.flatMap (pushed ev)).all P = true := by
  simp only [List.all_flatMap, List.all_eq_true] at h ⊢
  intro s hs
  have := h s hs
  unfold pushed
  split
  · split <;> simp_all
  · simp

theorem sublist_flatMap {α β : Type} (f : α → List β) {l₁ l₂ : List α} (h : l₁.Sublist l₂) :
    (l₁.flatMap f).Sublist (l₂.flatMap f) := by
  induction h with
  | slnil => exact .slnil
  | cons a _ ih => rw [List.flatMap_cons]; exact ih.trans (List.sublist_append_right _ _)
  | cons_cons a _ ih => rw [List.flatMap_cons, List.flatMap_cons]; exact (List.Sublist.refl _).append ih

/-- the first statement that assigns `setInfo` opens the CLIENT SETINFO stretch -/
def beforeSetInfo (s : Step) : Bool :=
  match s.act with
  | .setInfoFlag _ => false
  | _ => true

/-- The stretches of the two tables. `resp3` opens with the six statements that build HELLO 3 and push it
    (`hello := …`, three guarded `hello = append(…)`, `init = init[:0]`, `init = append(init, hello)`); `resp2`
    with the reset, the two guarded AUTH pushes, the HELLO index and `HELLO 2`. -/
def hello3Steps : List Step := resp3.take 6
def body3 : List Step := (resp3.drop 6).takeWhile beforeSetInfo
def auth2Steps : List Step := resp2.take 5
def body2 : List Step := (resp2.drop 5).takeWhile beforeSetInfo
def setInfoSteps : List Step := resp3.dropWhile beforeSetInfo

theorem resp3_split : resp3 = hello3Steps ++ body3 ++ setInfoSteps := by decide
theorem resp2_split : resp2 = auth2Steps ++ body2 ++ setInfoSteps := by decide

theorem foldl_hello3 (ev : Atom → Bool) :
    hello3Steps.foldl (stepT ev) {} = ⟨hello3Spec ev, [hello3Spec ev], 0, true⟩ := by
  simp only [hello3Steps, resp3, List.take, List.foldl, stepT, guardHolds, List.all, hello3Spec, authArgs]
  generalize ev .passOnly = x
  generalize ev .hasUser = y
  generalize ev .hasName = z
  cases x <;> cases y <;> cases z <;> rfl

theorem foldl_auth2 (ev : Atom → Bool) : auth2Steps.foldl (stepT ev) {} =
    ⟨[], auth2Spec ev ++ [lits [.k_HELLO, .k_2]], (auth2Spec ev).length, true⟩ := by
  simp only [auth2Steps, resp2, List.take, List.foldl, stepT, guardHolds, List.all, auth2Spec]
  generalize ev .passOnly = x
  generalize ev .hasUser = y
  cases x <;> cases y <;> rfl

theorem foldl_setInfo (ev : Atom → Bool) (b : BuiltT) : setInfoSteps.foldl (stepT ev) b =
    { b with init := b.init ++ setInfoSpec ev, setInfoFlag := ev .setInfo2 || ev .setInfoNil } := by
  simp only [setInfoSteps, resp3, List.dropWhile, beforeSetInfo, List.foldl, stepT, guardHolds, List.all, setInfoSpec]
  generalize ev .setInfo2 = x
  generalize ev .setInfoNil = y
  cases x <;> cases y <;> simp [applyAct, lits]

theorem buildT_split (ev : Atom → Bool) {steps pre body : List Step} (h : steps = pre ++ body ++ setInfoSteps)
    (hb : body.all appends = true) :
    (buildT steps ev).init = (pre.foldl (stepT ev) {}).init ++ body.flatMap (pushed ev) ++ setInfoSpec ev ∧
    (buildT steps ev).setInfoFlag = (ev .setInfo2 || ev .setInfoNil) := by
  rw [buildT_eq, h, List.foldl_append, List.foldl_append, foldl_setInfo, foldl_init ev body _ hb]
  exact ⟨rfl, rfl⟩

theorem plan3T_init (ev : Atom → Bool) :
    (plan3T ev).init = hello3Spec ev :: (body3.flatMap (pushed ev) ++ setInfoSpec ev) := by
  rw [plan3T, (buildT_split ev resp3_split (by decide)).1, foldl_hello3]; rfl

theorem plan2T_init (ev : Atom → Bool) : (plan2T ev).init =
    auth2Spec ev ++ lits [.k_HELLO, .k_2] :: (body2.flatMap (pushed ev) ++ setInfoSpec ev) := by
  rw [plan2T, (buildT_split ev resp2_split (by decide)).1, foldl_auth2]; simp

/-! ### the settings' demands as guarded statements -/

def optStep (a : Atom) (c : List Tok) : Step := ⟨[(a, true)], .push c⟩

theorem pushed_optStep (ev : Atom → Bool) (a : Atom) (c : List Tok) : pushed ev (optStep a c) = opt (ev a) c := by
  simp only [pushed, optStep, guardHolds, List.all, opt]
  cases ev a <;> rfl

def trackSteps : List Step :=
  [⟨[(.cache, true), (.trackNil, true)], .push (lits [.k_CLIENT, .k_TRACKING, .k_ON, .k_OPTIN])⟩,
   ⟨[(.cache, true), (.trackNil, false)], .push (lits [.k_CLIENT, .k_TRACKING, .k_ON] ++ [.trackingOpts])⟩]

def commonSteps : List Step :=
  [optStep .selDB [.lit .k_SELECT, .selectDB], optStep .readonly [.lit .k_READONLY],
   optStep .noTouch (lits [.k_CLIENT, .k_NO_TOUCH, .k_ON]), optStep .noEvict (lits [.k_CLIENT, .k_NO_EVICT, .k_ON])]

theorem pushed_trackSteps (ev : Atom → Bool) : trackSteps.flatMap (pushed ev) = trackingSpec ev := by
  cases hc : ev .cache <;> cases ht : ev .trackNil <;>
    simp [trackSteps, pushed, guardHolds, trackingSpec, opt, hc, ht]

theorem pushed_commonSteps (ev : Atom → Bool) :
    commonSteps.flatMap (pushed ev) ++ setInfoSpec ev = commonSpec ev := by
  simp [commonSteps, pushed_optStep, commonSpec]

/-- the demanded statements are a sub-list of the table, so the demanded commands are a sub-list of the plan -/
theorem required3_sub (ev : Atom → Bool) : (required3 ev).Sublist (plan3T ev).init := by
  have h : (trackSteps ++ commonSteps).Sublist body3 := by decide
  have := ((sublist_flatMap (pushed ev) h).append_right (setInfoSpec ev)).cons_cons (hello3Spec ev)
  rw [List.flatMap_append, List.append_assoc, pushed_trackSteps, pushed_commonSteps] at this
  rw [plan3T_init]; exact this

theorem required2_sub (ev : Atom → Bool) : (required2 ev).Sublist (plan2T ev).init := by
  have h : (optStep .hasName (lits [.k_CLIENT, .k_SETNAME] ++ [.clientName]) :: commonSteps).Sublist body2 := by
    decide
  have := ((sublist_flatMap (pushed ev) h).append_right (setInfoSpec ev)).cons_cons (lits [.k_HELLO, .k_2])
  rw [List.flatMap_cons, List.append_assoc, pushed_optStep, pushed_commonSteps] at this
  rw [plan2T_init, required2]
  simpa [List.append_assoc] using this.append_left (auth2Spec ev)

def isSetInfo : List Tok → Bool
  | .lit .k_CLIENT :: .lit .k_SETINFO :: _ => true
  | _ => false

def headsOK (b : BuiltT) : Bool :=
  (b.init.all fun c => match c with | .lit _ :: _ => true | _ => false) &&
  ((b.init.take (checked b)).all fun c => !isSetInfo c) &&
  ((b.init.drop (checked b)).all isSetInfo) && decide (0 < checked b)

/-- `count -= 2` exactly when the SETINFO pair is there, so `checked` cuts the plan in front of it -/
theorem headsOK_of (ev : Atom → Bool) (b : BuiltT) (base : List (List Tok)) (hi : b.init = base ++ setInfoSpec ev)
    (hf : b.setInfoFlag = (ev .setInfo2 || ev .setInfoNil))
    (hlit : base.all (fun c => match c with | .lit _ :: _ => true | _ => false) = true)
    (hsi : base.all (fun c => !isSetInfo c) = true) (hne : base ≠ []) : headsOK b = true := by
  unfold headsOK checked
  rw [hi, hf]
  unfold setInfoSpec
  generalize ev .setInfo2 = x
  generalize ev .setInfoNil = y
  have e : ∀ t, isSetInfo (lits [.k_CLIENT, .k_SETINFO, .k_LIB_NAME] ++ [t]) = true ∧
      isSetInfo (lits [.k_CLIENT, .k_SETINFO, .k_LIB_VER] ++ [t]) = true := fun _ => ⟨rfl, rfl⟩
  cases x <;> cases y <;> simp [hlit, hsi, List.length_pos_iff.2 hne, e, List.all_append] <;> simp [lits]

theorem auth2Spec_all (ev : Atom → Bool) (P : List Tok → Bool) (h : ∀ ts, P (.lit .k_AUTH :: ts) = true) :
    (auth2Spec ev).all P = true := by
  unfold auth2Spec
  split
  · simp [h]
  · split <;> simp [h]

/-- every command starts with a literal word (so `init[i][0] == "READONLY"/"CLIENT"` is a test on
    that literal), the unchecked replies are exactly those of the CLIENT SETINFO commands, and HELLO
    is inside the checked range -/
theorem heads_are_literals (o : Opt) (u p : String) :
    headsOK (plan3T (evalAtom o u p)) = true ∧ headsOK (plan2T (evalAtom o u p)) = true := by
  generalize evalAtom o u p = ev
  constructor
  · refine headsOK_of ev _ (hello3Spec ev :: body3.flatMap (pushed ev)) (by rw [plan3T_init]; rfl)
      (buildT_split ev resp3_split (by decide)).2 ?_ ?_ (by simp)
    · rw [List.all_cons, all_pushed ev _ _ (by decide)]; rfl
    · rw [List.all_cons, all_pushed ev _ _ (by decide)]; rfl
  · refine headsOK_of ev _ (auth2Spec ev ++ lits [.k_HELLO, .k_2] :: body2.flatMap (pushed ev))
      (by rw [plan2T_init]; simp) (buildT_split ev resp2_split (by decide)).2 ?_ ?_ (by simp)
    · rw [List.all_append, List.all_cons, all_pushed ev _ _ (by decide), auth2Spec_all ev _ (fun _ => rfl)]; rfl
    · rw [List.all_append, List.all_cons, all_pushed ev _ _ (by decide), auth2Spec_all ev _ (fun _ => rfl)]; rfl

/-- For every option record and resolved credentials: the commands the settings demand
    (`required3` / `required2`, substituted) are an in-order sub-list of the plan that `_newPipe`
    pipelines; in RESP3 the first command is HELLO 3 carrying the credentials and the client name,
    in RESP2 the AUTH command (when credentials are configured) is first and HELLO 2 follows it. -/
theorem plan_contains_required_in_order (o : Opt) (u p : String) :
    let ev := evalAtom o u p
    List.Sublist ((required3 ev).map (substCmd o u p)) (plan3 o u p) ∧
    (plan3 o u p).head? = some (substCmd o u p (hello3Spec ev)) ∧
    List.Sublist ((required2 ev).map (substCmd o u p)) (plan2 o u p) ∧
    (plan2 o u p).take (auth2Spec ev).length = (auth2Spec ev).map (substCmd o u p) := by
  intro ev
  refine ⟨(required3_sub ev).map _, ?_, (required2_sub ev).map _, ?_⟩
  · show ((plan3T ev).init.map _).head? = _
    rw [plan3T_init]; rfl
  · show ((plan2T ev).init.map _).take _ = _
    rw [plan2T_init, ← List.map_take, List.take_left' rfl]

/-- credentials are what the spec says at string level: configured credentials (a user name or a
    password) are the first thing on a RESP3 connection -/
theorem credentials_first (o : Opt) (u p : String) (h : u ≠ "" ∨ p ≠ "") :
    (plan3 o u p).head? = some (["HELLO", "3", "AUTH", (if u = "" then "default" else u), p] ++
      (if o.clientName = "" then [] else ["SETNAME", o.clientName])) := by
  rw [(plan_contains_required_in_order o u p).2.1]
  have hp : u = "" → p ≠ "" := fun hu => h.resolve_left (· hu)
  by_cases hu : u = "" <;> by_cases hn : o.clientName = "" <;>
    simp [hello3Spec, authArgs, evalAtom, hu, hn, hp, substCmd, substTok, lits, Kw.str]

/-- For every option record whose resolved user name is not
    empty — also when the password IS empty (an ACL user with `nopass`, or an AuthCredentialsFn that
    returns only a user name) — the RESP3 plan starts with `HELLO 3 AUTH <username> <password>` and
    the RESP2 sequence starts with `AUTH <username> <password>`: the connection never runs as the
    server's default user when a user name is configured. -/
theorem plan_authenticates_configured_user (o : Opt) (u p : String) (hu : u ≠ "") :
    (∃ rest, (plan3 o u p).head? = some (["HELLO", "3", "AUTH", u, p] ++ rest)) ∧
    (plan2 o u p).head? = some ["AUTH", u, p] := by
  constructor
  · refine ⟨if o.clientName = "" then [] else ["SETNAME", o.clientName], ?_⟩
    have := credentials_first o u p (.inl hu)
    simpa [hu] using this
  · have h2 := (plan_contains_required_in_order o u p).2.2.2
    have hlen : (auth2Spec (evalAtom o u p)) = [[.lit .k_AUTH, .username, .password]] := by
      simp [auth2Spec, evalAtom, hu]
    rw [hlen] at h2
    have : (plan2 o u p).take 1 = [["AUTH", u, p]] := by
      simpa [substCmd, substTok, Kw.str] using h2
    cases hp : plan2 o u p with
    | nil => simp [hp] at this
    | cons c r => simp [hp] at this; simp [this]

/-! ### the reply-evaluation loops -/

deriving instance DecidableEq for Except

private theorem step2K_ok : ∀ (h : Head) (k : RK) (az ih ih1 s s' : Bool),
    step2K az ih ih1 h s k = .ok s' → h = .readonly ∨ (k ≠ .ioerr ∧ k ≠ .rerr) := by
  intro h k; cases h <;> cases k <;> decide

private theorem kind_facts (rep : Reply) : (rep.kind ≠ .ioerr → rep ≠ .ioerr) ∧ (rep.kind ≠ .rerr → rep ≠ .rerr false) ∧
    (rep.kind = .noHello → rep = .rerr true) := by
  cases rep with
  | rerr nh => cases nh <;> simp [Reply.kind]
  | _ => simp [Reply.kind]

private theorem step2_ok (az : Bool) (hi i : Nat) (h : Head) (s s' : Bool) (rep : Reply)
    (hs : step2 az hi i h s rep = .ok s') : h = .readonly ∨ (rep ≠ .ioerr ∧ rep ≠ .rerr false) := by
  rcases step2K_ok h rep.kind _ _ _ s s' hs with h1 | ⟨h1, h2⟩
  · exact .inl h1
  · exact .inr ⟨(kind_facts rep).1 h1, (kind_facts rep).2.1 h2⟩

private theorem loop2_ok (az : Bool) (hi : Nat) (heads : List Head) (rs : Nat → Reply) (i : Nat) (s s' : Bool) :
    loop2.go az hi rs heads i s = .ok s' →
    ∀ j (hj : j < heads.length), heads[j] = .readonly ∨ (rs (i + j) ≠ .ioerr ∧ rs (i + j) ≠ .rerr false) := by
  induction heads generalizing i s with
  | nil => intro _ j hj; simp at hj
  | cons h hs ih =>
    intro hok j hj
    simp only [loop2.go] at hok
    split at hok
    · rename_i s1 hstep
      cases j with
      | zero => simpa using step2_ok az hi i h s s1 (rs i) hstep
      | succ j =>
        have := ih (i + 1) s1 hok j (by simpa using hj)
        simpa [Nat.add_assoc, Nat.add_comm 1 j] using this
    · cases hok

/-- how `r2` moves in one iteration: it is only ever set, and only by a Redis error matching
    `unknown command 'HELLO'`; while it is unset every error but READONLY's ends the loop -/
private theorem step3K_r2 : ∀ (h : Head) (k : RK) (az i0 i1 r2 n r2' n' : Bool),
    step3K az i0 i1 h ⟨r2, n⟩ k = .ok ⟨r2', n'⟩ →
    (r2' = false → r2 = false ∧ (h = .readonly ∨ err3K az i0 i1 k = .none)) ∧
    (r2' = true → r2 = true ∨ k = .noHello) := by
  intro h k; cases h <;> cases k <;> decide

private theorem step3_r2 (az : Bool) (i : Nat) (h : Head) (s s' : St3) (rep : Reply)
    (hs : step3 az i h s rep = .ok s') :
    (s'.r2 = false → s.r2 = false ∧ (h = .readonly ∨ err3 az i rep = .none)) ∧
    (s'.r2 = true → s.r2 = true ∨ rep = .rerr true) := by
  cases s; cases s'
  have := step3K_r2 h rep.kind az _ _ _ _ _ _ hs
  exact ⟨this.1, fun hr => (this.2 hr).imp_right (kind_facts rep).2.2⟩

private theorem loop3_ok (az : Bool) (heads : List Head) (rs : Nat → Reply) (i : Nat) (s s' : St3) :
    loop3.go az rs heads i s = .ok s' →
    (s'.r2 = false →
      s.r2 = false ∧ ∀ j (hj : j < heads.length), heads[j] = .readonly ∨ err3 az (i + j) (rs (i + j)) = .none) ∧
    (s'.r2 = true → s.r2 = true ∨ ∃ j, j < heads.length ∧ rs (i + j) = .rerr true) := by
  induction heads generalizing i s with
  | nil =>
    intro h
    simp only [loop3.go, Except.ok.injEq] at h; subst h
    exact ⟨fun hr => ⟨hr, fun j hj => absurd hj (Nat.not_lt_zero j)⟩, .inl⟩
  | cons h hs ih =>
    intro hok
    simp only [loop3.go] at hok
    split at hok
    · rename_i s1 hstep
      have hrest := ih (i + 1) s1 hok
      have hhead := step3_r2 az i h s s1 (rs i) hstep
      constructor
      · intro hr
        obtain ⟨h1, hj1⟩ := hrest.1 hr
        refine ⟨(hhead.1 h1).1, fun j hj => ?_⟩
        cases j with
        | zero => exact (hhead.1 h1).2
        | succ j => simpa [Nat.add_assoc, Nat.add_comm 1 j] using hj1 j (by simpa using hj)
      · intro hr
        rcases hrest.2 hr with h1 | ⟨j, hj, hrj⟩
        · exact (hhead.2 h1).imp_right fun h0 => ⟨0, by simp, h0⟩
        · exact .inr ⟨j + 1, by simpa using hj, by simpa [Nat.add_assoc, Nat.add_comm 1 j] using hrj⟩
    · cases hok

/-! ### connect -/

/-- replies of an attempt that `_newPipe` looks at: index below `checked` -/
def heads3 (o : Opt) (u p : String) : List Head :=
  ((plan3T (evalAtom o u p)).init.take (checked (plan3T (evalAtom o u p)))).map headOf
def heads2 (o : Opt) (u p : String) : List Head :=
  ((plan2T (evalAtom o u p)).init.take (checked (plan2T (evalAtom o u p)))).map headOf

private theorem fallback_cases (o : Opt) (u p : String) (pre : List Cmd) (inil : Bool) (rs2 : Nat → Reply) :
    ((fallback o u p pre inil rs2).res = .serving false →
      o.disableCache = true ∧ (fallback o u p pre inil rs2).sent = pre ++ plan2 o u p ∧
      ∀ j (hj : j < (heads2 o u p).length), (heads2 o u p)[j] = .readonly ∨ (rs2 j ≠ .ioerr ∧ rs2 j ≠ .rerr false)) ∧
    (fallback o u p pre inil rs2).res ≠ .serving true := by
  unfold fallback
  by_cases hc : o.disableCache = true
  · simp only [hc, Bool.not_true, Bool.false_eq_true, if_false]
    cases hl : loop2 o.azInfo (plan2T (evalAtom o u p)).helloIndex (heads2 o u p) rs2 0 inil with
    | ok v =>
      have := loop2_ok o.azInfo _ (heads2 o u p) rs2 0 inil v (by simpa [loop2] using hl)
      simp only [heads2] at hl
      simp only [hl]
      exact ⟨fun _ => ⟨trivial, trivial, fun j hj => by simpa using this j hj⟩, by simp⟩
    | error f =>
      simp only [heads2] at hl
      simp only [hl]
      exact ⟨by simp, by simp⟩
  · simp [hc]

/-- **The setup plan is complete before a pipe is returned.** If `_newPipe` returns a pipe, the
    whole plan of the protocol it serves was written first (user commands can only be issued on the
    returned pipe): RESP3 serving ⇒ exactly `plan3` was sent; RESP2 serving ⇒ `plan2` was sent
    after nothing or after the complete RESP3 attempt. -/
theorem serving_sent_full_plan (o : Opt) (r2ps : Bool) (rs3 rs2 : Nat → Reply) (u p : String)
    (hc : creds o = some (u, p)) :
    ((connect o r2ps rs3 rs2).res = .serving true → (connect o r2ps rs3 rs2).sent = plan3 o u p) ∧
    ((connect o r2ps rs3 rs2).res = .serving false →
      (connect o r2ps rs3 rs2).sent = plan2 o u p ∨ (connect o r2ps rs3 rs2).sent = plan3 o u p ++ plan2 o u p) := by
  unfold connect
  simp only [hc]
  split
  · exact ⟨fun h => absurd h (fallback_cases o u p [] true rs2).2,
      fun h => .inl (by simpa using ((fallback_cases o u p [] true rs2).1 h).2.1)⟩
  · split
    · exact ⟨by simp, by simp⟩
    · split
      · exact ⟨fun h => absurd h (fallback_cases o u p _ _ rs2).2,
          fun h => .inr ((fallback_cases o u p _ _ rs2).1 h).2.1⟩
      · exact ⟨fun _ => rfl, by simp⟩

/-- **RESP2 only after HELLO was rejected.** A pipe serving RESP2 exists only if RESP2 was asked for
    (`AlwaysRESP2`, or the pipe is the RESP2 Pub/Sub helper of a RESP2 connection), or a checked
    reply of the RESP3 attempt was an error matching `unknown command 'HELLO'`, or the reply to
    HELLO 3 did not announce protocol >= 3. Client-side caching must be disabled for it. -/
theorem resp2_only_after_hello_rejected (o : Opt) (r2ps : Bool) (rs3 rs2 : Nat → Reply)
    (h : (connect o r2ps rs3 rs2).res = .serving false) :
    o.disableCache = true ∧
    (o.alwaysResp2 = true ∨ r2ps = true ∨ protoOf (rs3 0) < 3 ∨
      ∃ u p, creds o = some (u, p) ∧ ∃ j, j < (heads3 o u p).length ∧ rs3 j = .rerr true) := by
  unfold connect at h
  split at h
  · simp at h
  · rename_i u p hc
    split at h
    · rename_i h2
      refine ⟨((fallback_cases o u p [] true rs2).1 h).1, ?_⟩
      simp only [Bool.or_eq_true] at h2
      rcases h2 with h2 | h2
      · exact .inl h2
      · exact .inr (.inl h2)
    · dsimp only at h
      split at h
      · simp at h
      · rename_i r2 hl
        split at h
        · rename_i hr
          refine ⟨((fallback_cases o u p _ _ rs2).1 h).1, ?_⟩
          simp only [Bool.or_eq_true, decide_eq_true_eq] at hr
          rcases hr with hr | hr
          · rcases (loop3_ok o.azInfo (heads3 o u p) rs3 0 ⟨false, true⟩ r2 (by simpa [loop3, heads3] using hl)).2 hr with h0 | ⟨j, hj, hrj⟩
            · cases h0
            · exact .inr (.inr (.inr ⟨u, p, hc, j, hj, by simpa using hrj⟩))
          · exact .inr (.inr (.inl hr))
        · simp at h

/-- **A failed setup step fails the connection.** If a pipe is returned, every reply whose index is
    below `checked` (all but the two trailing CLIENT SETINFO replies, `heads_are_literals`) was
    error-free, except: the reply to READONLY is ignored; in the RESP2 sequence an error matching
    `unknown command 'HELLO'` is ignored (meant for HELLO 2 on old servers). A RESP3 pipe saw
    HELLO answered by a map announcing protocol >= 3. -/
theorem failed_step_fails_conn (o : Opt) (r2ps : Bool) (rs3 rs2 : Nat → Reply) (u p : String)
    (hc : creds o = some (u, p)) :
    ((connect o r2ps rs3 rs2).res = .serving true →
      3 ≤ protoOf (rs3 0) ∧
      ∀ j (hj : j < (heads3 o u p).length), (heads3 o u p)[j] = .readonly ∨ err3 o.azInfo j (rs3 j) = .none) ∧
    ((connect o r2ps rs3 rs2).res = .serving false →
      ∀ j (hj : j < (heads2 o u p).length), (heads2 o u p)[j] = .readonly ∨ (rs2 j ≠ .ioerr ∧ rs2 j ≠ .rerr false)) := by
  unfold connect
  simp only [hc]
  split
  · exact ⟨fun h => absurd h (fallback_cases o u p [] true rs2).2, fun h => ((fallback_cases o u p [] true rs2).1 h).2.2⟩
  · split
    · exact ⟨by simp, by simp⟩
    · rename_i r2 hl
      split
      · exact ⟨fun h => absurd h (fallback_cases o u p _ _ rs2).2, fun h => ((fallback_cases o u p _ _ rs2).1 h).2.2⟩
      · rename_i hr
        simp only [Bool.or_eq_true, decide_eq_true_eq, not_or, Bool.not_eq_true, Nat.not_lt] at hr
        obtain ⟨hr2, hproto⟩ := hr
        have := (loop3_ok o.azInfo (heads3 o u p) rs3 0 ⟨false, true⟩ r2 (by simpa [loop3, heads3] using hl)).1 hr2
        exact ⟨fun _ => ⟨hproto, fun j hj => by simpa using this.2 j hj⟩, by simp⟩

/-- a credentials callback that fails fails the connection before anything is written -/
theorem cred_error_sends_nothing (o : Opt) (r2ps : Bool) (rs3 rs2 : Nat → Reply) (h : o.credFn = some none) :
    connect o r2ps rs3 rs2 = ⟨[], .failed .cred⟩ := by
  simp [connect, creds, h]

private theorem evalAtom_creds (o : Opt) (a b : String) (f : Option (Option (String × String))) (u p : String) :
    evalAtom { o with username := a, password := b, credFn := f } u p = evalAtom o u p := by
  funext x; cases x <;> rfl

private theorem substCmd_creds (o : Opt) (a b : String) (f : Option (Option (String × String))) (u p : String) :
    substCmd { o with username := a, password := b, credFn := f } u p = substCmd o u p := by
  funext c
  have : substTok { o with username := a, password := b, credFn := f } u p = substTok o u p := by
    funext t; cases t <;> rfl
  simp only [substCmd, this]

/-- **Dynamic credentials are used.** With `AuthCredentialsFn` returning (u, p) the connection does
    exactly what it does with static `Username = u`, `Password = p`: the static fields are ignored
    and (u, p) is what HELLO 3 … AUTH / AUTH carries (`credentials_first`). -/
theorem dynamic_credentials_used (o : Opt) (r2ps : Bool) (rs3 rs2 : Nat → Reply) (u p : String) :
    connect { o with credFn := some (some (u, p)) } r2ps rs3 rs2 =
    connect { o with username := u, password := p, credFn := none } r2ps rs3 rs2 := by
  have e1 := evalAtom_creds o o.username o.password (some (some (u, p))) u p
  have e2 := evalAtom_creds o u p none u p
  have s1 := substCmd_creds o o.username o.password (some (some (u, p))) u p
  have s2 := substCmd_creds o u p none u p
  simp only [connect, creds, fallback, plan3, plan2, e1, e2, s1, s2]

/-! ### connection setup never panics (repaired by `fix:` 30ce25f) -/

private theorem step3K_nopanic : ∀ (h : Head) (k : RK) (az i0 i1 r2 n : Bool), step3K az i0 i1 h ⟨r2, n⟩ k ≠ .error .panic := by
  intro h k; cases h <;> cases k <;> decide

private theorem step2K_nopanic : ∀ (h : Head) (k : RK) (az ih ih1 n : Bool), step2K az ih ih1 h n k ≠ .error .panic := by
  intro h k; cases h <;> cases k <;> decide

private theorem loop3_nopanic (az : Bool) (heads : List Head) (rs : Nat → Reply) (i : Nat) (s : St3) :
    loop3.go az rs heads i s ≠ .error .panic := by
  induction heads generalizing i s with
  | nil => simp [loop3.go]
  | cons h hs ih =>
    simp only [loop3.go]
    split
    · exact ih _ _
    · rename_i f hstep
      intro hf
      cases hf
      cases s
      exact step3K_nopanic h (rs i).kind _ _ _ _ _ hstep

private theorem loop2_nopanic (az : Bool) (hi : Nat) (heads : List Head) (rs : Nat → Reply) (i : Nat) (s : Bool) :
    loop2.go az hi rs heads i s ≠ .error .panic := by
  induction heads generalizing i s with
  | nil => simp [loop2.go]
  | cons h hs ih =>
    simp only [loop2.go]
    split
    · exact ih _ _
    · rename_i f hstep
      intro hf
      cases hf
      exact step2K_nopanic h (rs i).kind _ _ _ _ hstep

/-- Setup either returns a pipe or an error, for every option record and every server behaviour.
    (On the tree before `fix:` 30ce25f this failed: EnableReplicaAZInfo+AZFromInfo, HELLO rejected,
    INFO SERVER text with an `availability_zone:` line → assignment to an entry of the nil `p.info`
    map. The harness still reports that witness under key `initplan:panic:az-info-on-nil-map`.) -/
theorem setup_never_panics (o : Opt) (r2ps : Bool) (rs3 rs2 : Nat → Reply) :
    (connect o r2ps rs3 rs2).res ≠ .failed .panic := by
  have hfb : ∀ u p pre n, (fallback o u p pre n rs2).res ≠ .failed .panic := by
    intro u p pre n
    unfold fallback
    split
    · simp
    · dsimp only
      split
      · simp
      · rename_i f hl
        intro hf
        simp only [Res.failed.injEq] at hf
        subst hf
        exact loop2_nopanic _ _ _ rs2 0 n (by simpa [loop2] using hl)
  unfold connect
  split
  · simp
  · split
    · exact hfb _ _ _ _
    · dsimp only
      split
      · rename_i f hl
        intro hf
        simp only [Res.failed.injEq] at hf
        subst hf
        exact loop3_nopanic _ _ rs3 0 _ (by simpa [loop3] using hl)
      · split
        · exact hfb _ _ _ _
        · simp

/-! ### sentinel connections, NewClient, and the pin of the hand-modelled part -/

/-- `newSentinelOpt` replaces user name, password and client name by the sentinel ones and never
    selects a database; nothing else the setup plan reads is changed (AuthCredentialsFn is kept, so
    dynamic credentials also apply to sentinel connections). -/
theorem sentinel_assign_pinned : sentinelAssign =
    [("Username", "o.Sentinel.Username"), ("Password", "o.Sentinel.Password"), ("ClientName", "o.Sentinel.ClientName"),
     ("Dialer", "o.Sentinel.Dialer"), ("TLSConfig", "o.Sentinel.TLSConfig"), ("SelectDB", "0")] := rfl

/-- Whatever the data-node options are (user name,
    password, client name, database), the options of a sentinel connection carry exactly the
    sentinel credentials and client name — also when they are empty — and database 0; so by
    `plan_authenticates_configured_user` / `plan_contains_required_in_order` the sentinel connection
    authenticates as Sentinel.Username (or sends no AUTH at all) and never as the data-node user. -/
theorem sentinel_opt_uses_sentinel_credentials (o : Opt) (su sp sn : String) :
    (sentinelOpt o su sp sn).username = su ∧ (sentinelOpt o su sp sn).password = sp ∧
    (sentinelOpt o su sp sn).clientName = sn ∧ (sentinelOpt o su sp sn).selectDB = 0 ∧
    (o.credFn = none → creds (sentinelOpt o su sp sn) = some (su, sp)) := by
  refine ⟨rfl, rfl, rfl, rfl, fun h => ?_⟩
  simp [creds, sentinelOpt, h]

theorem sentinel_never_selects (o : Opt) (su sp sn : String) (u p : String) :
    evalAtom (sentinelOpt o su sp sn) u p .selDB = false := rfl

/-- fields of ClientOption the setup plan reads -/
def sessionFields : List String :=
  ["Username", "Password", "AuthCredentialsFn", "ClientName", "SelectDB", "ReplicaOnly", "Sentinel", "Sentinel.MasterSet",
   "ClientNoTouch", "ClientNoEvict", "Standalone", "Standalone.EnableRedirect", "EnableReplicaAZInfo", "AZFromInfo",
   "DisableCache", "ClientTrackingOptions", "ClientSetInfo", "AlwaysRESP2", "OnInvalidations"]

/-- NewClient's defaulting does not touch any field the setup plan reads -/
theorem newclient_keeps_session_fields : ∀ f ∈ sessionFields, f ∉ newClientAssigns ∧ ("&option." ++ f) ∉ newClientAssigns := by
  decide

/-- the hand-modelled rest of `_newPipe` (credential resolution, both reply loops, protocol decision)
    is the text this model was written against -/
theorem residual_pinned : residualSha = 82369977979978227580877273909703700504178658993642874252805091551669589660896 := rfl

/-! ### non-vacuity -/

example : (connect { password := "pw", clientName := "n", selectDB := 2 } false (fun i => if i = 0 then .map 3 else .str) (fun _ => .str)).res = .serving true := by decide
example : (connect { password := "pw", disableCache := true } false (fun i => if i = 0 then .rerr true else .str) (fun _ => .str)) =
    ⟨[["HELLO", "3", "AUTH", "default", "pw"], ["CLIENT", "SETINFO", "LIB-NAME", "rueidis"], ["CLIENT", "SETINFO", "LIB-VER", libVer],
      ["AUTH", "pw"], ["HELLO", "2"], ["CLIENT", "SETINFO", "LIB-NAME", "rueidis"], ["CLIENT", "SETINFO", "LIB-VER", libVer]], .serving false⟩ := by decide
example : (connect { selectDB := 2 } false (fun i => if i = 0 then .map 3 else if i = 2 then .rerr false else .str) (fun _ => .str)).res = .failed .err := by decide

end Rv.C47
