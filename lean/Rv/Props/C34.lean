/-
C34 — distributed locks are mutually exclusive and notice loss.

Chain: the six script texts of rueidislock/lock.go are regenerated (`Rv.Gen.LuaScripts`) and
pinned here ⇒ `Rv.Lock.acqScript/forceScript/extendScript/delScript` are their hand
transcriptions on one register (trusted; differentially tested against the Go fake on the
`s.*` lines) ⇒ `Rv.Lock.next` transcribes try / acquire / monitoring / WithContext as events
(trusted; the real Locker runs end-to-end against the fake with OPTOUT tracking and
invalidation pushes and is compared with the model run to quiescence).
All theorems quantify over every event list = every interleaving of script executions and
client steps of any number of holders, for every KeyMajority m ≥ 1.
-/
import Rv.Gen.LuaScripts
import Rv.Model.Lock
import Rv.Lemmas.AddonCount

namespace Rv.C34
open Rv.Lock Rv.AddonCount

theorem acqms_pinned : Rv.Gen.rueidislock_acqms =
  "local r = redis.call(\"SET\",KEYS[1],ARGV[1],\"NX\",\"PX\",ARGV[2]);redis.call(\"GET\",KEYS[1]);return r" := rfl
theorem acqat_pinned : Rv.Gen.rueidislock_acqat =
  "local r = redis.call(\"SET\",KEYS[1],ARGV[1],\"NX\",\"PXAT\",ARGV[2]);redis.call(\"GET\",KEYS[1]);return r" := rfl
theorem fcqms_pinned : Rv.Gen.rueidislock_fcqms =
  "local r = redis.call(\"SET\",KEYS[1],ARGV[1],\"PX\",ARGV[2]);redis.call(\"GET\",KEYS[1]);return r" := rfl
theorem fcqat_pinned : Rv.Gen.rueidislock_fcqat =
  "local r = redis.call(\"SET\",KEYS[1],ARGV[1],\"PXAT\",ARGV[2]);redis.call(\"GET\",KEYS[1]);return r" := rfl
theorem extend_pinned : Rv.Gen.rueidislock_extend =
  "if redis.call(\"GET\",KEYS[1]) == ARGV[1] then local r = redis.call(\"PEXPIREAT\",KEYS[1],ARGV[2]);redis.call(\"GET\",KEYS[1]);return r end;return 0" := rfl
theorem delkey_pinned : Rv.Gen.rueidislock_delkey =
  "if redis.call(\"GET\",KEYS[1]) == ARGV[1] then return redis.call(\"DEL\",KEYS[1]) end;return 0" := rfl

/-- two sets of at least `m` of the `2m−1` keys have a key in common — for every `m ≥ 1` -/
theorem quorum_intersection (m : Nat) (hm : 1 ≤ m) (a b : Nat → Bool)
    (ha : m ≤ cnt (2 * m - 1) a) (hb : m ≤ cnt (2 * m - 1) b) :
    ∃ i, i < 2 * m - 1 ∧ a i = true ∧ b i = true := quorum m a b ha hb hm

structure Inv (s : Sys) : Prop where
  /-- a running monitor's key is owned by its holder -/
  J : ∀ v i, (s.hs v).mons i = .running → s.regs i = some v ∧ i < s.n
  /-- while the context is not cancelled no acquired key has been given up -/
  K : ∀ v, (s.hs v).cancelled = false → cnt s.n (isRunning (s.hs v)) = (s.hs v).acquired
  /-- `try` hands out the context only with a majority -/
  R : ∀ v, (s.hs v).returned = true → s.m ≤ (s.hs v).acquired

@[simp] private theorem exitMon_mons (m n : Nat) (h : Holder) (i : Nat) : (exitMon m n h i).mons = upd h.mons i .exited := by
  unfold exitMon; simp only; split <;> rfl
@[simp] private theorem exitMon_acquired (m n : Nat) (h : Holder) (i : Nat) : (exitMon m n h i).acquired = h.acquired := by
  unfold exitMon; simp only; split <;> rfl
@[simp] private theorem exitMon_returned (m n : Nat) (h : Holder) (i : Nat) : (exitMon m n h i).returned = h.returned := by
  unfold exitMon; simp only; split <;> rfl
private theorem exitMon_cancelled {m n : Nat} {h : Holder} {i : Nat} (hc : (exitMon m n h i).cancelled = false) :
    h.cancelled = false := by
  unfold exitMon at hc; simp only at hc; split at hc
  · simp at hc
  · exact hc
private theorem hs_other (s : Sys) (v w : Nat) (h' : Holder) (hw : w ≠ v) : (setH s v h').hs w = s.hs w := by
  simp [setH, upd, hw]

private theorem inv_replace (s : Sys) (v : Nat) (h' : Holder) (regs' : Nat → Option Nat) (ws' : Nat → Waiter)
    (inv : Inv s)
    (hJ : ∀ i, h'.mons i = .running → regs' i = some v ∧ i < s.n)
    (hK : h'.cancelled = false → cnt s.n (isRunning h') = h'.acquired)
    (hR : h'.returned = true → s.m ≤ h'.acquired)
    (hothers : ∀ w i, w ≠ v → (s.hs w).mons i = .running → regs' i = s.regs i) :
    Inv { s with regs := regs', hs := upd s.hs v h', ws := ws' } := by
  constructor
  · intro w i hr
    simp only [upd] at hr
    split at hr
    · next hw => exact hw ▸ hJ i hr
    · next hw => exact ⟨(hothers w i hw hr).trans (inv.J w i hr).1, (inv.J w i hr).2⟩
  · intro w
    simp only [upd]
    split
    · exact hK
    · exact inv.K w
  · intro w
    simp only [upd]
    split
    · exact hR
    · exact inv.R w

private theorem running_exit {m n : Nat} {h : Holder} {i : Nat} (hi : h.mons i ≠ .running) :
    cnt n (isRunning (exitMon m n h i)) = cnt n (isRunning h) := by
  refine cnt_congr _ _ _ fun j _ => ?_
  simp only [isRunning, exitMon_mons, upd]
  split
  · next hj => rw [hj, beq_eq_false_iff_ne.2 hi]; rfl
  · rfl

private theorem delScript_other {v w : Nat} {r : Option Nat} (hr : r = some w) (hw : w ≠ v) : (delScript v r).1 = r := by
  unfold delScript
  rw [if_neg]
  exact fun e => hw (Option.some.inj (hr.symm.trans e))

private theorem inv_exit (s : Sys) (v i : Nat) (regs' : Nat → Option Nat) (ws' : Nat → Waiter) (inv : Inv s)
    (h : (s.hs v).mons i = .idle ∨ (s.hs v).cancelled = true)
    (hr : ∀ j, j ≠ i → regs' j = s.regs j)
    (hx : ∀ w, w ≠ v → (s.hs w).mons i = .running → regs' i = s.regs i) :
    Inv { s with regs := regs', hs := upd s.hs v (exitMon s.m s.n (s.hs v) i), ws := ws' } := by
  refine inv_replace s v _ regs' ws' inv ?_ ?_ ?_ fun w j hw hj => ?_
  · intro j hj
    rw [exitMon_mons, upd] at hj
    split at hj
    · cases hj
    · next hji => exact hr j hji ▸ inv.J v j hj
  · intro hc
    have hc0 := exitMon_cancelled hc
    rw [exitMon_acquired, ← inv.K v hc0]
    refine running_exit ?_
    rcases h with h | h
    · rw [h]; nofun
    · rw [hc0] at h; cases h
  · intro hret
    rw [exitMon_returned] at hret; rw [exitMon_acquired]; exact inv.R v hret
  · by_cases hji : j = i
    · exact hji ▸ hx w hw (hji ▸ hj)
    · exact hr j hji

private theorem inv_ws {s : Sys} {ws' : Nat → Waiter} (inv : Inv s) : Inv { s with ws := ws' } :=
  ⟨inv.J, inv.K, inv.R⟩

theorem inv_next (s : Sys) (e : Ev) (inv : Inv s) (hc : clean e = true) : Inv (next s e) := by
  cases e with
  | force | extdel | expire | monErr | extset => cases hc
  | acqErr v i =>
    simp only [next]
    split
    · next hpre =>
      exact inv_exit s v i _ _ inv (.inl hpre.1) (fun j hj => if_neg hj)
        fun w hw hj => (if_pos rfl).trans (delScript_other (inv.J w i hj).1 hw)
    · exact inv
  | acq v i =>
    simp only [next]
    split
    · next hpre =>
      obtain ⟨hidle, hin⟩ := hpre
      cases hreg : s.regs i with
      | some w => exact inv_exit s v i s.regs s.ws inv (.inl hidle) (fun _ _ => rfl) fun _ _ _ => rfl
      | none =>
        simp only [acqScript]
        refine inv_replace s v _ (upd s.regs i (some v)) s.ws inv ?_ ?_ ?_ ?_
        · intro j hr
          simp only [upd] at hr ⊢
          by_cases hj : j = i
          · subst hj; simp [hin]
          · simp only [if_neg hj] at hr ⊢; exact inv.J v j hr
        · intro hcv
          simp only at hcv ⊢
          rw [← inv.K v hcv]
          apply cnt_upd_succ s.n i _ _ hin
          · simp [isRunning, hidle]
          · simp [isRunning, upd]
          · intro j hj; simp [isRunning, upd, hj]
        · exact fun hr => Nat.le_succ_of_le (inv.R v hr)
        · intro w j hw hr
          simp only [upd]
          split
          · next hj =>
            have := (inv.J w j hr).1
            rw [hj, hreg] at this; cases this
          · rfl
    · exact inv
  | skip v i =>
    simp only [next]
    split
    · next hpre => exact inv_exit s v i s.regs s.ws inv (.inl hpre.1) (fun _ _ => rfl) fun _ _ _ => rfl
    · exact inv
  | ret v =>
    simp only [next]
    split
    · next hpre =>
      exact inv_replace s v { s.hs v with returned := true } s.regs s.ws inv (fun j hr => inv.J v j hr)
        (fun hcv => inv.K v hcv) (fun _ => hpre.1) (fun _ _ _ _ => rfl)
    · exact inv
  | release v =>
    exact inv_replace s v { s.hs v with cancelled := true } s.regs s.ws inv (fun j hr => inv.J v j hr)
      nofun (fun hr => inv.R v hr) (fun _ _ _ _ => rfl)
  | mon v i =>
    simp only [next]
    split
    · split
      · next hcan =>
        exact inv_exit s v i _ _ inv (.inr hcan) (fun j hj => if_neg hj)
          fun w hw hj => (if_pos rfl).trans (delScript_other (inv.J w i hj).1 hw)
      · next hrun _ =>
        -- a running monitor's key is its holder's, so the extend succeeds
        rw [if_pos (by simp [extendScript, (inv.J v i hrun).1])]
        exact inv
    · exact inv
  | park w i | wake w =>
    simp only [next]
    split
    · exact inv_ws inv
    · exact inv
  | parkErr w | gate w => exact inv_ws inv

def init (m : Nat) : Sys := { m := m }

private theorem inv_init (m : Nat) : Inv (init m) := by
  refine ⟨nofun, fun v _ => ?_, nofun⟩
  have : ∀ n, cnt n (isRunning ({} : Holder)) = 0 := by
    intro n; induction n with
    | zero => rfl
    | succ k ih => simp [cnt, ih, isRunning]
  exact this _

private theorem run_preserves {P : Sys → Prop} (es : List Ev) (hn : ∀ s, ∀ e ∈ es, P s → P (next s e)) :
    ∀ s, P s → P (run s es) := by
  induction es with
  | nil => exact fun _ h => h
  | cons e r ih =>
    exact fun s h => ih (fun s e' he' => hn s e' (List.mem_cons_of_mem _ he')) _ (hn s e List.mem_cons_self h)

theorem inv_run (s : Sys) (es : List Ev) (inv : Inv s) (hc : ∀ e ∈ es, clean e = true) : Inv (run s es) :=
  run_preserves es (fun s e he inv => inv_next s e inv (hc e he)) s inv

private theorem run_m (s : Sys) (es : List Ev) : (run s es).m = s.m := by
  induction es generalizing s with
  | nil => rfl
  | cons e r ih =>
    rw [run, ih]
    cases e <;> dsimp only [next] <;> (repeat' split) <;> rfl

/-- under the property's hypotheses a live lock context owns (running monitors on) at least a
majority of the keys -/
theorem live_ctx_implies_majority (m : Nat) (es : List Ev) (hc : ∀ e ∈ es, clean e = true) (v : Nat)
    (hl : live (run (init m) es) v = true) :
    m ≤ cnt (2 * m - 1) (isRunning ((run (init m) es).hs v)) ∧
    ∀ i, isRunning ((run (init m) es).hs v) i = true → (run (init m) es).regs i = some v := by
  have inv := inv_run (init m) es (inv_init m) hc
  have hm : (run (init m) es).m = m := run_m _ _
  simp only [live, Bool.and_eq_true, Bool.not_eq_true'] at hl
  have hk := inv.K v hl.2
  have hr := inv.R v hl.1
  simp only [Sys.n, hm] at hk hr
  refine ⟨by omega, fun i hi => (inv.J v i (by simpa [isRunning] using hi)).1⟩

/-- mutual exclusion: for every m ≥ 1 and every interleaving of script executions and client
steps in which nobody forces, no key expires or is deleted by a third party and no extend fails
with a server error, at most one holder's lock context is live -/
theorem mutual_exclusion (m : Nat) (hm : 1 ≤ m) (es : List Ev) (hc : ∀ e ∈ es, clean e = true) (v w : Nat)
    (hv : live (run (init m) es) v = true) (hw : live (run (init m) es) w = true) : v = w := by
  obtain ⟨hcv, hov⟩ := live_ctx_implies_majority m es hc v hv
  obtain ⟨hcw, how⟩ := live_ctx_implies_majority m es hc w hw
  obtain ⟨i, _, hiv, hiw⟩ := quorum_intersection m hm _ _ hcv hcw
  exact Option.some.inj ((hov i hiv).symm.trans (how i hiw))

/-- which events delete a key with the holder's own delkey script -/
def deletesOwn (s : Sys) (v i : Nat) (e : Ev) : Prop :=
  s.regs i = some v ∧ (next s e).regs i = none ∧ (e = .mon v i ∨ e = .monErr v i)

/-- on the release path (cancel(), parent context done, lock lost) a holder's context is already
cancelled when its delkey script runs: `mon` deletes only under `cancelled` -/
theorem ctx_done_before_release_partial (s : Sys) (v i : Nat)
    (hd : s.regs i = some v) (hn : (next s (.mon v i)).regs i = none) : (s.hs v).cancelled = true := by
  simp only [next] at hn
  by_cases hrun : (s.hs v).mons i = .running
  · rw [if_pos hrun] at hn
    by_cases hcan : (s.hs v).cancelled = true
    · exact hcan
    · rw [if_neg hcan] at hn
      have hext : (extendScript v (s.regs i)).2 = true := by simp [extendScript, hd]
      rw [if_pos hext, hd] at hn; cases hn
  · rw [if_neg hrun, hd] at hn; cases hn

/-- the monitor's early decision does not change where `monErr` ends -/
theorem exitMon_preExit (m n : Nat) (h : Holder) (i : Nat) : exitMon m n (preExit m n h i) i = exitMon m n h i := by
  unfold exitMon preExit
  by_cases hc : cnt n (isExited { h with mons := upd h.mons i .exited }) ≥ m
  · simp only [hc, if_true]
    split <;> rfl
  · simp only [hc, if_false]

/-- error path, repaired order (fix 04be27c): when an extend fails with a server/network error
the monitor decides `leaving++ >= majority → cancel()` before it issues its DEL. So in the state
in which the DEL is issued (`delState`) the holder's context is done whenever this monitor is
the `m`-th one to end, i.e. whenever giving up this key costs the holder its majority. What the
clause means under partial loss: a key given up after an extend error while fewer than `m`
monitors have ended is a LOSS the holder notices and survives with a majority of running
monitors, not a release of the lock. -/
theorem ctx_done_before_release (s : Sys) (v i : Nat)
    (hmaj : s.m ≤ cnt s.n (isExited { s.hs v with mons := upd (s.hs v).mons i .exited })) :
    ((delState s v i).hs v).cancelled = true := by
  simp only [delState, setH, upd, if_true, preExit]
  rw [if_pos hmaj]

/-- both deletion paths together: a holder's own delkey removes a key only when its context is
already done, or (error path) while fewer than `m` of its monitors have ended -/
theorem delkey_when_done_or_minor_loss (s : Sys) (v i : Nat) (hd : s.regs i = some v) :
    ((next s (.mon v i)).regs i = none → (s.hs v).cancelled = true) ∧
    (((delState s v i).hs v).cancelled = true ∨
      cnt s.n (isExited { s.hs v with mons := upd (s.hs v).mons i .exited }) < s.m) := by
  exact ⟨ctx_done_before_release_partial s v i hd, (Nat.lt_or_ge _ _).symm.imp (ctx_done_before_release s v i) id⟩

/-- the unrepaired order (before fix 04be27c: delkey, then `released++ … cancel()`): the DEL was
issued in the state `s` itself. Witness for m = 1: the holder's only key is deleted while its
context is live; with the repaired order the context is done in the state of the DEL. -/
def wPre : Sys := run (init 1) [.acq 7 0, .ret 7]

theorem ctx_done_before_release_fails_on_error :
    live wPre 7 = true ∧ wPre.regs 0 = some 7 ∧
    (delScript 7 (wPre.regs 0)).1 = none ∧        -- the DEL the monitor issued first
    (next wPre (.monErr 7 0)).regs 0 = none ∧ live (next wPre (.monErr 7 0)) 7 = false := by
  decide

theorem ctx_done_before_release_witness_repaired :
    live (delState wPre 7 0) 7 = false ∧ (delState wPre 7 0).regs 0 = some 7 := by
  decide

/-- a monitor that never acquired its key counts when it leaves: after a refused or failed
acquisition (`acq` on a held key, `acqErr`, `skip`) the holder has one more exited monitor -/
theorem never_acquired_counts (m n : Nat) (h : Holder) (i : Nat) (hi : i < n) (hidle : h.mons i = .idle) :
    cnt n (isExited (exitMon m n h i)) = cnt n (isExited h) + 1 := by
  apply cnt_upd_succ n i _ _ hi
  · simp [isExited, hidle]
  · simp [isExited, upd]
  · intro j hj; simp [isExited, upd, hj]

/-- bare majority (m = 2): keys 0 and 1 acquired, the acquisition of key 2 failed with an error.
The holder is live. When the extend of key 0 then fails, the context is already done in the
state in which the DEL of key 0 is issued — because the never-acquired monitor of key 2 is
counted (`leaving` = 2 = majority). A counter that ignored never-acquired monitors would see 1
and the DEL would leave the holder one key of three with a live context. -/
def wBare : Sys := run (init 2) [.acq 7 0, .acq 7 1, .acqErr 7 2, .ret 7]

theorem bare_majority_error_cancels_first :
    live wBare 7 = true ∧ cnt wBare.n (isExited (wBare.hs 7)) = 1 ∧
    live (delState wBare 7 0) 7 = false ∧ (delState wBare 7 0).regs 0 = some 7 ∧
    owned (next wBare (.monErr 7 0)) 7 = 1 := by
  decide

/-- once every monitor has been started and each one whose key is no longer owned has taken its
step (no running monitor sits on a foreign key), a holder that owns fewer than `m` keys has a
cancelled context: `released ≥ m` -/
theorem loss_cancels (m n : Nat) (hn : n = 2 * m - 1) (hm : 1 ≤ m) (h : Holder)
    (hstarted : ∀ i, i < n → h.mons i ≠ .idle)
    (hfew : cnt n (isRunning h) < m) : m ≤ cnt n (isExited h) := by
  have hsum : cnt n (isRunning h) + cnt n (isExited h) = n := by
    clear hfew hn
    induction n with
    | zero => rfl
    | succ k ih =>
      have := ih (fun i hi => hstarted i (by omega))
      simp only [cnt]
      -- monitor `k` is running or has exited, and counts once
      cases hmk : h.mons k
      · exact absurd hmk (hstarted k (by omega))
      all_goals simp [isRunning, isExited, hmk]; omega
  omega

/-- … and `exitMon` cancels the context as soon as the count reaches `m` -/
theorem exit_cancels (m n : Nat) (h : Holder) (i : Nat)
    (hc : m ≤ cnt n (isExited { h with mons := upd h.mons i .exited })) : (exitMon m n h i).cancelled = true := by
  unfold exitMon; simp only; rw [if_pos hc]

/-- a parked waiter without a pending gate token is blocked on a key that is still held: there
is no reachable state with a registered waiter, a free lock and no pending token -/
def WInv (s : Sys) : Prop :=
  ∀ w, (s.ws w).parked = true → (s.ws w).token = false → s.regs (s.ws w).blocked ≠ none

private theorem notify_cases (ws : Nat → Waiter) (i w : Nat)
    (hp : (notify ws i w).parked = true) (ht : (notify ws i w).token = false) :
    (ws w).parked = true ∧ (ws w).token = false ∧ (notify ws i w).blocked = (ws w).blocked ∧ (ws w).blocked ≠ i := by
  unfold notify at hp ht ⊢
  by_cases c : (ws w).parked = true ∧ (ws w).blocked = i
  · simp [c] at ht
  · simp only [if_neg c] at hp ht ⊢
    exact ⟨hp, ht, trivial, fun hb => c ⟨hp, hb⟩⟩

private theorem winv_notify (s : Sys) (i : Nat) (x : Option Nat) (hs' : Nat → Holder) (inv : WInv s) :
    WInv { s with regs := upd s.regs i x, ws := notify s.ws i, hs := hs' } := by
  intro w hp ht
  obtain ⟨hp0, ht0, hb, hne⟩ := notify_cases s.ws i w hp ht
  show upd s.regs i x ((notify s.ws i w).blocked) ≠ none
  rw [hb]; simp only [upd, if_neg hne]
  exact inv w hp0 ht0

private theorem winv_keep (s : Sys) (i : Nat) (x : Option Nat) (hs' : Nat → Holder) (inv : WInv s)
    (hx : s.regs i ≠ none → x ≠ none) : WInv { s with regs := upd s.regs i x, hs := hs' } := by
  intro w hp ht
  show upd s.regs i x ((s.ws w).blocked) ≠ none
  simp only [upd]
  by_cases hb : (s.ws w).blocked = i
  · rw [if_pos hb]; exact hx (hb ▸ inv w hp ht)
  · rw [if_neg hb]; exact inv w hp ht

private theorem winv_waiter {s : Sys} {w : Nat} {x' : Waiter} (inv : WInv s)
    (h : x'.parked = true → x'.token = false → s.regs x'.blocked ≠ none) : WInv { s with ws := upd s.ws w x' } := by
  intro x
  show (upd s.ws w x' x).parked = true → (upd s.ws w x' x).token = false → s.regs (upd s.ws w x' x).blocked ≠ none
  unfold upd
  split
  · exact h
  · exact inv x

private theorem winv_delscript (s : Sys) (v i : Nat) {hs' : Nat → Holder} (inv : WInv s) :
    WInv { s with regs := upd s.regs i (delScript v (s.regs i)).1,
                  ws := if (delScript v (s.regs i)).2 = true then notify s.ws i else s.ws, hs := hs' } := by
  by_cases h : s.regs i = some v
  · have : delScript v (s.regs i) = (none, true) := by simp [delScript, h]
    rw [this]; exact winv_notify s i none hs' inv
  · have : delScript v (s.regs i) = (s.regs i, false) := by simp [delScript, h]
    rw [this]; exact winv_keep s i _ hs' inv id

private theorem winv_none (s : Sys) (i : Nat) (inv : WInv s) :
    WInv { s with regs := upd s.regs i none, ws := if s.regs i = none then s.ws else notify s.ws i } := by
  by_cases h : s.regs i = none
  · rw [if_pos h]
    have := winv_keep s i _ s.hs inv id
    rw [h] at this; exact this
  · rw [if_neg h]; exact winv_notify s i none s.hs inv

/-- the invariant is preserved by every event, clean or not, except `parkErr` (`faultPark`): each
event that frees a key leaves a token for the waiters blocked on it, and since the gate channel
has capacity 1 a token that is already pending is enough -/
theorem waiter_not_lost (s : Sys) (e : Ev) (inv : WInv s) (hf : faultPark e = false) : WInv (next s e) := by
  cases e with
  | parkErr w => cases hf
  | gate w => exact winv_waiter inv fun _ ht => Bool.noConfusion ht
  | acq v i =>
    simp only [next]
    split
    · cases hreg : s.regs i with
      | some w => exact inv
      | none => exact winv_keep s i (some v) _ inv fun _ => nofun
    · exact inv
  | skip v i | ret v =>
    simp only [next]
    split <;> exact inv
  | release v => exact inv
  | mon v i =>
    simp only [next]
    split
    · split
      · exact winv_delscript s v i inv
      · split <;> exact inv
    · exact inv
  | monErr v i | acqErr v i =>
    simp only [next]
    split
    · exact winv_delscript s v i inv
    · exact inv
  | force v i =>
    simp only [next]
    split
    · exact winv_notify s i (some v) _ inv
    · exact inv
  | extdel i | expire i => exact winv_none s i inv
  | extset i x => exact winv_notify s i (some x) _ inv
  | park w i =>
    simp only [next]
    split
    · next h => exact winv_waiter inv fun _ _ => h
    · exact inv
  | wake w =>
    simp only [next]
    split
    · exact winv_waiter inv fun hp => Bool.noConfusion hp
    · exact inv

theorem waiter_not_lost_run (m : Nat) (es : List Ev) (hf : ∀ e ∈ es, faultPark e = false) :
    WInv (run (init m) es) :=
  run_preserves es (fun s e he inv => waiter_not_lost s e inv (hf e he)) _ fun _ hp => nomatch hp

/-- not a missed wake-up: a waiter whose attempt ends with a server error instead
of a refusal — here KeyMajority 1, the acquire script of its only key fails — goes back to the
gate having read no key: the lock is free, it is parked, no token is pending and nothing it
tracks will ever be written. The wake-up it had received was consumed by the failed attempt; the
next one comes only with the next invalidation or gate send. `waiter_not_lost` excludes exactly
this event (`faultPark`). -/
theorem waiter_parked_after_failed_attempt_witness :
    let s := run (init 1) [.acqErr 5 0, .parkErr 0]
    s.regs 0 = none ∧ (s.ws 0).parked = true ∧ (s.ws 0).token = false ∧ ¬ WInv s := by
  refine ⟨by decide, by decide, by decide, ?_⟩
  intro h
  exact h 0 (by decide) (by decide) (by decide)

/-- try() drains the key's notification channel BEFORE it sends the acquire script. So when a third
party deletes (or overwrites, or the key expires) right after the script ran on the server — even
before the reply reaches the client — the notification is in `g.csc[i]` when the key's monitor
starts, and the monitor's step on it ends the monitor (extend answers 0): the loss is noticed
without waiting for the ExtendInterval timer. (Draining after the script would throw it away.) -/
theorem invalidation_after_acquire_script_reaches_monitor (s : Sys) (v i : Nat)
    (hidle : (s.hs v).mons i = .idle) (hi : i < s.n) (hfree : s.regs i = none) :
    ((next s (.acq v i)).hs v).csc i = false ∧
    ((next (next s (.acq v i)) (.extdel i)).hs v).csc i = true ∧
    ((next (next s (.acq v i)) (.extdel i)).hs v).mons i = .running ∧
    ((next (next (next s (.acq v i)) (.extdel i)) (.mon v i)).hs v).mons i = .exited := by
  have hg : (s.hs v).mons i = Mon.idle ∧ i < s.n := ⟨hidle, hi⟩
  by_cases hc : (s.hs v).cancelled = true
  · simp [next, hg, hfree, acqScript, signalCsc, upd, delScript, hc]
  · simp [next, hg, hfree, acqScript, signalCsc, upd, extendScript, hc, setH]

open Rv.Lock.KeyName in
private theorem splitFirst_append (d n : List Char) (hd : ∀ c ∈ d, c ≠ ':') :
    splitFirst (d ++ ':' :: n) = some (d, n) := by
  induction d with
  | nil => simp [splitFirst]
  | cons c r ih =>
    have hc : c ≠ ':' := hd c (List.mem_cons_self ..)
    have := ih (fun x hx => hd x (List.mem_cons_of_mem _ hx))
    simp [splitFirst, hc, this]

open Rv.Lock.KeyName in
private theorem digits_ok (i : Nat) : (∀ c ∈ Nat.toDigits 10 i, c ≠ ':') ∧ allDigits (Nat.toDigits 10 i) = true ∧
    (Nat.toDigits 10 i).head? ≠ some '-' ∧ (Nat.toDigits 10 i).head? ≠ some '+' := by
  have hdig : ∀ c ∈ Nat.toDigits 10 i, c.isDigit = true :=
    fun c hc => Nat.isDigit_of_mem_toDigits (by decide) (by decide) hc
  have hne : Nat.toDigits 10 i ≠ [] := Nat.toDigits_ne_nil
  have hnot : ∀ ch : Char, ch.isDigit = false → ∀ c ∈ Nat.toDigits 10 i, c ≠ ch :=
    fun ch hch c hc e => by have := hdig c hc; rw [e, hch] at this; cases this
  have hhead : ∀ ch : Char, ch.isDigit = false → (Nat.toDigits 10 i).head? ≠ some ch :=
    fun ch hch h => hnot ch hch ch (List.mem_of_mem_head? h) rfl
  refine ⟨hnot ':' (by decide), ?_, hhead '-' (by decide), hhead '+' (by decide)⟩
  simp only [allDigits, Bool.and_eq_true, Bool.not_eq_true', List.all_eq_true]
  exact ⟨by cases h : Nat.toDigits 10 i <;> simp_all, hdig⟩

/-- what onInvalidations parses out of the key `keyname` built is the index and the
name again — for every prefix, every index and EVERY name, colons included. This is what
`SplitN(…, ":", 2)` (split at the first colon only) provides and a full `Split` does not. -/
theorem parseKey_keyname (p n : List Char) (i : Nat) :
    KeyName.parseKey p (KeyName.keyname p i n) = .hit i n := by
  obtain ⟨hcol, hall, hm, hp⟩ := digits_ok i
  have hpre : p.isPrefixOf (KeyName.keyname p i n) = true := by
    simp [KeyName.keyname, List.isPrefixOf_iff_prefix]
  have hlen : ¬ (KeyName.keyname p i n).length < p.length + 1 := by
    simp [KeyName.keyname]
  have hdrop : (KeyName.keyname p i n).drop (p.length + 1) = Nat.toDigits 10 i ++ ':' :: n := by
    have : KeyName.keyname p i n = (p ++ [':']) ++ (Nat.toDigits 10 i ++ ':' :: n) := by simp [KeyName.keyname]
    rw [this, List.drop_left' (by simp)]
  have hat : KeyName.atoi (Nat.toDigits 10 i) = (i : Int) := by
    simp only [KeyName.atoi, if_neg hm, if_neg hp, hall, if_true, Nat.ofDigitChars_ten_toDigits]
  simp only [KeyName.parseKey, hpre, if_true, if_neg hlen, hdrop, splitFirst_append _ _ hcol, hat]

/-- hence the gate of the lock's own name is signalled at the right per-key channel -/
theorem signal_keyname (p n : List Char) (i total : Nat) (hi : i < total) :
    KeyName.signal p n total (KeyName.keyname p i n) = .gate i := by
  simp [KeyName.signal, parseKey_keyname, hi]

example : KeyName.splitFirst "0:job:42".toList = some ("0".toList, "job:42".toList) := by decide

/-! ### waiters of ONE Locker under NoLoopTracking: the wake-up CAN be lost

`waiter_not_lost` above is about waiters whose connection is told about every write of the key
they track. For two WithContext callers of one Locker with NoLoopTracking the real code loses
the wake-up on the schedule below (reproduced end-to-end with gates on the delkey calls, witness
key `lock:lost-wakeup:noloop-sibling-failed-attempt`, known finding). -/

/-- with NoLoopTracking: at the end of the schedule every key is free, both waiters are parked, the gate
channel is empty and the connection tracks nothing: nothing is pending that could wake them -/
theorem noloop_sibling_lost_wakeup_witness :
    let s := Sib.run { noloop := true } Sib.schedule
    s.regs = [none, none, none] ∧ s.parked = 2 ∧ s.token = false ∧ s.tracked = [] ∧ s.live = 0 := by
  decide

/-- the same schedule without NOLOOP: the waiter's own deletion of key 0 is notified, a token is
pending, and the next attempt takes the lock -/
theorem sibling_control_without_noloop :
    let s := Sib.run { noloop := false } Sib.schedule
    s.token = true ∧ s.parked = 2 ∧ (Sib.settle s 4 8).live = 1 ∧ (Sib.settle s 4 8).parked = 1 := by
  decide

example : live (run (init 2) [.acq 5 0, .acq 5 1, .ret 5, .acq 5 2]) 5 = true := by decide
example : live (run (init 2) [.acq 5 0, .acq 5 1, .ret 5, .acq 6 0, .skip 6 1, .skip 6 2, .park 1 0]) 6 = false := by decide

end Rv.C34
