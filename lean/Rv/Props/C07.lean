/-
C07 — cached replies expire at the earlier of client and server TTL.
Model: Rv/Model/Lru.lean (`flight` sets the client expiry on the pending entry, `update`
keeps the earlier one, a hit needs `relativePTTL > 0`; message.go's 7-byte field and
`CacheTTL/CachePTTL/CachePXAT`; pipe.go's conversion of the server PTTL on arrival); the same rule for the
adapter (Rv/Model/Adapter.lean) and at the reader loop of one connection (Rv/Model/CachePipe.lean).
-/
import Rv.Lemmas.LruPending
import Rv.Lemmas.AdapterPending
import Rv.Lemmas.CachePipe
namespace Rv.C07
open Rv.Lru
open Rv.Spec.Cache (expiry)

/-- `getExpireAt ∘ setExpireAt` keeps exactly the low 56 bits (two's complement) -/
theorem pack_mod (v : Int) : pack v = v % 72057594037927936 := pack_eq_emod v

/-- every byte written by `setExpireAt` is a byte -/
theorem setExpireAt_bytes (v : Int) : ∀ b ∈ setExpireAt v, 0 ≤ b ∧ b < 256 := by
  intro b hb
  simp only [setExpireAt, List.mem_cons, List.mem_nil_iff, or_false] at hb
  rcases hb with rfl | rfl | rfl | rfl | rfl | rfl | rfl <;>
    exact ⟨Int.emod_nonneg _ (by decide), Int.emod_lt_of_pos _ (by decide)⟩

/-- **Round trip.** Any expiry below 2^56 ms (year 2 285 000) survives the 7-byte field unchanged. -/
theorem pack_roundtrip (v : Int) (h0 : 0 ≤ v) (h1 : v < 2 ^ 56) : pack v = v := pack_of_lt h0 h1

/-- the specification's `expiry` really is the earlier of the two when the server gave one, the client's otherwise -/
theorem expiry_spec (client server : Int) :
    (server = 0 → expiry client server = client) ∧
    (server ≠ 0 → expiry client server = min client server) := by
  unfold expiry
  exact ⟨fun h => if_pos h, fun h => by rw [if_neg h]; split <;> omega⟩

/-- **Expiry is the minimum.** If `Flight` at `t0` with TTL `ttl` was answered "send" and its pending entry was
    neither updated, cancelled nor closed by the operations `ops` in between, then the `Update` that delivers the
    reply (whose own expiry field holds `raw`: the server expiry computed on arrival, or nothing) returns — and
    hands to the waiters — the earlier of the client expiry `unixMilli (t0 + ttl)` and the server expiry. -/
theorem expiry_is_min {s : State} (hi : Inv s) (hopen : s.closed = false) (k c : Bytes) (ttl t0 : Int)
    (hsend : (flight s k c ttl t0).2 = .send) (ops : List Op) (hno : ∀ op ∈ ops, op.resolves k c = false)
    (v : Nat) (vsz raw : Int) :
    let s2 := run (flight s k c ttl t0).1 ops
    (update s2 k c v vsz raw).2 = expiry (pack (unixMilli (t0 + ttl))) (pack raw) ∧
    (update s2 k c v vsz raw).1.done = s2.done ++ [(s.nextId, .val v (expiry (pack (unixMilli (t0 + ttl))) (pack raw)))] := by
  intro s2
  obtain ⟨hi2, hmem⟩ := send_entry_persists hi hopen hsend ops hno
  have := update_of_pending (hi2.open_of_mem hmem) (find?_of_mem hi2.nodup hmem) rfl v vsz raw
  rw [chooseExp_eq] at this
  exact this

/-- pipe.go on arrival at `arrival` (ns): PTTL −1 (no expiry) and −2 (no key) leave the field empty, so the
    client expiry alone applies -/
theorem expiry_pttl_negative (client arrival pttl : Int) (h : pttl < 0) :
    expiry client (serverExpire arrival pttl) = client := by
  simp [serverExpire, expiry, show ¬ pttl ≥ 0 by omega]

/-- PTTL ≥ 0 (including 0): the server expiry is `arrival + pttl` in ms; with a client expiry it gives the minimum
    (all within the 56-bit range, and not exactly the epoch) -/
theorem expiry_pttl_nonneg (client arrival pttl : Int) (h : 0 ≤ pttl)
    (hr0 : 0 < unixMilli (arrival + pttl * 1000000)) (hr1 : unixMilli (arrival + pttl * 1000000) < 2 ^ 56) :
    expiry client (serverExpire arrival pttl) = min client (unixMilli (arrival + pttl * 1000000)) := by
  have hp : pack (unixMilli (arrival + pttl * 1000000)) = unixMilli (arrival + pttl * 1000000) :=
    pack_roundtrip _ (by omega) hr1
  simp only [serverExpire, show pttl ≥ 0 from h, if_true, hp]
  exact (expiry_spec _ _).2 (by omega)

/-- **Static TTL**: the reply is handed to `Update` as parsed (expiry field empty), so only the client TTL counts -/
theorem static_ttl_uses_client_only {s : State} (k c : Bytes) (v : Nat) (vsz : Int) (e : Entry)
    (hopen : s.closed = false) (hf : find? s.list k c = some e) (hp : e.pend = true) :
    (update s k c v vsz 0).2 = e.exp := by
  rw [(update_of_pending hopen hf hp v vsz 0).1, pack_zero, chooseExp, if_pos (Or.inr rfl)]

/-- **No hit at or after expiry.** Whatever the state, a hit at `now` carries an expiry strictly after `now`
    (in ms), and that expiry is the one stored with the entry. -/
theorem no_hit_at_or_after_expiry (s : State) (k c : Bytes) (ttl now : Int) (v : Nat) (exp : Int)
    (h : (flight s k c ttl now).2 = .hit v exp) :
    unixMilli now < exp ∧ ∃ e ∈ s.list, e.key = k ∧ e.cmd = c ∧ e.pend = false ∧ e.val = v ∧ e.exp = exp := by
  obtain ⟨e, hf, hp, hv, he, hlt⟩ := (flight_cases s k c ttl now).of_hit h
  have hf' := find?_some hf
  exact ⟨hlt, e, hf'.1, hf'.2.1, hf'.2.2, hp, hv, he⟩

/-- at or after its expiry a completed entry is not served: the caller is told to fetch again -/
theorem expired_entry_is_refetched (s : State) (k c : Bytes) (ttl now : Int)
    (e : Entry) (hf : find? s.list k c = some e) (hp : e.pend = false) (hexp : e.exp ≤ unixMilli now) :
    (flight s k c ttl now).2 = .send := by
  cases flight_cases s k c ttl now with
  | found e' hc hf' hv =>
    rw [hf'] at hf; cases hf
    simp [valid, hp, relativePTTL] at hv; omega
  -- the other outcomes answer "send"
  | _ => assumption

/-- **Adapter: expiry is the minimum.** For a pending adapter entry whose client expiry `xat` fits the 7-byte field,
    `Update` returns, stores in the user cache and hands to the waiters `min(xat, server expiry)` (the client
    expiry alone when the reply carries none). -/
theorem adapter_expiry_is_min {s : Adapter.State} {fl : List (Adapter.KC × Option Adapter.AEntry)}
    (hfl : s.flights = some fl) (k c : Bytes) (e : Adapter.AEntry) (hs : Adapter.slot s k c = some (some e))
    (h0 : 0 ≤ e.xat) (h1 : e.xat < 2 ^ 56) (v : Nat) (raw : Int) :
    (Adapter.update s k c v raw).2 = expiry e.xat (pack raw) ∧
    Adapter.get (Adapter.update s k c v raw).1.store (k ++ c) = some (v, expiry e.xat (pack raw)) := by
  have hpack : pack e.xat = e.xat := pack_roundtrip _ h0 h1
  simp only [Adapter.update, hfl, hs, hpack, Adapter.get_put, if_true, Adapter.own_eq_expiry, and_self]

/-- the pending adapter entry created by a miss carries the client expiry `unixMilli (now + ttl)` -/
theorem adapter_client_expiry {s : Adapter.State} (k c : Bytes) (ttl now : Int) (hopen : s.flights ≠ none)
    (h : (Adapter.flight s k c ttl now).2 = .send) :
    Adapter.slot (Adapter.flight s k c ttl now).1 k c = some (some { id := s.nextId, xat := unixMilli (now + ttl) }) :=
  Adapter.send_creates_pending k c ttl now hopen h

/-- **Adapter: no hit at or after expiry.** -/
theorem adapter_no_hit_at_or_after_expiry (s : Adapter.State) (k c : Bytes) (ttl now : Int) (v : Nat) (exp : Int)
    (h : (Adapter.flight s k c ttl now).2 = .hit v exp) :
    unixMilli now < exp ∧ Adapter.get s.store (k ++ c) = some (v, exp) :=
  Adapter.of_hit h

/-! ### the reader loop's conversion of the server PTTL (`expiryOf`, used by `Rv.CachePipe`) -/

/-- `serverRaw` is what `serverExpire` packs -/
theorem serverExpire_eq (arrival pttl : Int) : serverExpire arrival pttl = pack (serverRaw arrival pttl) := by
  unfold serverExpire serverRaw
  split
  · rfl
  · simp [pack, setExpireAt, getExpireAt]

/-- **Expiry of a cached read is the minimum, including the PTTL 0 boundary.** For a call started at `start` with
    client TTL `ttl` whose reply arrives at `arrival` with server answer `pttl` (all expiries inside the 7-byte
    range, the server expiry not exactly the epoch): `pttl < 0` (−1 no expiry, −2 no key) gives the client expiry;
    `pttl ≥ 0` — zero included — gives the earlier of the client expiry and `arrival + pttl` ms. -/
theorem expiryOf_is_min (start ttl arrival pttl : Int)
    (hc0 : 0 ≤ unixMilli (start + ttl)) (hc1 : unixMilli (start + ttl) < 2 ^ 56) :
    (pttl < 0 → expiryOf start ttl arrival pttl = unixMilli (start + ttl)) ∧
    (0 ≤ pttl → 0 < unixMilli (arrival + pttl * 1000000) → unixMilli (arrival + pttl * 1000000) < 2 ^ 56 →
      expiryOf start ttl arrival pttl = min (unixMilli (start + ttl)) (unixMilli (arrival + pttl * 1000000))) := by
  unfold expiryOf serverRaw
  rw [pack_of_lt hc0 hc1, chooseExp_eq]
  constructor
  · intro h
    rw [if_neg (Int.not_le.2 h), pack_zero]; exact (expiry_spec _ _).1 rfl
  · intro h h0 h1
    rw [if_pos h, pack_of_lt (Int.le_of_lt h0) h1]; exact (expiry_spec _ _).2 (Int.ne_of_gt h0)

/-- the same in whole milliseconds: the model's `expiryOf` is the specification's `expiryMs` -/
theorem expiryOf_eq_spec (start ttl arrival pttl : Int)
    (hc0 : 0 ≤ start + ttl) (hc1 : start + ttl < 2 ^ 56)
    (hs : 0 ≤ pttl → 0 < arrival + pttl ∧ arrival + pttl < 2 ^ 56) :
    expiryOf (start * 1000000) (ttl * 1000000) (arrival * 1000000) pttl = Spec.Cache.expiryMs start ttl arrival pttl := by
  have e (a b : Int) : unixMilli (a * 1000000 + b * 1000000) = a + b := by
    rw [unixMilli, ← Int.add_mul, Int.mul_ediv_cancel _ (by decide)]
  have e1 := e start ttl
  have e2 := e arrival pttl
  have := expiryOf_is_min (start * 1000000) (ttl * 1000000) (arrival * 1000000) pttl (by rw [e1]; exact hc0) (by rw [e1]; exact hc1)
  unfold Spec.Cache.expiryMs
  split
  · rename_i h; rw [this.1 h, e1]
  · rename_i h
    have h : 0 ≤ pttl := by omega
    rw [this.2 h (by rw [e2]; exact (hs h).1) (by rw [e2]; exact (hs h).2), e1, e2]

/-- **PTTL 0**: the reply of a key in its last millisecond expires on arrival — it can never be served as a hit
    by a lookup at or after its arrival. -/
theorem expiryOf_pttl_zero (start ttl arrival : Int)
    (hc0 : 0 ≤ unixMilli (start + ttl)) (hc1 : unixMilli (start + ttl) < 2 ^ 56)
    (h0 : 0 < unixMilli arrival) (h1 : unixMilli arrival < 2 ^ 56) :
    expiryOf start ttl arrival 0 ≤ unixMilli arrival ∧
    ∀ now, arrival ≤ now → ¬ (relativePTTL (expiryOf start ttl arrival 0) (unixMilli now) > 0) := by
  have hm := (expiryOf_is_min start ttl arrival 0 hc0 hc1).2 (Int.le_refl 0)
  rw [Int.zero_mul, Int.add_zero] at hm
  have hle : expiryOf start ttl arrival 0 ≤ unixMilli arrival := by rw [hm h0 h1]; exact Int.min_le_right _ _
  refine ⟨hle, fun now hn => ?_⟩
  have : unixMilli arrival ≤ unixMilli now := Int.ediv_le_ediv (by decide) hn
  rw [relativePTTL]; omega

open Rv.CachePipe in
/-- **Connection level.** When the reader loop, at clock `now`, handles the reply of the fetch of (k, c) whose
    pending entry was created by a DoCache started at `t0` with TTL `ttl`, the reply is committed, and handed to
    every waiter, with expiry `expiryOf t0 ttl now pttl`. -/
theorem pipe_commits_expiryOf (st : St) (hi : Inv st.store) (k c : Bytes) (v : Nat) (vsz pttl : Int) (rest : List Msg)
    (hq : st.respQ = .reply k c v vsz pttl :: rest) (e : Entry) (he : e ∈ st.store.list)
    (hk : e.key = k) (hc : e.cmd = c) (hp : e.pend = true) (t0 ttl : Int)
    (hexp : e.exp = pack (unixMilli (t0 + ttl))) (now : Int) :
    (CachePipe.step st (.deliver now)).store.done = st.store.done ++ [(e.id, .val v (expiryOf t0 ttl now pttl))] := by
  have hfind : find? st.store.list k c = some e := by
    have := find?_of_mem hi.nodup he; rw [hk, hc] at this; exact this
  simp only [CachePipe.step, hq, handle]
  rw [(update_of_pending (hi.open_of_mem he) hfind hp v vsz _).2, hexp]; rfl

/-- **The accessors report the stored expiry.** For a reply carrying expiry `exp ≠ 0`: `CachePXAT` is `exp`,
    `CachePTTL` is the remaining milliseconds (0 once expired), `CacheTTL` the remaining seconds rounded up; and
    the reply counts as a hit exactly while `CachePTTL` is positive. An empty field (`exp = 0`) reports −1. -/
theorem ttl_reports_same (exp now : Int) :
    (exp ≠ 0 → cachePXAT exp = exp ∧ cachePTTL exp now = max 0 (exp - now) ∧
               cacheTTL exp now = (max 0 (exp - now) + 999) / 1000 ∧
               (0 < cachePTTL exp now ↔ 0 < relativePTTL exp now)) ∧
    (exp = 0 → cachePXAT exp = -1 ∧ cachePTTL exp now = -1 ∧ cacheTTL exp now = -1) := by
  constructor
  · intro h
    have hp : cachePTTL exp now = max 0 (exp - now) := by
      simp only [cachePTTL, h, if_false]; split <;> omega
    refine ⟨if_neg h, hp, ?_, by rw [hp, relativePTTL]; omega⟩
    simp only [cacheTTL, hp]
    split
    · split <;> omega
    · rw [Int.max_eq_left (by omega)]; rfl
  · intro h; subst h; exact ⟨rfl, rfl, rfl⟩

example : (flight (Lru.init 1000 336) [1] [2] 5000000000 1000000).2 = .send := by decide
example : pack 1700000000000 = 1700000000000 := by decide
example : expiry 100 (serverExpire 5000000 20) = 25 := by decide
example : expiry 100 (serverExpire 5000000 (-1)) = 100 := by decide
example : expiryOf 1000000000 2000000000 1003000000 0 = 1003 := by decide
example : expiryOf 1000000000 2000000000 1003000000 (-1) = 3000 := by decide

end Rv.C07
