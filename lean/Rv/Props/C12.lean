/-
C12 — RESP decoding reproduces every well-formed reply.
-/
import Rv.Lemmas.RespRound2
namespace Rv.C12
open Rv Rv.Resp Rv.Spec Rv.RespL

/-! fuel: the generous fuel `decode` uses always suffices for a well-formed frame -/

private theorem need_lt_length : ∀ w : Wire, need w + 1 ≤ (bytes w).length := by
  intro w
  refine Wire.rec (motive_1 := fun w => need w + 1 ≤ (bytes w).length)
    (motive_2 := fun xs => needL xs ≤ (bytesL xs).length ∧ needE xs ≤ (bytesL xs).length + 2)
    ?_ ?_ ?_ ?_ ?_ ?_ ?_ ?_ ?_ ?_ ?_ ?_ ?_ ?_ w
  · intro t s; simp [need, bytes, crlf]; omega
  · intro t cs; simp [need, bytes, crlf]
  · intro t; simp [need, bytes]
  · intro t s; simp [need, bytes, crlf]
  · intro v; simp [need, bytes, crlf]
  · simp [need, bytes]
  · intro b; simp [need, bytes]
  · intro t xs ih; simp [need, bytes, crlf]; have := List.length_pos_iff.mpr (digits_ne_nil xs.length); omega
  · intro t xs ih; simp [need, bytes, crlf]; have := List.length_pos_iff.mpr (digits_ne_nil (xs.length / 2)); omega
  · intro t xs ih; simp [need, bytes, crlf]; omega
  · intro t; simp [need, bytes]
  · intro a w iha ihw; simp [need, bytes]; omega
  · simp [needL, needE, bytesL]
  · intro x xs ihx ihxs; simp [needL, needE, bytesL]; omega

/-- **C12 main theorem.** For every well-formed wire form `w` (any depth and width, all
    RESP2/RESP3 types, attributes, streamed strings and aggregates, RESP2 nulls, arbitrary
    binary payloads) followed by any further bytes `rest`, the reader returns exactly the
    value `w` denotes and leaves `rest` unread. (`B` is the bufio size; ≥ 32 so that a
    64-bit number line fits — rueidis uses ≥ 4096.) -/
theorem decode_encode (B : Nat) (hb : 32 ≤ B) (w : Wire) (hwf : WF w = true) (rest : List UInt8) :
    decode B (bytes w ++ rest) = .ok (value w [], rest) := by
  unfold decode
  apply (wire_ok B hb w).1 hwf
  have := need_lt_length w
  simp only [List.length_append]; omega

/-- consecutive replies are framed independently: decoding the concatenation of two
    well-formed frames yields the first value and then the second -/
theorem frames_independent (B : Nat) (hb : 32 ≤ B) (w1 w2 : Wire) (h1 : WF w1 = true) (h2 : WF w2 = true)
    (rest : List UInt8) :
    decode B (bytes w1 ++ (bytes w2 ++ rest)) = .ok (value w1 [], bytes w2 ++ rest) ∧
    decode B (bytes w2 ++ rest) = .ok (value w2 [], rest) :=
  ⟨decode_encode B hb w1 h1 _, decode_encode B hb w2 h2 _⟩

/-- the encoding is prefix-free on well-formed frames: the decoder stops exactly at the
    frame's end, so no well-formed frame is a proper prefix of a differently valued one -/
theorem decode_stops_at_frame_end (B : Nat) (hb : 32 ≤ B) (w : Wire) (hwf : WF w = true) (rest : List UInt8) :
    ∃ m r, decode B (bytes w ++ rest) = .ok (m, r) ∧ r = rest ∧ m = value w [] :=
  ⟨_, _, decode_encode B hb w hwf rest, rfl, rfl⟩

/-- RESP2 nulls decode to the RESP3 null and attributes attach to the next reply -/
theorem old_null_is_null (B : Nat) (hb : 32 ≤ B) (rest : List UInt8) :
    decode B ([36, 45, 49, 13, 10] ++ rest) = .ok (Msg.null, rest) ∧
    decode B ([42, 45, 49, 13, 10] ++ rest) = .ok (Msg.null, rest) :=
  ⟨decode_encode B hb (.nullBlob 36) (by decide) rest, decode_encode B hb (.nullArr 42) (by decide) rest⟩

/-! non-vacuity: concrete well-formed frames -/
example : WF (.attr (.map 124 [.line 43 [107], .int 1])
    (.arr 42 [.blob 36 [13, 10, 0, 255], .chunked 36 [[97], [98, 99]], .stream 37 [.line 43 [97], .bool true], .nullBlob 36])) = true := by
  decide
example : (decode 4096 (bytes (.arr 42 [.int (-5), .blob 36 [97, 13, 10]]) ++ [43])) =
    .ok (value (.arr 42 [.int (-5), .blob 36 [97, 13, 10]]) [], [43]) :=
  decode_encode 4096 (by decide) _ (by decide) _

end Rv.C12
