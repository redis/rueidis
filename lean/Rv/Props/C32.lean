/-
C32 — builder tags match command semantics.

Tables: Rv.Gen.Builders.allCmds (every root constructor and method of
/repo/internal/cmds/gen_*.go, regenerated on every run), Rv.Gen.Flags (flag constants and
predicate masks of cmds.go), Rv.Gen.Classify (lists of hack/cmds/gen.go, JSON flags).
Oracle: Rv.Spec.RedisCommands (hand-written, trusted).
Model: Rv.Model.Builder (`run`/`build`: flags only ever gain bits along a path).
-/
import Rv.Model.BuilderCheck
import Rv.Lemmas.Builder
namespace Rv.C32
open Rv.Bld Rv.Gen Rv.Gen.Builders Rv.Spec.RedisCommands

private theorem or_and_self (a t : Nat) : (a ||| t) &&& t = t := by
  apply Nat.eq_of_testBit_eq
  intro i
  simp only [Nat.testBit_and, Nat.testBit_or]
  cases a.testBit i <;> cases t.testBit i <;> rfl

/-- a flag that is set stays set when more bits are OR-ed in -/
theorem hasFlag_or (cf x mask : Nat) (h : hasFlag cf mask = true) : hasFlag (cf ||| x) mask = true := by
  simp only [hasFlag, beq_iff_eq] at h ⊢
  rw [← h, ← Nat.and_assoc, Nat.or_comm, or_and_self]

theorem hasFlag_or_self (cf mask : Nat) : hasFlag (cf ||| mask) mask = true := by
  simp only [hasFlag, beq_iff_eq]
  exact or_and_self _ _

/-- the ten single bits used by cmds.go are pairwise distinct powers of two, and each
    composite constant is exactly the union its definition names -/
theorem flag_constants :
    Flags.optInTag = 2^15 ∧ Flags.blockTag = 2^14 ∧ Flags.pipeTag = 2^8 ∧ Flags.retryableTag = 2^7 ∧
    Flags.staticTTLTag = 2^6 ∧
    Flags.readonly = 2^13 ||| Flags.retryableTag ∧
    Flags.noRetTag = 2^12 ||| Flags.readonly ||| Flags.pipeTag ∧
    Flags.mtGetTag = 2^11 ||| Flags.readonly ∧
    Flags.scrRoTag = 2^10 ||| Flags.readonly ∧
    Flags.unsubTag = 2^9 ||| Flags.noRetTag := by decide

private theorem hasFlag_mono (cf : Nat) {a b : Nat} (hab : b &&& a = a) (h : hasFlag cf b = true) :
    hasFlag cf a = true := by
  simp only [hasFlag, beq_iff_eq] at h ⊢
  rw [← hab, ← Nat.and_assoc, h]

private theorem hasFlag_indep (cf t m : Nat) (h : t &&& m = 0) : hasFlag (cf ||| t) m = hasFlag cf m := by
  simp only [hasFlag, Nat.and_or_distrib_right, h, Nat.or_zero]

/-- **flag lattice**, for every flag word: what the predicates of cmds.go imply.
    `IsUnsub → NoReply → IsReadOnly → IsRetryable`, `NoReply → IsPipe`, `IsMGet → IsReadOnly`
    (each predicate is `cf&X == X` with the regenerated X). -/
theorem flag_lattice (cf : Nat) :
    (isUnsub cf = true → noReply cf = true) ∧ (noReply cf = true → isReadOnly cf = true) ∧
    (isReadOnly cf = true → isRetryable cf = true) ∧
    (noReply cf = true → isPipe cf = true) ∧ (isMGet cf = true → isReadOnly cf = true) :=
  ⟨hasFlag_mono cf (by decide), hasFlag_mono cf (by decide), hasFlag_mono cf (by decide),
   hasFlag_mono cf (by decide), hasFlag_mono cf (by decide)⟩

/-- the strict direction fails, i.e. the lattice does not collapse: there are flag words
    that are retryable but not read-only, read-only but not no-reply, no-reply but not unsub -/
theorem flag_lattice_strict :
    (isRetryable Flags.retryableTag ∧ ¬ isReadOnly Flags.retryableTag) ∧
    (isReadOnly Flags.readonly ∧ ¬ noReply Flags.readonly) ∧
    (noReply Flags.noRetTag ∧ ¬ isUnsub Flags.noRetTag) := by decide

/-- the static-TTL, block and opt-in bits are independent of every other predicate: OR-ing
    one of them into any flag word changes no other predicate's answer -/
theorem independent_bits (cf : Nat) :
    ∀ t ∈ [Flags.staticTTLTag, Flags.blockTag, Flags.optInTag],
    ∀ m ∈ [Flags.maskIsReadOnly, Flags.maskNoReply, Flags.maskIsUnsub, Flags.maskIsRetryable,
           Flags.maskIsPipe, Flags.maskIsMGet, Flags.scrRoTag,
           Flags.maskIsStaticTTL, Flags.maskIsBlock, Flags.maskIsOptIn],
      m ≠ t → hasFlag (cf ||| t) m = hasFlag cf m := by
  intro t ht m hm hne
  apply hasFlag_indep
  revert t m
  decide

/-! ### tables: size sanity (a translator that silently drops records is caught here and by
    the thorough correspondence tier, which reaches every method of the real package) -/

theorem table_counts :
    allCmds.length = nRoots ∧ (allCmds.map (·.methods.length)).sum = nMethods ∧
    (allCmds.map (·.builds.length)).sum = nBuilds ∧ (allCmds.map (·.caches.length)).sum = nCaches := by
  decide +kernel

def ReadonlySubsetReads : Prop := ∀ c ∈ allCmds, readonlyOk c.nm c.cf = true

/-- agreement of one root with Redis' own flags where the repository's JSON carries them -/
def jsonAgree (c : Cmd) : Bool :=
  match jsonFlagsOf c.nm with
  | some (ro, wr) => isReadOnly c.cf == (ro && !wr)
  | none => true

private theorem roots_ok : ∀ c ∈ allCmds,
    (readonlyOk c.nm c.cf = true ∨ knownWriters.contains c.nm = true) ∧ jsonAgree c = true ∧
    (c.caches ≠ [] → isReadOnly c.cf = true) ∧ blockingOk c.nm c.cf = true ∧
    blockOptionsOk c = true ∧ pubsubOk c.nm c.cf = true := by
  decide +kernel

/-! ### clause 1: read-only ⊆ reads -/

/-- what holds on the current tree: every root constructor whose flag word passes
    `IsReadOnly` is a side-effect-free read of the oracle (or a Pub/Sub command, clause 4),
    **except** the commands of `knownWriters`.
    MISSING: AI.MODELEXECUTE is marked read-only (and cacheable) but stores its OUTPUTS
    tensors — see `readonly_subset_reads_fails`. -/
theorem readonly_subset_reads_partial :
    ∀ c ∈ allCmds, readonlyOk c.nm c.cf = true ∨ knownWriters.contains c.nm = true :=
  fun c hc => (roots_ok c hc).1

/-- the negation with its witness: AI.MODELEXECUTE is flagged read-only, the oracle says it writes -/
theorem readonly_subset_reads_fails : ¬ ReadonlySubsetReads := by
  intro h
  obtain ⟨c, hc, _, _, hbad⟩ : ∃ c ∈ allCmds, c.nm = nm! "AI.MODELEXECUTE" ∧ isReadOnly c.cf = true ∧
      readonlyOk c.nm c.cf = false := exists_named (by decide +kernel)
  simp [h c hc] at hbad

/-- exactly the listed writers are the exceptions (nothing else hides behind the list) -/
theorem known_writers_exact :
    ∀ w ∈ knownWriters, ∃ c ∈ allCmds, c.nm = w ∧ isReadOnly c.cf = true ∧ isRead w = false := by
  decide +kernel

/-- JSON-flagged commands (array family): READONLY/WRITE of the repository's own command
    description agree with the builder's read-only flag in both directions -/
theorem json_flags_agree : ∀ c ∈ allCmds, jsonAgree c = true := fun c hc => (roots_ok c hc).2.1

/-- … and the JSON does flag commands of both kinds that the builders know (non-vacuity) -/
theorem json_flags_present :
    (∃ c ∈ allCmds, jsonFlagsOf c.nm = some (true, false) ∧ isReadOnly c.cf = true) ∧
    (∃ c ∈ allCmds, jsonFlagsOf c.nm = some (false, true) ∧ isReadOnly c.cf = false) := by
  decide +kernel

/-! ### the flag word along a path only gains bits -/

theorem run_keeps_flag (bt : Nat) (ms : List Method) (path : List Call) (s s' : St) (mask : Nat)
    (h : run bt ms s path = .ok s') (hf : hasFlag s.cf mask = true) : hasFlag s'.cf mask = true := by
  induction path generalizing s with
  | nil => cases h; exact hf
  | cons call rest ih =>
    obtain ⟨m, _, _, _, _, h2⟩ := run_cons_ok h
    refine ih _ h2 ?_
    show hasFlag (if m.block then _ else _) mask = true
    split
    · exact hasFlag_or _ _ _ hf
    · exact hf

/-- every flag of the root constructor survives to the built command -/
theorem build_keeps_root_flag (c : Cmd) (ks0 : Nat) (path : List Call) (cache : Bool) (s : St) (mask : Nat)
    (h : build Flags.blockTag c ks0 path cache = .ok s) (hf : hasFlag c.cf mask = true) :
    hasFlag s.cf mask = true :=
  run_keeps_flag _ _ _ _ _ _ (build_ok h).1 hf

/-! ### clause 2: Cache() ⊆ read-only -/

/-- every command with a type offering `Cache()` has a read-only root flag -/
theorem cacheable_subset_readonly :
    ∀ c ∈ allCmds, c.caches ≠ [] → isReadOnly c.cf = true := fun c hc => (roots_ok c hc).2.2.1

/-- **clause 2 for every path**: whatever path of whatever table command ends in `Cache()`,
    the resulting `Cacheable` passes `IsReadOnly` (hence `IsRetryable`) -/
theorem cache_result_readonly (c : Cmd) (hc : c ∈ allCmds) (ks0 : Nat) (path : List Call) (s : St)
    (h : build Flags.blockTag c ks0 path true = .ok s) : isReadOnly s.cf = true := by
  have hne : c.caches ≠ [] := fun he => by simpa [he] using (build_ok h).2
  exact build_keeps_root_flag c ks0 path true s _ h (cacheable_subset_readonly c hc hne)

/-! ### clause 3: blocking commands -/

/-- every always-blocking command of the oracle has a root constructor carrying blockTag … -/
theorem blocking_roots_tagged : ∀ c ∈ allCmds, blockingOk c.nm c.cf = true :=
  fun c hc => (roots_ok c hc).2.2.2.1

/-- … and none of them is missing from the builders (the clause is not vacuous) -/
theorem blocking_roots_present : ∀ n ∈ alwaysBlocking, ∃ c ∈ allCmds, c.nm = n ∧ isBlock c.cf = true :=
  fun n hn => exists_named (by revert n hn; decide +kernel)

/-- every completion path of an always-blocking command yields a command passing `IsBlock` -/
theorem blocking_path_blocking (c : Cmd) (hc : c ∈ allCmds) (hn : alwaysBlocking.contains c.nm = true)
    (ks0 : Nat) (path : List Call) (cache : Bool) (s : St)
    (h : build Flags.blockTag c ks0 path cache = .ok s) : isBlock s.cf = true := by
  have := blocking_roots_tagged c hc
  simp only [blockingOk, hn, Bool.not_true, Bool.false_or] at this
  exact build_keeps_root_flag c ks0 path cache s _ h this

/-- in XREAD / XREADGROUP every method that appends the literal token BLOCK also executes
    `c.cf |= int16(blockTag)` -/
theorem block_option_methods_tagged :
    ∀ c ∈ allCmds, ∀ m ∈ c.methods, blockOptionOk c.nm m = true := by
  intro c hc m hm
  have hc' := (roots_ok c hc).2.2.2.2.1
  unfold blockOptionsOk at hc'
  by_cases hany : blockingWithOption.any (·.1 == c.nm) = true
  · simp only [hany, Bool.not_true, Bool.false_or] at hc'
    exact List.all_eq_true.mp hc' m hm
  · simp only [List.any_eq_true, not_exists, not_and, Bool.not_eq_true] at hany
    simp only [blockOptionOk, List.all_eq_true]
    exact fun p hp => by simp [hany p hp]

/-- both commands do have such a method, named `Block` (non-vacuity) -/
theorem block_option_methods_present :
    ∀ p ∈ blockingWithOption, ∃ c ∈ allCmds, c.nm = p.1 ∧
      ∃ m ∈ c.methods, m.name = "Block" ∧ m.items.contains (.lit p.2) = true ∧ m.block = true :=
  fun p hp => exists_named (by revert p hp; decide +kernel)

/-- **every path through a Block method ends blocking**: if a path of XREAD / XREADGROUP
    (any table command whose name is in `blockingWithOption`) calls, at any position, a
    method that appends the BLOCK option token, the built command passes `IsBlock`,
    whatever is called before and after -/
theorem block_option_path_blocking (c : Cmd) (hc : c ∈ allCmds) (tok : String)
    (hn : (c.nm, tok) ∈ blockingWithOption)
    (ks0 : Nat) (before after : List Call) (call : Call) (cache : Bool) (s1 s : St) (m : Method)
    (h1 : run Flags.blockTag c.methods (start c ks0) before = .ok s1)
    (hm : findMethod c.methods s1.ty call.name = some m)
    (htok : Item.lit tok ∈ m.items)
    (h : build Flags.blockTag c ks0 (before ++ call :: after) cache = .ok s) : isBlock s.cf = true := by
  have hblock : m.block = true := by
    have hb := block_option_methods_tagged c hc m (List.mem_of_find?_eq_some hm)
    simp only [blockOptionOk, List.all_eq_true] at hb
    simpa [htok] using hb (c.nm, tok) hn
  obtain ⟨s1', h1', h3⟩ := run_append (build_ok h).1
  obtain rfl : s1 = s1' := Except.ok.inj (h1.symm.trans h1')
  obtain ⟨m', _, _, hm', _, h4⟩ := run_cons_ok h3
  obtain rfl : m = m' := Option.some.inj (hm.symm.trans hm')
  refine run_keeps_flag _ _ _ _ _ _ h4 ?_
  show hasFlag (if m.block then _ else _) _ = true
  rw [hblock]
  exact hasFlag_or_self _ _

/-! ### clause 4: Pub/Sub families -/

theorem pubsub_tagged : ∀ c ∈ allCmds, pubsubOk c.nm c.cf = true := fun c hc => (roots_ok c hc).2.2.2.2.2

theorem pubsub_present :
    (∀ n ∈ subscribeFamily, ∃ c ∈ allCmds, c.nm = n ∧ noReply c.cf = true ∧ isUnsub c.cf = false) ∧
    (∀ n ∈ unsubscribeFamily, ∃ c ∈ allCmds, c.nm = n ∧ isUnsub c.cf = true ∧ noReply c.cf = true) :=
  ⟨fun n hn => exists_named (by revert n hn; decide +kernel),
   fun n hn => exists_named (by revert n hn; decide +kernel)⟩

/-- every completion path of a (un)subscribe command keeps its Pub/Sub marking -/
theorem pubsub_path_tagged (c : Cmd) (hc : c ∈ allCmds) (ks0 : Nat) (path : List Call) (cache : Bool) (s : St)
    (h : build Flags.blockTag c ks0 path cache = .ok s) :
    (subscribeFamily.contains c.nm = true → noReply s.cf = true) ∧
    (unsubscribeFamily.contains c.nm = true → isUnsub s.cf = true) := by
  have := pubsub_tagged c hc
  simp only [pubsubOk, Bool.and_eq_true, Bool.or_eq_true, Bool.not_eq_true'] at this
  exact ⟨fun hn => build_keeps_root_flag c ks0 path cache s _ h (this.1.resolve_left (by rw [hn]; exact Bool.noConfusion)),
    fun hn => build_keeps_root_flag c ks0 path cache s _ h (this.2.resolve_left (by rw [hn]; exact Bool.noConfusion))⟩

/-! ### non-vacuity -/
example : ∃ c ∈ allCmds, c.nm = nm! "GET" ∧ isReadOnly c.cf = true ∧ c.caches ≠ [] := exists_named (by decide +kernel)
example : ∃ c ∈ allCmds, c.nm = nm! "SET" ∧ isReadOnly c.cf = false ∧ c.caches = [] := exists_named (by decide +kernel)
example : isRead (nm! "AI.MODELEXECUTE") = false ∧ isRead (nm! "ARGET") = true ∧ isRead (nm! "ARSET") = false := by decide +kernel
example : code "GET" = nm! "GET" ∧ code "OBJECT ENCODING" = nm! "OBJECT ENCODING" := by decide +kernel

end Rv.C32
