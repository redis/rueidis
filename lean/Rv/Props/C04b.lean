/-
C04/C05 over the interleaving model of one pipe's life (Rv/Model/PipeLife.lean):
callers of Do/DoMulti, the writer, the reader, the exit path of `_background`, Close, the
keep-alive watchdog and context-done events, every interleaving of their atomic steps.
`fix = true` is the code as it is since fix eac8ecc (tail of Do/DoMulti `waits == 1 && left != 0`, pinned by
`pipelife_shape_pinned` in Rv/Props/C04bShape.lean); `fix = false` is the tail before that fix and occurs only
in the witness `close_race_strands_call`. Theorems stated for an arbitrary `fix` hold for both.
`p.state` ends at 4 (pipe.go: `atomic.StoreInt32(&p.state, 4)`), 3 is only the static dead pipe.
-/
import Rv.Lemmas.PipeLifeStarter
import Rv.Lemmas.PipeLifeFrame
namespace Rv.C04.Life
open Rv.PipeLife

private theorem list_eq_nil_of_count {l : List Owner} (h : ∀ o, l.count o = 0) : l = [] := by
  cases l with
  | nil => rfl
  | cons a as => have := h a; simp at this

/-- In every reachable state in which `_background` has stored the final
    state (4), for every interleaving that led there: no call is still owed a result by the pipe
    (none is queued, in the sync path, waiting on its channel, or has an abort goroutine parked on it),
    the queue is empty and the reader holds no batch. A call that is not `done` then is a late arrival
    that has not been told yet (`counted`, or `got` with the latched error in hand). -/
theorem no_call_left_behind {fix : Bool} {s : St} (hr : Reachable fix s) (h4 : s.state = 4) :
    (∀ i cs, stOf s i = some cs → cs.owed = false) ∧ s.queue = [] ∧ s.inflight = none := by
  have ha := hr.invA
  have hc := hr.invC
  have htd : s.td = .finished := (ha.a6).mp h4
  have hS := hr.invP (by rw [htd]; rfl)
  have hsl : slots s = [] := by
    apply list_eq_nil_of_count
    intro o
    cases o with
    | call i =>
      rw [hc.sl, own]
      cases hst : stOf s i with
      | none => rfl
      | some cs =>
        have := hS.p1 i cs hst
        cases cs <;> simp_all [slotW, CS.owed]
    | bgPing =>
      rw [hc.sl, own]
      have := hS.p2
      cases hb : s.bgPing <;> simp_all [HS.slot, HS.weight]
    | closePing => rw [hc.sl, own, hS.p3]; rfl
  simp only [slots, List.append_eq_nil_iff, List.map_eq_nil_iff, Option.toList_eq_nil_iff] at hsl
  exact ⟨hS.p1, hsl.2, hsl.1⟩

/-- no call is owed a result already when the drain loop has seen `waits == 0` (before the final store) -/
theorem loop_exit_leaves_nothing {fix : Bool} {s : St} (hr : Reachable fix s) (h : tdSettled s.td = true) :
    ∀ i cs, stOf s i = some cs → cs.owed = false := (hr.invP h).p1

/-- `waits` counts exactly the goroutines that incremented it and have not decremented it yet -/
theorem waits_counts {fix : Bool} {s : St} (hr : Reachable fix s) :
    s.waits = wsum s.calls + s.bgPing.weight + s.close.weight + b2n s.cpOwed := hr.invC.w

/-- `state >= 2` is never left: no step of any goroutine reopens a closing pipe -/
theorem closing_is_stable {fix : Bool} {s s' : St} {l : Label} (hs : step fix s l = some s')
    (h2 : 2 ≤ s.state) : 2 ≤ s'.state := state_ge2_stable hs h2

/-- Once `state >= 2` (after `_exit` or Close), a call that passes its state
    load gets `NewErrorResult(p.Error())` with the latched, non-nil error, and neither the queue nor the
    wire is touched; its next statement returns that error. -/
theorem closed_pipe_rejects {fix : Bool} {s : St} (hr : Reachable fix s) (h2 : 2 ≤ s.state) {i w : Nat}
    (hst : stOf s i = some (.counted w)) :
    ∃ s', step fix s (.decide i) = some s' ∧ stOf s' i = some (.got (latched s.err) (fix && w == 1)) ∧
      latched s.err ≠ .nilerr ∧ latched s.err ≠ .reply ∧
      s'.queue = s.queue ∧ s'.wire = s.wire ∧ s'.state = s.state ∧ s'.waits = s.waits := by
  have herr : s.err ≠ none := hr.invA.a1 h2
  have hl : latched s.err ≠ .nilerr ∧ latched s.err ≠ .reply := by
    cases he : s.err with
    | none => exact absurd he herr
    | some x => cases x <;> simp [latched]
  exact ⟨_, decide_of_closing hst h2, stOf_modify_self hst rfl, hl.1, hl.2, rfl, rfl, rfl, rfl⟩

/-- the error handed out by a rejecting pipe is never nil: the latch is set before `state` reaches 2 -/
theorem reject_has_error {fix : Bool} {s : St} (hr : Reachable fix s) (h2 : 2 ≤ s.state) : s.err ≠ none :=
  hr.invA.a1 h2

/-- In every reachable state the log of returns holds at most one entry per
    call, and exactly one for a call whose status is `aborted`/`done`. -/
theorem reply_exactly_once {fix : Bool} {s : St} (hr : Reachable fix s) (j : Nat) :
    cnt j s.log ≤ 1 ∧ (cnt j s.log = 1 ↔ (stOf s j = some .aborted ∨ stOf s j = some .done)) := by
  have h := hr.invL j
  rw [h]
  cases hst : stOf s j with
  | none => simp [retOf]
  | some cs => cases cs <;> simp [retOf, CS.ret]

/-! ### C05: context done -/

/-- A call whose context is already done returns the context error at its
    first statement; `waits`, `state`, the queue and the wire are untouched. -/
theorem done_ctx_sends_nothing {fix : Bool} {s : St} {i : Nat} (hst : stOf s i = some .idle)
    (hd : ctxDoneOf s i = true) :
    ∃ s', step fix s (.enter i) = some s' ∧ s'.log = s.log ++ [(i, .ctx)] ∧ stOf s' i = some .done ∧
      s'.queue = s.queue ∧ s'.wire = s.wire ∧ s'.waits = s.waits ∧ s'.state = s.state ∧ s'.td = s.td := by
  refine ⟨{ (setSt i .done s) with log := s.log ++ [(i, .ctx)] }, ?_, rfl, ?_, rfl, rfl, rfl, rfl, rfl⟩
  · simp only [step, PipeLife.enter, hst, hd, if_true]
  · exact stOf_modify_self hst rfl

/-- `hstep` may use that its label occurs in the run -/
theorem run_invariant {fix : Bool} {P : St → Prop} {ls : List Label}
    (hstep : ∀ l ∈ ls, ∀ s s', P s → step fix s l = some s' → P s') {s s2 : St} (h0 : P s)
    (h : run fix s ls = some s2) : P s2 := by
  induction ls generalizing s with
  | nil => simp only [run] at h; injection h with h; subst h; exact h0
  | cons l ls ih =>
    simp only [run] at h
    cases hs : step fix s l with
    | none => rw [hs] at h; cases h
    | some s1 =>
      rw [hs] at h
      exact ih (fun l hl => hstep l (by simp [hl])) (hstep l (by simp) s s1 h0 hs) h

private theorem idle_not_on_wire_step {fix : Bool} {s s' : St} {l : Label} (hs : step fix s l = some s')
    (hc : InvC s) (h : ∀ i, stOf s i = some .idle → i ∉ s.wire) : ∀ i, stOf s' i = some .idle → i ∉ s'.wire := by
  intro i hi hw
  -- idle after the step means idle before it (nothing moves a call back to idle)
  have hbefore : stOf s i = some .idle := by
    rcases step_change hs i with ⟨h1, _⟩ | ⟨a, b, _, hb, ht, _⟩ | ⟨a, b, _, hb, hd, _⟩
    · rw [← h1]; exact hi
    · rw [hi] at hb; injection hb with hb; subst hb; cases ht
    · rw [hi] at hb; injection hb with hb; subst hb; cases hd
  by_cases hn : i ∈ s.wire
  · exact h i hbefore hn
  · rcases wire_only_live hs hc hw hn with ⟨w, h1⟩ | h1 | h1 <;> rw [hbefore] at h1 <;> cases h1

theorem idle_not_on_wire {fix : Bool} {s : St} (hr : Reachable fix s) : ∀ i, stOf s i = some .idle → i ∉ s.wire := by
  induction hr with
  | init calls p b _ =>
    intro i _
    have : (init calls p b).wire = [] := by unfold init; split <;> simp
    rw [this]; simp
  | step l hr hs ih => exact idle_not_on_wire_step hs hr.invC ih

/-- After a call returned at its first statement because its context was
    already done, no continuation of the run (any steps of any goroutine) ever hands it to a writer. -/
theorem done_ctx_never_sent {fix : Bool} {s s1 : St} (hr : Reachable fix s) {i : Nat}
    (hst : stOf s i = some .idle) (hd : ctxDoneOf s i = true) (h1 : step fix s (.enter i) = some s1)
    (ls : List Label) (s2 : St) (h2 : run fix s1 ls = some s2) : i ∉ s2.wire ∧ stOf s2 i = some .done := by
  obtain ⟨s1', hs1, _, hdone, _, hwire, _⟩ := done_ctx_sends_nothing (fix := fix) hst hd
  rw [h1] at hs1; injection hs1 with hs1; subst hs1
  have hr1 : Reachable fix s1 := .step _ hr h1
  have hnw : i ∉ s1.wire := by rw [hwire]; exact idle_not_on_wire hr i hst
  have := run_invariant (P := fun s => Reachable fix s ∧ stOf s i = some .done ∧ i ∉ s.wire)
    (fun l _ s s' ⟨hr, hdone, hnw⟩ hs => ⟨.step _ hr hs, done_absorbing hs hdone, fun hw => by
      rcases wire_only_live hs hr.invC hw hnw with ⟨w, hx⟩ | hx | hx <;> rw [hdone] at hx <;> cases hx⟩)
    ⟨hr1, hdone, hnw⟩ h2
  exact ⟨this.2.2, this.2.1⟩

/-- a label of another goroutine or caller -/
def foreign (i : Nat) (l : Label) : Prop := l.caller ≠ some i

/-- A call that waits on its result channel with a done context has its abort
    statement enabled, and that statement returns the context error. Whatever the other goroutines do
    meanwhile (any sequence of foreign steps), the call is still in that position or has been handed a
    result; either way its own next statement is enabled and returns. -/
theorem done_ctx_returns {fix : Bool} {s : St} {i : Nat} (hst : stOf s i = some .waiting) (hd : ctxDoneOf s i = true)
    (ls : List Label) (hf : ∀ l ∈ ls, foreign i l) (s2 : St) (h2 : run fix s ls = some s2) :
    (∃ s3, step fix s2 (.abort i) = some s3 ∧ s3.log = s2.log ++ [(i, .ctx)]) ∨
    (∃ r s3, stOf s2 i = some (.got r false) ∧ step fix s2 (.leave i) = some s3 ∧ s3.log = s2.log ++ [(i, r)]) := by
  -- invariant along the foreign run: waiting with a done context, or holding a result
  have key := run_invariant
    (P := fun s => (stOf s i = some .waiting ∧ ctxDoneOf s i = true) ∨ ∃ r, stOf s i = some (.got r false))
    (fun l hl s s' h hs => by
      have hcaller : ∀ a b, Trans l i a b → False := by
        intro a b ht; apply hf l hl; cases ht <;> rfl
      rcases h with ⟨hw, hdn⟩ | ⟨r, hg⟩
      · rcases step_change hs i with ⟨h1, _⟩ | ⟨a, b, _, _, ht, _⟩ | ⟨a, b, ha, hb, hdl, _⟩
        · exact Or.inl ⟨by rw [h1]; exact hw, ctxDone_mono hs hdn⟩
        · exact (hcaller a b ht).elim
        · rw [hw] at ha; injection ha with ha; subst ha
          cases hdl with
          | got r => exact Or.inr ⟨r, hb⟩
      · rcases step_change hs i with ⟨h1, _⟩ | ⟨a, b, _, _, ht, _⟩ | ⟨a, b, ha, _, hdl, _⟩
        · exact Or.inr ⟨r, by rw [h1]; exact hg⟩
        · exact (hcaller a b ht).elim
        · rw [hg] at ha; injection ha with ha; subst ha; cases hdl)
    (Or.inl ⟨hst, hd⟩) h2
  rcases key with ⟨hw, hdn⟩ | ⟨r, hg⟩
  · exact Or.inl ⟨{ (setSt i .aborted s2) with log := s2.log ++ [(i, .ctx)] },
      by simp only [step, PipeLife.abort, hw, hdn, if_true], rfl⟩
  · refine Or.inr ⟨r, leaveSt i r s2, hg, ?_, rfl⟩
    simp only [step, PipeLife.leave, hg, Bool.false_and]
    rfl

/-- what the code does NOT promise: a command that is already queued when its context ends is still
    written (the server may execute a cancelled command) — witness run -/
theorem aborted_entry_still_written :
    ∃ s, runNow (init [{ needBg := true, canDone := true }] false)
      [.enter 0, .decide 0, .put 0, .cancel 0, .abort 0, .wTake] = some s ∧
      s.log = [(0, .ctx)] ∧ s.wire = [0] := by
  exact ⟨_, rfl, rfl, rfl⟩

/-- a deadline that fires in the sync path breaks the pipe (the error is latched, the connection closed) -/
theorem sync_deadline_breaks_pipe {fix : Bool} {s s' : St} {i : Nat} (h : step fix s (.syncErr i) = some s') :
    s'.err ≠ none ∧ s'.connUp = false := by
  cases step_sound h with
  | syncErr => exact ⟨fun h => latch_ne _ _ ((startBg_err _).symm.trans h), startBg_connUp _⟩

/-- every label of the list is internal: no new caller, no environment event, no server reply -/
def allInternal (ls : List Label) : Prop := ∀ l ∈ ls, l.internal = true

theorem reachable_run {fix : Bool} {s : St} (hr : Reachable fix s) (ls : List Label) (s2 : St)
    (h : run fix s ls = some s2) : Reachable fix s2 :=
  run_invariant (fun l _ _ _ hr hs => .step l hr hs) hr h

private theorem latched_run {fix : Bool} {s : St} {c k t : Bool} (hl : Latched s c k t) (ls : List Label) (s2 : St)
    (h : run fix s ls = some s2) : Latched s2 c k t :=
  run_invariant (fun _ _ _ _ hl hs => latched_step hs hl) hl h

/-- The code as it is (repaired tail): in every reachable state in which the
    connection is dead or Close has been called, as long as some call has incremented `waits` and not been
    resolved, some internal step is enabled — a statement of a goroutine of the pipe, of a caller past its
    admission, of Close, or Close's 1 s timer; never a server reply, a new caller or an environment event.
    No hypothesis on `_background`: while it does not exist, a starter does (`starter_exists`). -/
theorem no_reachable_deadlock {s : St} (hr : Reachable true s) (ht : triggered s)
    {i : Nat} {cs : CS} (hst : stOf s i = some cs) (hw : cs.weight = 1) : canMove true s :=
  no_deadlock_fixed hr ht hst hw

/-- the same for either tail once `_background` exists -/
theorem no_reachable_deadlock_with_background {fix : Bool} {s : St} (hr : Reachable fix s) (ht : triggered s)
    (hbg : s.td ≠ .off) {i : Nat} {cs : CS} (hst : stOf s i = some cs) (hw : cs.weight = 1) : canMove fix s :=
  no_deadlock hr ht hbg hst hw

/-- The code as it is: while `_background` does not exist and anybody holds `waits`,
    a starter exists — a caller holding wait number 1 that has not passed its tail (`counted 1`, in the
    sync path, or holding its result with `waits == 1 && left != 0 { background() }` still ahead), or Close
    holding wait number 1 before its CAS. -/
theorem starter_exists {s : St} (hr : Reachable true s) (htd : s.td = .off) (hw : 1 ≤ s.waits) : HasStarter s :=
  hr.invJ htd hw

/-- Every step of every goroutine strictly decreases `mu`; a run from `s` has at
    most `mu s` steps. -/
theorem measure_decreases {fix : Bool} {s s' : St} {l : Label} (h : step fix s l = some s') : mu s' < mu s :=
  step_decreases h

theorem runs_are_bounded {fix : Bool} (ls : List Label) (s s' : St) (h : run fix s ls = some s') :
    ls.length ≤ mu s := by
  have := run_bounded ls s s' h; omega

/-- the trigger persists along a run -/
private theorem triggered_run {fix : Bool} {s : St} (ht : triggered s) (ls : List Label) (s2 : St)
    (h : run fix s ls = some s2) : triggered s2 := by
  have hl : Latched s (!s.connUp) (decide (s.close ≠ .idle)) false :=
    ⟨fun h => by simpa using h, fun h => by simpa using h, fun h => by cases h⟩
  have hl2 := latched_run hl ls s2 h
  rcases ht with h1 | h1
  · exact Or.inl (hl2.c (by simp [h1]))
  · exact Or.inr (hl2.k (by simpa using h1))

private theorem resolved_of_stuck {fix : Bool} {s : St}
    (hmove : ∀ {i : Nat} {cs : CS}, stOf s i = some cs → cs.weight = 1 → canMove fix s) (hmax : ¬ canMove fix s)
    (i : Nat) (cs : CS) (hst : stOf s i = some cs) : cs = .idle ∨ cs = .done := by
  by_cases hw : cs.weight = 1
  · exact absurd (hmove hst hw) hmax
  · cases cs <;> simp [CS.weight] at hw ⊢

/-- The code as it is (repaired tail), full strength: from every reachable
    state in which the connection is dead or Close has been called, every run of steps has at most `mu s`
    steps, and whenever nothing internal is enabled at its end (in particular: at the end of every maximal
    run of internal steps) every call that had started is resolved — it is `done` (returned exactly once,
    see `reply_exactly_once`) and holds no unit of `waits`. -/
theorem every_admitted_call_resolves {s : St} (hr : Reachable true s) (ht : triggered s)
    (ls : List Label) (s2 : St) (h : run true s ls = some s2) (hmax : ¬ canMove true s2) :
    ls.length ≤ mu s ∧ ∀ i cs, stOf s2 i = some cs → cs = .idle ∨ cs = .done :=
  ⟨runs_are_bounded ls s s2 h,
    resolved_of_stuck (no_deadlock_fixed (reachable_run hr ls s2 h) (triggered_run ht ls s2 h)) hmax⟩

/-- for either tail, once `_background` exists (this is all that holds for the tail before eac8ecc) -/
theorem resolves_once_background_started {fix : Bool} {s : St} (hr : Reachable fix s) (ht : triggered s)
    (hbg : s.td ≠ .off) (ls : List Label) (s2 : St) (h : run fix s ls = some s2)
    (hmax : ¬ canMove fix s2) :
    ls.length ≤ mu s ∧ ∀ i cs, stOf s2 i = some cs → cs = .idle ∨ cs = .done :=
  have hl : Latched s false false true := ⟨nofun, nofun, fun _ => hbg⟩
  ⟨runs_are_bounded ls s s2 h, resolved_of_stuck
    (no_deadlock (reachable_run hr ls s2 h) (triggered_run ht ls s2 h) ((latched_run hl ls s2 h).t rfl)) hmax⟩

/-- how a stuck state looks (any `fix`): `_background` was never started and Close is not running -/
theorem stuck_only_without_background {fix : Bool} {s : St} (hr : Reachable fix s) (ht : triggered s)
    (hstuck : ¬ canMove fix s) {i : Nat} {cs : CS} (hst : stOf s i = some cs) (hw : cs.weight = 1) :
    s.td = .off ∧ (s.close = .done ∨ s.close = .idle) ∧
      ∀ j cj, stOf s j = some cj → cj.weight = 1 → cj = .waiting ∨ cj = .aborted :=
  stuck_shape hr ht hstuck hst hw

/-! ### the race that stranded a queued call before fix eac8ecc -/

/-- caller 0 has incremented `waits` (it holds number 1) but not loaded `state` yet; caller 1 queues
    behind it; Close stores 2; caller 0 now reads 2 and is rejected. Before eac8ecc its tail
    `state == 0 && left != 0` did not start `_background` (Close's own `waits == 1` test fails as well);
    the repaired tail `waits == 1 && left != 0` does. -/
def raceCalls : List Call := [{}, {}]
def raceRun : List Label :=
  [.enter 0, .enter 1, .decide 1, .closeEnter .closing, .closeCas, .decide 0, .leave 0, .put 1,
   .closePing, .closeGrace, .closeTail]

private theorem race_state :
    runBefore_eac8ecc (init raceCalls false) raceRun = some
      { state := 2, waits := 2, err := some .closing, connUp := false,
        queue := [{ owner := .call 1 }, { owner := .closePing }],
        calls := [{ st := .done }, { st := .waiting }], close := .done, cpOwed := true,
        log := [(0, .closing)] } := by
  rfl

/-- For the tail before eac8ecc (`stepBefore_eac8ecc`) the progress statement
    is false: there is a reachable state after Close returned in which call 1 waits on its result channel,
    `_background` does not exist and no internal step is enabled — the call hangs (with a context that is
    never done) and Close's PING helper goroutine leaks. Reproduced on the real pre-fix pipe with the
    scheduling hook; the `pipelife` suite replays this schedule on the real pipe on every run. -/
theorem close_race_strands_call :
    ∃ s, runBefore_eac8ecc (init raceCalls false) raceRun = some s ∧ triggered s ∧ stOf s 1 = some .waiting ∧
      s.td = .off ∧ s.close = .done ∧ ¬ canMove false s := by
  refine ⟨_, race_state, Or.inl rfl, rfl, rfl, rfl, ?_⟩
  intro ⟨l, s', hi, hs⟩
  cases l <;> simp only [Label.internal] at hi <;> simp only [step] at hs
  -- no caller's statement is enabled: call 0 is done, call 1 waits with a live context, there is no other
  case decide i | put i | syncErr i | leave i | abort i =>
    rcases i with _ | _ | i <;>
      simp [PipeLife.decide, PipeLife.put, PipeLife.syncErr, PipeLife.leave, PipeLife.abort, stOf, ctxDoneOf] at hs
  -- the labels left are not internal (`hi`), or statements of goroutines that do not exist here (writer, reader,
  -- `_background`, its PING helper) or of Close, which is done
  all_goals (first | (exact absurd hi (by decide)) | (simp [wTake, wFlush, rErr, tdSpawn, bgPingPut, tdIter, tdClose, closeCas, closePing, closeGot, closeGrace, closeTail] at hs))

private theorem race_state_now :
    runNow (init raceCalls false) raceRun = some
      { state := 2, waits := 2, err := some .closing, connUp := false,
        queue := [{ owner := .call 1 }, { owner := .closePing }],
        calls := [{ st := .done }, { st := .waiting }], td := .reading, writer := .run false,
        close := .done, cpOwed := true, log := [(0, .closing)] } := by
  rfl

/-- Corollary of `every_admitted_call_resolves` for the code as it is:
    the same schedule ends in a state where caller 0's tail has started `_background`; from there every
    run that ends with nothing internal enabled has resolved call 1, within the measure; and the concrete
    continuation (writer, reader error, drain) reaches state 4 with `waits = 0` and both calls returned. -/
theorem close_race_resolved_when_fixed :
    ∃ s, runNow (init raceCalls false) raceRun = some s ∧ s.td ≠ .off ∧
      (∀ ls s2, run true s ls = some s2 → ¬ canMove true s2 →
        ls.length ≤ mu s ∧ ∀ i cs, stOf s2 i = some cs → cs = .idle ∨ cs = .done) ∧
      (∃ s4, run true s [.wTake, .wTake, .wFlush, .rErr, .tdSpawn, .tdIter, .leave 1, .tdIter, .tdIter, .tdClose] = some s4 ∧
        s4.state = 4 ∧ s4.waits = 0 ∧ s4.log = [(0, .closing), (1, .closing)] ∧ s4.queue = []) := by
  refine ⟨_, race_state_now, by decide, ?_, ⟨_, rfl, rfl, rfl, rfl, rfl⟩⟩
  intro ls s2 h hmax
  have hr : Reachable true _ :=
    reachable_run (.init raceCalls false true (by decide)) raceRun _ race_state_now
  exact every_admitted_call_resolves hr (Or.inl rfl) ls s2 h hmax

/-! ### non-vacuity: a concrete life with three callers that ends in state 4 -/

def exCalls : List Call := [{}, {}, { needBg := true, canDone := true }]

/-- caller 0 takes the sync path, callers 1 and 2 queue behind it; 0 gets its reply and starts
    `_background`; the writer writes 1 and 2; caller 2 is cancelled; the connection dies; the reader's
    error latches, the drain completes 1 (transport error) and the orphaned entry of 2; state 4. -/
def exRun : List Label :=
  [.enter 0, .decide 0, .enter 1, .decide 1, .put 1, .enter 2, .decide 2, .put 2, .syncOk 0, .leave 0,
   .wTake, .wTake, .cancel 2, .abort 2, .connBreak,
   .wFlush, .rErr, .tdSpawn, .tdIter, .leave 1, .tdIter, .tdIter, .tdClose]

example : ∃ s, runNow (init exCalls false) exRun = some s ∧ s.state = 4 ∧ s.waits = 0 ∧ s.queue = [] ∧
    s.log = [(0, .reply), (2, .ctx), (1, .transport)] ∧ s.wire = [0, 1, 2] ∧
    s.calls.map (·.st) = [.done, .done, .done] := ⟨_, rfl, rfl, rfl, rfl, rfl, rfl, rfl⟩

theorem ex_reachable : ∀ s, runNow (init exCalls false) exRun = some s → Reachable true s := fun s h =>
  reachable_run (.init exCalls false true (by decide)) exRun s h

/-- the hypotheses of the progress theorem are satisfiable: the state after `connBreak` in the run above -/
example : ∃ s, runNow (init exCalls false) (exRun.take 15) = some s ∧ triggered s ∧ s.td ≠ .off ∧
    stOf s 1 = some .waiting := ⟨_, rfl, Or.inl rfl, by decide, rfl⟩

/-- Close with a stalled server: the PING waits behind the pending command, the 1 s timer fires,
    Close closes the connection, the drain hands ErrClosing to the pending call -/
example : ∃ s, runNow (init [{ needBg := true }] false)
    [.enter 0, .decide 0, .put 0, .wTake, .wFlush, .closeEnter .closing, .closeCas, .closePing, .wTake, .wFlush,
     .closeGrace, .closeTail, .rErr, .tdSpawn, .bgPingPut, .wTake, .wFlush, .tdIter, .leave 0, .tdIter, .tdIter,
     .tdIter, .tdClose] = some s ∧
    s.state = 4 ∧ s.log = [(0, .closing)] ∧ s.waits = 0 := ⟨_, rfl, rfl, rfl, rfl⟩

end Rv.C04.Life
