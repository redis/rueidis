/-
C16 — typed accessors return exactly what the reply encodes.

`Rv/Spec/Shapes.lean` turns structured data into the reply a server sends for it
(RESP2 and RESP3); the theorems say that the accessor model (Rv/Model/Accessors*.lean,
tied to message.go by the `accessors`/`shapes` suites) gives the data back, for ALL
data. Float fields are compared as the text handed to strconv (`F.str s`), under the
hypothesis that strconv accepts that text (`fp.ok s`); float parsing itself is trusted.
Go maps are modelled by their assignment log; `lookupLast` is the map.
-/
import Rv.Lemmas.AccShape
import Rv.Lemmas.AccConv
namespace Rv.C16
open Rv Rv.Acc Rv.Shapes

/-- ZRANGE … WITHSCORES etc.: flat RESP2 `[member, score, …]` and nested RESP3 `[[member, score], …]`
    give the same list of (member, score) in order. -/
theorem zscores_both (fp : FP) (p : Proto) (d : Scores) (h : ∀ ms ∈ d, fp.ok ms.2 = true) :
    asZScores fp (zscores p d) = .ok (zscoresExpect d) := by
  cases p
  · exact asZScores_r2 fp d h
  · exact asZScores_nested fp .r3 d h

theorem zscore_single (fp : FP) (p : Proto) (ms : Bytes × Bytes) (h : fp.ok ms.2 = true) :
    asZScore fp (zscore p ms) = .ok ⟨ms.1, .str ms.2⟩ := by
  simp [asZScore, zscore, toZScore_pair fp p ms.1 ms.2 h]

theorem zmpop_both (fp : FP) (p : Proto) (key : Bytes) (d : Scores) (h : ∀ ms ∈ d, fp.ok ms.2 = true) :
    asZMPop fp (zmpop p key d) = .ok (key, zscoresExpect d) := by
  simp [asZMPop, popWith, zmpop, idx, asZScores_nested fp p d h]

/-- XRANGE: every entry, in order; the field map's assignment log is the field list in order. -/
theorem xrange_entries (es : List Entry) : asXRange (xrange es) = .ok (xrangeExpect es) := by
  simp only [asXRange, xrange, toArray_arr, xrangeExpect]
  exact mapR_map_ok (fun e _ => asXRangeEntry_entry e)

/-- XRANGE slices: every field/value pair in order, duplicates kept. -/
theorem xrange_slices (es : List Entry) : asXRangeSlices (xrange es) = .ok (xrangeSlicesExpect es) := by
  simp only [asXRangeSlices, xrange, toArray_arr, xrangeSlicesExpect]
  exact mapR_map_ok (fun e _ => asXRangeSlice_entry e)

/-- XREAD: RESP2 array-of-pairs and RESP3 map give the same streams. -/
theorem xread_both (p : Proto) (d : List (Bytes × List Entry)) : asXRead (xread p d) = .ok (xreadExpect d) :=
  xreadWith_both asXRange xrangeExpect xrange_entries p d

theorem xread_slices_both (p : Proto) (d : List (Bytes × List Entry)) :
    asXReadSlices (xread p d) = .ok (xreadSlicesExpect d) :=
  xreadWith_both asXRangeSlices xrangeSlicesExpect xrange_slices p d

/-- slices keep every element in order -/
theorem strslice_order (xs : List Bytes) : asStrSlice (strSlice xs) = .ok xs := by
  simp [asStrSlice, strSlice, List.map_map, Function.comp_def]

/-- SCAN: the decimal cursor text is parsed exactly (any uint64), elements in order. -/
theorem scan_entry (cursor : Nat) (hc : cursor < 18446744073709551616) (elems : List Bytes) :
    asScanEntry (scan cursor elems) = .ok ⟨elems, cursor⟩ := by
  have hu : asUint64 (blob (Spec.digits cursor)) = .ok cursor := by
    rw [asUint64_blob, parseUint_digits cursor hc]; rfl
  have hs : asStrSlice (arr (elems.map blob)) = .ok elems := strslice_order elems
  simp [asScanEntry, scan, idx, hu, hs]

theorem lmpop_values (key : Bytes) (elems : List Bytes) : asLMPop (lmpop key elems) = .ok (key, elems) := by
  have hs : asStrSlice (arr (elems.map blob)) = .ok elems := strslice_order elems
  simp [asLMPop, popWith, lmpop, idx, hs]

/-- RESP3 (map) replies: faithful for every combination of scores / content, no precondition. -/
theorem ftsearch_resp3 (fp : FP) (ws wa : Bool) (total : Int) (ds : List SDoc) :
    asFtSearch fp (ftSearch .r3 ws wa total ds) = .ok (ftSearchExpect ws wa total ds) := by
  simp [asFtSearch, ftSearch, ftTop_resp3 (ftRecords_docs3 fp ws wa ds), ftSearchExpect]

/-- RESP2 (flat) replies: faithful exactly under `ftFaithful2` (see Rv/Spec/Shapes.lean): the
    detection looks at elements 1–3, so the first key must not look like a float when scores
    are present, and keys 2/3 must be non-empty / not float-after-non-float otherwise. -/
theorem ftsearch_resp2 (fp : FP) (ws wa : Bool) (total : Int) (ds : List SDoc) (h : ftFaithful2 fp ws wa ds) :
    asFtSearch fp (ftSearch .r2 ws wa total ds) = .ok (ftSearchExpect ws wa total ds) := by
  by_cases hne : ds = []
  · subst hne
    simp [asFtSearch, ftSearch, idx, ftDetect, ftDocs2, ftDocsK, ftSearchExpect]
  · have hd := ftDetect_faithful fp ws wa total ds h hne
    have hl := ftDocs2_flat ws wa ds
    simp [asFtSearch, ftSearch, idx, hd, hl, ftSearchExpect]

/-- content without scores needs no precondition at all -/
theorem ftsearch_resp2_content (fp : FP) (total : Int) (ds : List SDoc) :
    asFtSearch fp (ftSearch .r2 false true total ds) = .ok (ftSearchExpect false true total ds) :=
  ftsearch_resp2 fp false true total ds (by simp [ftFaithful2])

/-- non-vacuity: an ordinary WITHSCORES reply satisfies the precondition -/
example : ftFaithful2 ⟨fun s => s = [48, 46, 53]⟩ true true [⟨[100, 111, 99], [48, 46, 53], []⟩] := by
  simp [ftFaithful2]

/-- Outside the precondition the accessor is NOT faithful: `FT.SEARCH … WITHSCORES NOCONTENT`
    returning the document key "1" with score "0.5" is read as two documents "1" and "0.5"
    without scores (the key parses as a float, so WITHSCORES is not detected). -/
theorem ftsearch_resp2_outside_precondition :
    let fp : FP := ⟨fun _ => true⟩
    let ds : List SDoc := [⟨[49], [48, 46, 53], []⟩]
    ¬ ftFaithful2 fp true false ds ∧
    asFtSearch fp (ftSearch .r2 true false 1 ds) = .ok (1, [⟨none, [49], .int 0⟩, ⟨none, [48, 46, 53], .int 0⟩]) ∧
    asFtSearch fp (ftSearch .r2 true false 1 ds) ≠ .ok (ftSearchExpect true false 1 ds) := by
  refine ⟨by simp [ftFaithful2], ?_, ?_⟩
  · simp [asFtSearch, ftSearch, ftDoc2, idx, ftDetect, ftDocs2, ftDocsK]
  · simp [asFtSearch, ftSearch, ftDoc2, idx, ftDetect, ftDocs2, ftDocsK, ftSearchExpect]

/-- … and a NOCONTENT reply with keys "a", "2" is read as one document "a" with score 2. -/
theorem ftsearch_resp2_outside_precondition_nocontent :
    let fp : FP := ⟨fun s => s = [50]⟩
    let ds : List SDoc := [⟨[97], [], []⟩, ⟨[50], [], []⟩]
    ¬ ftFaithful2 fp false false ds ∧
    asFtSearch fp (ftSearch .r2 false false 2 ds) = .ok (2, [⟨none, [97], .str [50]⟩]) := by
  refine ⟨by simp [ftFaithful2], ?_⟩
  simp [asFtSearch, ftSearch, ftDoc2, idx, ftDetect, ftDocs2, ftDocsKS]

theorem ftaggregate_both (p : Proto) (total : Int) (rows : List Row) :
    asFtAggregate (ftAgg p total rows) = .ok (ftAggExpect total rows) := by
  cases p
  · have : mapR asStrMapOpt (rows.map fun r => arr (flatKV r)) = .ok (rows.map some) :=
      mapR_map_ok (fun r _ => asStrMapOpt_flat r)
    simp [asFtAggregate, ftAgg, idx, tail1, this, ftAggExpect]
  · simp [asFtAggregate, ftAgg, ftTop_resp3 (aggRecords_rows rows), ftAggExpect]

theorem ftaggregate_cursor_both (p : Proto) (cursor total : Int) (rows : List Row) :
    asFtAggregateCursor (ftAggCursor p cursor total rows) = .ok (cursor, total, rows.map some) := by
  have h := ftaggregate_both p total rows
  have ht : isArray (ftAgg p total rows) ∨ isMap (ftAgg p total rows) := by
    cases p
    · exact Or.inl (isArray_arr _)
    · exact Or.inr (isMap_mp _)
  simp [asFtAggregateCursor, ftAggCursor, idx, ht, h, ftAggExpect]

/-- a reply without cursor goes through AsFtAggregateCursor with cursor 0 -/
theorem ftaggregate_cursor_absent (p : Proto) (total : Int) (rows : List Row) :
    asFtAggregateCursor (ftAgg p total rows) = .ok (0, total, rows.map some) := by
  have h := ftaggregate_both p total rows
  unfold asFtAggregateCursor
  cases p
  · -- whatever the length, element 0 is the total and not an aggregate: both branches read the reply itself
    have h0 : idx (ftAgg .r2 total rows).arr 0 = .ok (Shapes.int total) := rfl
    have hn : ¬ (isArray (Shapes.int total) ∨ isMap (Shapes.int total)) := by simp [isArray, isMap, tInt, tArray, tSet, tMap]
    simp only [h0, hn, h, ftAggExpect, if_false, ite_self]
  · simp only [show ¬ isArray (ftAgg .r3 total rows) from not_isArray_mp _, false_and, if_false, h, ftAggExpect]

/-- every WITHDIST / WITHHASH / WITHCOORD subset, RESP2 (numbers as text) and RESP3 (doubles) -/
theorem geosearch_both (fp : FP) (p : Proto) (wd wh wc : Bool) (ls : List Loc)
    (hd : wd = true → ∀ l ∈ ls, l.dist ≠ [] ∧ fp.ok l.dist = true)
    (hc : wc = true → ∀ l ∈ ls, fp.ok l.lon = true ∧ fp.ok l.lat = true) :
    asGeosearch fp (geosearch p wd wh wc ls) = .ok (ls.map (geoExpect wd wh wc)) := by
  simp only [asGeosearch, geosearch, toArray_arr]
  exact mapR_map_ok (fun l hl => geoElem_loc fp p wd wh wc l (fun h => hd h l hl) (fun h => hc h l hl))

/-- flat RESP2 `[k, v, …]` and RESP3 `%` map: every pair, in order, in the assignment log -/
theorem strmap_both (p : Proto) (kvs : List (Bytes × Bytes)) : asStrMap (kvReply p kvs) = .ok kvs := by
  cases p
  · exact asStrMap_flat kvs
  · exact asStrMap_map kvs

/-- and a key that never occurs is absent -/
theorem lookupLast_absent {α} (k : Bytes) (l : Log α) (h : ∀ kv ∈ l, kv.1 ≠ k) : lookupLast k l = none := by
  induction l with
  | nil => rfl
  | cons x r ih =>
    have := ih (fun kv hkv => h kv (by simp [hkv]))
    have hx := h x (by simp)
    simp [lookupLast, this, hx]

theorem lookupLast_append_cons {α} (k : Bytes) (v : α) (l1 l2 : Log α) (h : ∀ kv ∈ l2, kv.1 ≠ k) :
    lookupLast k (l1 ++ (k, v) :: l2) = some v := by
  have h2 := lookupLast_absent k l2 h
  induction l1 with
  | nil => simp [lookupLast, h2]
  | cons x r ih => simp [lookupLast, ih]

/-- a repeated field keeps the LAST value (what a Go map holds after the assignments) -/
theorem asStrMap_last_wins (p : Proto) (k v : Bytes) (l1 l2 : List (Bytes × Bytes)) (h : ∀ kv ∈ l2, kv.1 ≠ k) :
    ∃ log, asStrMap (kvReply p (l1 ++ (k, v) :: l2)) = .ok log ∧ lookupLast k log = some v :=
  ⟨_, strmap_both p _, lookupLast_append_cons k v l1 l2 h⟩

/-- AsMap / ToMap keep the value messages untouched -/
theorem asMap_pairs (kvs : List (Bytes × Msg)) :
    toMap (mp (kvs.flatMap fun kv => [blob kv.1, kv.2])) = .ok kvs ∧
    asMap (arr (kvs.flatMap fun kv => [blob kv.1, kv.2])) = .ok kvs := by
  have hp : toMapPairs (kvs.flatMap fun kv => [blob kv.1, kv.2]) = .ok kvs := by
    induction kvs with
    | nil => rfl
    | cons kv r ih => simp [toMapPairs, ih]
  have hl := flatMap_pair_even (fun kv : Bytes × _ => blob kv.1) (fun kv => kv.2) kvs
  constructor
  · simp [toMap, toMapV, hl, hp, -List.length_flatMap]
  · simp [asMap, mapLike, toMapV, hl, hp, -List.length_flatMap]

theorem intmap_resp3 (kvs : List (Bytes × Int)) : asIntMap (intMap .r3 kvs) = .ok kvs := by
  have hp : intPairs (kvs.flatMap fun kv => [blob kv.1, Shapes.int kv.2]) = .ok kvs := by
    induction kvs with
    | nil => rfl
    | cons kv r ih => simp [intPairs, ih]
  have hl := flatMap_pair_even (fun kv : Bytes × _ => blob kv.1) (fun kv => Shapes.int kv.2) kvs
  simp [asIntMap, intMap, mapLike, hl, hp, -List.length_flatMap]

/-- AsIntMap on the RESP2 form (values as decimal text): the text goes through
    `strconv.ParseInt(s, 0, 64)` (base 0); a server-rendered decimal never starts with a
    redundant 0, so the value is exact over the whole int64 range. -/
theorem intmap_resp2 (kvs : List (Bytes × Int))
    (h : ∀ kv ∈ kvs, -9223372036854775808 ≤ kv.2 ∧ kv.2 < 9223372036854775808) :
    asIntMap (intMap .r2 kvs) = .ok kvs := by
  have hp : intPairs (kvs.flatMap fun kv => [blob kv.1, blob (Spec.decI kv.2)]) = .ok kvs := by
    induction kvs with
    | nil => rfl
    | cons kv r ih =>
      have hr := ih (fun x hx => h x (by simp [hx]))
      obtain ⟨h1, h2⟩ := h kv (by simp)
      simp [intPairs, decI_ne_nil, liftNum, parseInt_decI_of parseUint0_digits kv.2 h1 h2, hr]
  have hl := flatMap_pair_even (fun kv : Bytes × _ => blob kv.1) (fun kv => blob (Spec.decI kv.2)) kvs
  simp [asIntMap, intMap, mapLike, hl, hp, -List.length_flatMap]

/-- base 0 is observable on other texts: "010" is 8 and "0x1f" is 31 for AsIntMap, while AsInt64
    (base 10) reads 10 and rejects the second -/
example : parseInt [48, 49, 48] 0 = .ok 8 ∧ parseInt [48, 49, 48] 10 = .ok 10 ∧
    parseInt [48, 120, 49, 102] 0 = .ok 31 ∧ parseInt [48, 120, 49, 102] 10 = .error .syntax := by
  refine ⟨?_, ?_, ?_, ?_⟩ <;> rfl

/-- AsInt64: a decimal text reply (RESP2) and a RESP3 number give exactly the integer, over the whole
    int64 range (sign included). -/
theorem int64_exact (p : Proto) (v : Int) (h1 : -9223372036854775808 ≤ v) (h2 : v < 9223372036854775808) :
    asInt64 (intReply p v) = .ok v := by
  cases p
  · exact (asInt64_blob _).trans (by rw [parseInt_decI_of parseUint_digits v h1 h2]; rfl)
  · rfl

/-- one past either end of the range is a range error, not a wrapped value -/
theorem int64_overflow_is_error :
    asInt64 (blob (Spec.decI 9223372036854775808)) = .err (numErrTag "ParseInt" .range) ∧
    asInt64 (blob (Spec.decI (-9223372036854775809))) = .err (numErrTag "ParseInt" .range) ∧
    asUint64 (blob (Spec.digits 18446744073709551616)) = .err (numErrTag "ParseUint" .range) := by
  refine ⟨?_, ?_, ?_⟩
  · rw [asInt64_blob, parseInt_decI_eq parseUint_digits _ (by decide)]; rfl
  · rw [asInt64_blob, parseInt_decI_eq parseUint_digits _ (by decide)]; rfl
  · rw [asUint64_blob, parseUint_digits_overflow _ (by decide) (by decide)]; rfl

/-- a text that is not a number is a syntax error -/
example : asInt64 (blob [49, 120]) = .err (numErrTag "ParseInt" .syntax) := by rfl
example : asInt64 (blob []) = .err (numErrTag "ParseInt" .syntax) := by rfl

theorem uint64_exact (n : Nat) (h : n < 18446744073709551616) : asUint64 (blob (Spec.digits n)) = .ok n := by
  rw [asUint64_blob, parseUint_digits n h]; rfl

/-- booleans: RESP3 `#t/#f`, integer replies (non-zero), and the "OK" status string -/
theorem bool_conversions (i : Int) (s : Bytes) :
    asBool (Msg.leafInt tBool 1) = .ok true ∧ asBool (Msg.leafInt tBool 0) = .ok false ∧
    Acc.toBool (Msg.leafInt tBool 1) = .ok true ∧ Acc.toBool (Msg.leafInt tBool 0) = .ok false ∧
    asBool (Shapes.int i) = .ok (decide (i ≠ 0)) ∧
    asBool (blob s) = .ok (decide (s = okBytes)) := by
  refine ⟨by rfl, by rfl, by rfl, by rfl, ?_, ?_⟩
  · simp [asBool, isString, errOf, tInt, tBlob, tSimple, tNull, tErr, tBlobErr]
    by_cases h : i = 0 <;> simp [h]
  · simp [asBool]; congr

/-- floats: exactly the reply's text is what strconv sees (RESP2 text or RESP3 double) -/
theorem float_text_handed_to_strconv (fp : FP) (p : Proto) (s : Bytes) (h : fp.ok s = true) :
    asFloat64 fp (num p s) = .ok (.str s) ∧ toFloat64 fp (dbl s) = .ok (.str s) := by
  cases p <;> simp [asFloat64, toFloat64, num, utilFloat, h, tBlob, tFloat]

theorem intslice_order (p : Proto) (xs : List Int)
    (h : ∀ v ∈ xs, -9223372036854775808 ≤ v ∧ v < 9223372036854775808) :
    asIntSlice (intSlice p xs) = .ok xs := by
  simp only [asIntSlice, intSlice, toArray_arr]
  have := mapR_map_ok (f := intElem) (g := intReply p) (h := id) (xs := xs) (fun v hv => by
    obtain ⟨h1, h2⟩ := h v hv
    cases p
    · simp [intElem, intReply, decI_ne_nil, liftNum, parseInt_decI_of parseUint_digits v h1 h2]
    · simp [intElem, intReply])
  simpa using this

theorem toArray_order (xs : List Msg) : toArray (arr xs) = .ok xs := toArray_arr xs

open Rv.Conv in
/-- every scalar conversion of the model agrees with Rv/Spec/Conv.lean on `m` -/
structure ConvAgree (fp : FP) (m : Msg) : Prop where
  toString : Agree (toStr m) (specToString m)
  asBytes : Agree (asBytes m) (specToString m)
  asBool : Agree (asBool m) (specAsBool m)
  toBool : Agree (Acc.toBool m) (specToBool m)
  toInt64 : Agree (toInt64 m) (specToInt64 m)
  toFloat64 : Agree (toFloat64 fp m) (specToFloat64 fp m)
  asInt64 : Agree (asInt64 m) (specAsInt64 m)
  asUint64 : Agree (asUint64 m) (specAsUint64 m)
  asFloat64 : Agree (asFloat64 fp m) (specAsFloat64 fp m)
  asStrSlice : Agree (asStrSlice m) (specAsStrSlice m)
  asIntSlice : Agree (asIntSlice m) (specAsIntSlice m)
  asFloatSlice : Agree (asFloatSlice fp m) (specAsFloatSlice fp m)
  asBoolSlice : Agree (asBoolSlice m) (specAsBoolSlice m)

open Rv.Conv in
/-- For every reply in the decoder's range whose elements (if it is an array) are scalars, the model
    of the code (which follows message.go's switch statements) and the declarative conversion rules
    of Rv/Spec/Conv.lean give the same result: same value, same error, and a strconv error exactly
    where the specification says "not a number". In particular integer → bool is `n ≠ 0`. An edit of
    the model (or a regenerated model of edited code) that changes a conversion breaks this theorem;
    the harness's `!conv` lines check the real code against the same specification. -/
theorem model_conv_eq_spec (fp : FP) (m : Msg) (h : InRange m)
    (helems : ∀ v ∈ m.arr, InRange v ∧ ¬ isAggK v) : ConvAgree fp m where
  toString := toStr_agree m h
  asBytes := toStr_agree m h
  asBool := asBool_agree m
  toBool := toBool_agree m
  toInt64 := toInt64_agree m
  toFloat64 := toFloat64_agree fp m
  asInt64 := .ite (fun _ => .ok _) fun _ => via_text m h liftNum_agree_int
  asUint64 := .ite (fun _ => .ok _) fun _ => via_text m h liftNum_agree_uint
  asFloat64 := asFloat64_agree fp m h
  asStrSlice := asStrSlice_agree m
  asIntSlice := slice_agree intElem elemInt m fun v hv => intElem_agree v (helems v hv).1 (helems v hv).2
  asFloatSlice := slice_agree (floatElem fp) (elemFloat fp) m fun v hv =>
    floatElem_agree fp v (helems v hv).1 (helems v hv).2
  asBoolSlice := slice_agree (fun v => orZero (asBool v) false) elemBool m fun v _ => boolElem_agree v

/-- the specification itself: an integer reply converts to true exactly when it is non-zero -/
theorem spec_int_to_bool (i : Int) :
    Conv.specAsBool (Msg.leafInt 58 i) = .ok (decide (i ≠ 0)) := by
  simp [Conv.specAsBool, Conv.replyError, Conv.isNullK, Conv.isErrK, Conv.isStrK, Conv.isIntK, Msg.leafInt, Msg.typ, Msg.int]
  by_cases h : i = 0 <;> simp [h]

/-- e.g. `:2` and `:-1` are true, `:0` is false (the inputs a `== 1` conversion gets wrong) -/
example : Conv.specAsBool (Msg.leafInt 58 2) = .ok true ∧ Conv.specAsBool (Msg.leafInt 58 (-1)) = .ok true ∧
    Conv.specAsBool (Msg.leafInt 58 0) = .ok false ∧ asBool (Msg.leafInt 58 2) = .ok true := by
  refine ⟨?_, ?_, ?_, ?_⟩ <;> rfl

/-- non-vacuity of `InRange` -/
example : Conv.InRange (Msg.leafInt 58 2) := by
  constructor <;> simp [Conv.isAggK, Conv.isIntK, Conv.isBoolK, Conv.isNullK, Msg.leafInt, Msg.typ, Msg.arr, Msg.str]

end Rv.C16
