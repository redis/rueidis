/-
C20 — cluster batches keep order and transaction integrity.

Theorems about the model `Rv.Model.ClusterMulti` of `_pickMulti/_pickMultiCache`, `doretry(cache)`,
`doresultfn/resultcachefn`, `askingMulti(Cache)` and the round loop of `DoMulti/DoMultiCache` in
/repo/cluster.go (as repaired by "fix: cluster DoMulti re-sends the whole MULTI...EXEC block when the
redirect arrives on EXEC"). The model is tied to the code by the `cluster` correspondence suite.
-/
import Rv.Model.ClusterMulti
import Rv.Lemmas.ClusterMulti
import Rv.Lemmas.ClusterMultiInv
import Rv.Lemmas.ClusterMultiSent
namespace Rv.C20
open Rv Rv.Topology Rv.ClusterRoute Rv.ClusterMulti Rv.ClusterMultiL

/-- The sub-batches built by `_pickMulti`/`_pickMultiCache` from the destinations `ds` (one per command):
    the sub-batch of connection `cc` is exactly the list of pairs (position, command) whose destination is
    `cc`, in batch order; nothing is queued for ASKING. -/
theorem cindexes_are_filter (multi : List Cmd) (ds : List Conn) (cc : Conn) :
    (pget cc (groupBy ((enumFrom 0 multi).zip ds) [])).cmds
      = (((enumFrom 0 multi).zip ds).filter fun x => decide (x.2 = cc)).map (·.1) ∧
    (pget cc (groupBy ((enumFrom 0 multi).zip ds) [])).asks = [] := by
  obtain ⟨h1, h2⟩ := groupBy_spec cc ((enumFrom 0 multi).zip ds) []
  exact ⟨by rw [h1]; simp [pget], by rw [h2]; simp [pget]⟩

/-- The index lists partition `[0, n)`: position `i` (command `multi[i]`, destination `ds[i]`) is in the
    sub-batch of `cc` exactly when `cc = ds[i]`, paired with its own command. -/
theorem cindexes_partition (multi : List Cmd) (ds : List Conn) (i : Nat) (cmd : Cmd) (d : Conn)
    (hm : multi[i]? = some cmd) (hd : ds[i]? = some d) (cc : Conn) :
    (i, cmd) ∈ (pget cc (groupBy ((enumFrom 0 multi).zip ds) [])).cmds ↔ cc = d := by
  rw [(cindexes_are_filter multi ds cc).1]
  have hz : ((enumFrom 0 multi).zip ds)[i]? = some ((i, cmd), d) := by
    rw [List.getElem?_zip_eq_some]
    exact ⟨by rw [enumFrom_getElem?, hm]; simp, hd⟩
  constructor
  · intro h
    obtain ⟨x, hx, hx1⟩ := List.mem_map.mp h
    obtain ⟨hxmem, hxc⟩ := List.mem_filter.mp hx
    obtain ⟨j, hj⟩ := List.getElem?_of_mem hxmem
    rw [List.getElem?_zip_eq_some, enumFrom_getElem?, Option.map_eq_some_iff] at hj
    obtain ⟨⟨cj, -, hj1⟩, hj2⟩ := hj
    have hji : j = i := by simpa using congrArg Prod.fst (hj1.trans hx1)
    rw [hji, hd] at hj2
    exact (of_decide_eq_true hxc).symm.trans (Option.some.inj hj2).symm
  · intro h
    subst h
    exact List.mem_map.mpr ⟨((i, cmd), cc), List.mem_filter.mpr ⟨List.mem_of_getElem? hz, by simp⟩, rfl⟩

/-- inside every sub-batch the positions are strictly increasing: batch order is preserved -/
theorem cindexes_ordered (multi : List Cmd) (ds : List Conn) (cc : Conn) :
    ((pget cc (groupBy ((enumFrom 0 multi).zip ds) [])).cmds.map (·.1)).Pairwise (· < ·) := by
  rw [(cindexes_are_filter multi ds cc).1, List.map_map]
  have hs := enumZip_sorted multi ds 0
  have := (hs.sublist (List.filter_sublist (p := fun x => decide (x.2 = cc))))
  exact (List.pairwise_map).mpr this

/-- However the batch is split, whichever replies are redirect/retry-class, for any number of rounds:
    whenever `results[i]` holds a reply, that reply was produced by some node for the command at position `i`
    (`w.replies` records, per reply handed out, the id of the command the node was answering).
    The loop is entered as `DoMulti` enters it: `attempts = 1`, `redirects = 0`. -/
theorem results_positional (o : Opt) (cache hasInit : Bool) (multi : List Cmd) (fuel : Nat) (groups : Pending)
    (c : Client) (w : World) (hg : PendOK multi groups) (i : Nat) (r : Reply)
    (h : (rounds o cache hasInit fuel groups { c := c, results := multi.map fun _ => none } w 1 0).1.results[i]?
          = some (some r)) :
    ∃ cmd a, multi[i]? = some cmd ∧
      (cmd.id, a, r) ∈ (rounds o cache hasInit fuel groups { c := c, results := multi.map fun _ => none } w 1 0).2.replies := by
  exact (rounds_inv multi o cache hasInit fuel groups _ w 1 0 hg (resOK_init multi _)).2 i r h

/-- the sub-batches `_pickMulti` starts from satisfy the pairing invariant (`commands[j] = multi[cIndexes[j]]`) -/
theorem initial_groups_ok (multi : List Cmd) (ds : List Conn) :
    PendOK multi (groupBy ((enumFrom 0 multi).zip ds) []) :=
  groupBy_ok (fun _ hx => nomatch hx) fun x hx =>
    let ⟨_, h1, h2⟩ := mem_enumFrom multi 0 x.1 (List.of_mem_zip (a := x.1) (b := x.2) hx).1
    (h1.trans (Nat.zero_add _)) ▸ h2

/-- …and every position does get a result: starting from the sub-batches `_pickMulti` built (one destination
    per command), after the round loop (at least one round) `results[i]` is set for every `i < n`, whatever
    was redirected or retried. Together with `results_positional`: `results[i]` is a reply to command `i`. -/
theorem results_total (o : Opt) (cache hasInit : Bool) (multi : List Cmd) (ds : List Conn) (hlen : ds.length = multi.length)
    (fuel : Nat) (c : Client) (w : World) (i : Nat) (hi : i < multi.length) :
    ∃ r, (rounds o cache hasInit (fuel + 1) (groupBy ((enumFrom 0 multi).zip ds) [])
            { c := c, results := multi.map fun _ => none } w 1 0).1.results[i]? = some (some r) := by
  have hg := initial_groups_ok multi ds
  have hm : multi[i]? = some multi[i] := List.getElem?_eq_getElem hi
  have hd : ds[i]? = some (ds[i]'(by omega)) := List.getElem?_eq_getElem (by omega)
  have hmem := (cindexes_partition multi ds i multi[i] (ds[i]'(by omega)) hm hd (ds[i]'(by omega))).mpr rfl
  rcases pget_empty_or_mem (ds[i]'(by omega)) (groupBy ((enumFrom 0 multi).zip ds) []) with h | ⟨x, hx, hxe⟩
  · rw [h] at hmem; cases hmem
  · rw [← hxe] at hmem
    exact rounds_total multi o cache hasInit fuel _ _ w 1 0 hg (resOK_init multi _) x hx _ hmem

/-- un-interleaving: dropping the ASKING items from what `askingMulti` sends leaves the sub-batch's commands
    in order, so the i-th kept reply belongs to the i-th queued command -/
theorem asking_strip_is_identity (es : List Entry) :
    (askingItems false es).filter (fun it => !decide (it = Item.asking)) = es.map fun e => Item.cmd e.2.id :=
  askingItems_strip es false

/-- A batch containing a key-less command (MULTI/EXEC are key-less) is sent to one connection only: when
    `_pickMulti` succeeds with `init = true` every keyed command has the same slot `last`. Hence a
    MULTI…EXEC block is never split in the first round and its members are contiguous and in order there
    (`cindexes_ordered`, one group). -/
theorem tx_single_node_first_round (c : Client) : ∀ (multi : List Cmd) (l0 last : Nat),
    scanLoop c true multi l0 = .go last → (l0 = initSlot ∨ l0 = last) →
    ∀ cmd ∈ multi, cmd.slot ≠ initSlot → cmd.slot = last := by
  exact fun multi l0 last hs _ => (scanLoop_spec c multi l0 last hs).2

/-- what happens when the keyed commands of such a batch span two slots: `_pickMulti` never produces
    sub-batches — it panics ("Mixing no-slot and cross slot commands in DoMulti is prohibited") or, if an
    earlier slot has no connection, reports nil (→ refresh → ErrNoSlot). The block is never split. -/
theorem tx_cross_slot_rejected (c : Client) (multi : List Cmd) (a b : Cmd) (ha : a ∈ multi) (hb : b ∈ multi)
    (hna : a.slot ≠ initSlot) (hnb : b.slot ≠ initSlot) (hab : a.slot ≠ b.slot) :
    ∀ last, scanLoop c true multi initSlot ≠ .go last := by
  intro last h
  have h1 := (scanLoop_spec c multi initSlot last h).2 a ha hna
  have h2 := (scanLoop_spec c multi initSlot last h).2 b hb hnb
  exact hab (h1.trans h2.symm)

theorem tx_resent_to_target (o : Opt) (attempts : Nat) (cc : Conn) (cs : List Entry) (resps : List Reply)
    (c : Client) (t : Tx) (i ii : Nat) (cm : Cmd) (resp : Reply) (m e : Nat)
    (hme : m < i ∧ i ≤ e) (he : e < cs.length)
    (hM : isM cs m = true) (hE : isE cs e = true)
    (hmid : ∀ k, m < k → k < e → marker cs k = false)
    (hfirst : eiLt t i = true)
    (hok : (resps[m]?).map strOf = some kOK)
    (hact : skips o false attempts cm (classify resp) = false) :
    decideStep o false true attempts cc cs resps c t i ii cm resp =
      { c := (target c cc cm (classify resp)).2, t := { mi := some m, ei := some e },
        rq := mkRq (askMode (classify resp)) (target c cc cm (classify resp)).1 ((cs.drop m).take (e + 1 - m)),
        redirInc := true, delay := false } := by
  have hfound : txFound true false cs resps t { mi := some m, ei := some e } i = true := by
    simp [txFound, hfirst, he, hM, hE, hok]
  rw [decideStep_eq, if_neg (by rw [hact]; exact Bool.false_ne_true), searchTx_block cs t i m e hme he hM hE hmid hfirst]
  simp only [hfound, if_true, Bool.true_or, txBlock, Bool.not_true, Bool.false_and]

/-- Re-send of a whole block. In a sub-batch `cs` with MULTI at `m`, EXEC at `e`, no other marker in between,
    MULTI answered `OK`: the first position `i` in `(m, e]` — a member *or the EXEC itself* — whose reply makes
    the client act (MOVED, ASK, or a retryable failure that is to be retried) re-queues exactly
    `cs[m..e]`, in order, to the target of that reply (`.cmds`, or `.asks` for ASK), counts as one redirect,
    and records the block (`mi = m`, `ei = e`). -/
theorem tx_resent_whole (o : Opt) (attempts : Nat) (cc : Conn) (cs : List Entry) (resps : List Reply)
    (c : Client) (t : Tx) (i ii : Nat) (cm : Cmd) (resp : Reply) (m e : Nat)
    (hme : m < i ∧ i ≤ e) (he : e < cs.length)
    (hM : isM cs m = true) (hE : isE cs e = true)
    (hmid : ∀ k, m < k → k < e → marker cs k = false)
    (hfirst : eiLt t i = true)
    (hok : (resps[m]?).map strOf = some kOK)
    (hact : skips o false attempts cm (classify resp) = false) :
    let d := decideStep o false true attempts cc cs resps c t i ii cm resp
    rqEntries d.rq = (cs.drop m).take (e + 1 - m) ∧ d.redirInc = true ∧ d.t.mi = some m ∧ d.t.ei = some e ∧
      ∃ nc, d.rq = (match classify resp with
                    | .ask _ => Requeue.asks nc ((cs.drop m).take (e + 1 - m))
                    | _ => Requeue.cmds nc ((cs.drop m).take (e + 1 - m))) := by
  intro d
  rw [show d = _ from tx_resent_to_target o attempts cc cs resps c t i ii cm resp m e hme he hM hE hmid hfirst hok hact]
  exact ⟨rqEntries_mkRq _ _ _, rfl, rfl, rfl, (target c cc cm (classify resp)).1, by cases classify resp <;> rfl⟩

/-- …exactly once: after the block was recorded (`mi = m`, `ei = e`), a later member strictly inside it whose
    reply is redirect-class is not queued again. (The EXEC at `e` is not covered by this skip: if both a
    member and the EXEC of one block got redirect-class replies in the same round, EXEC is queued a second
    time on its own — a server answers EXECABORT in that situation, so the case does not arise.) -/
theorem tx_members_not_requeued (o : Opt) (attempts : Nat) (cc : Conn) (cs : List Entry) (resps : List Reply)
    (c : Client) (i ii : Nat) (cm : Cmd) (resp : Reply) (m e : Nat) (hmi : m < i ∧ i < e) (hM : isM cs m = true) :
    (decideStep o false true attempts cc cs resps c { mi := some m, ei := some e } i ii cm resp).rq = .nothing := by
  have hlt : eiLt { mi := some m, ei := some e } i = false := decide_eq_false (by omega)
  have ht : searchTx true false cs { mi := some m, ei := some e } i = { mi := some m, ei := some e } := by
    unfold searchTx; rw [hlt]; rfl
  have hf : txFound true false cs resps { mi := some m, ei := some e } { mi := some m, ei := some e } i = false := by
    unfold txFound; rw [hlt]; rfl
  have hin : txInside true false cs { mi := some m, ei := some e } i = true := by
    simp [txInside, hmi.1, hmi.2, hM]
  rw [decideStep_eq]
  refine ite_ind (fun d : Dec => d.rq = .nothing) rfl ?_
  show (if _ then _ else if _ then _ else _) = _
  rw [ht, hf, if_neg Bool.false_ne_true, hin, if_pos rfl]

/-- a re-queued block stays one contiguous run at the end of the target's sub-batch (appended under one
    lock hold in the Go code) -/
theorem tx_requeued_contiguous (nc : Conn) (block : List Entry) (p : Pending) :
    (pget nc (addCmds nc block p)).cmds = (pget nc p).cmds ++ block ∧
    (pget nc (addAsks nc block p)).asks = (pget nc p).asks ++ block :=
  ⟨(addCmds_cmds nc block p).1, addAsks_asks nc block p⟩

/-- `doretry` hands the per-connection batch back to the pool (which clears the very command slice the
    connection was given) only when it is clean: the pool grows by this batch exactly when every reply of both of
    its calls came from the server (`NonRedisError() == nil`). If some command was answered with a transport or
    context error — it may still be queued, unwritten, on the connection — nothing is recycled. -/
theorem retry_recycled_only_when_clean (o : Opt) (cache hasInit : Bool) (attempts : Nat) (cc : Conn) (re : Retry)
    (a : Acc) (w : World) :
    (doRetry o cache hasInit attempts cc re a w).2.recycled =
      w.recycled ++ (if retryClean cache cc re w then [(cc, (re.cmds ++ re.asks).map (·.2.id))] else []) ∧
    (retryClean cache cc re w = true ↔
      ((re.cmds = [] ∨ ∀ r ∈ phaseReplies cc (callKind cache) (re.cmds.map fun e => Item.cmd e.2.id) re.cmds w,
          isRedisReply r = true) ∧
       (re.asks = [] ∨ ∀ r ∈ phaseReplies cc .multi (if cache then askingCacheItems re.asks else askingItems false re.asks)
          re.asks (afterCmds cache cc re w), isRedisReply r = true))) := by
  constructor
  · have h := (doRetryCore_log o cache hasInit attempts cc re a w).2
    unfold doRetry
    simp only
    split
    · simp only [recycle, h]
    · rw [h, List.append_nil]
  · unfold retryClean
    simp only [Bool.and_eq_true, Bool.or_eq_true, decide_eq_true_eq, List.all_eq_true]

/-- a context error (the caller gave up while the batch was queued) keeps the batch out of the pool -/
theorem abandoned_batch_not_recycled (o : Opt) (cache hasInit : Bool) (attempts : Nat) (cc : Conn) (re : Retry)
    (a : Acc) (w : World) (hne : re.cmds ≠ []) (s : Bytes)
    (h : Reply.cerr s ∈ phaseReplies cc (callKind cache) (re.cmds.map fun e => Item.cmd e.2.id) re.cmds w) :
    (doRetry o cache hasInit attempts cc re a w).2.recycled = w.recycled := by
  have hnot : retryClean cache cc re w = false := by
    cases hcl : retryClean cache cc re w with
    | false => rfl
    | true =>
      have := ((retry_recycled_only_when_clean o cache hasInit attempts cc re a w).2.mp hcl).1
      rcases this with h0 | h0
      · exact absurd h0 hne
      · have := h0 _ h; simp [isRedisReply] at this
  rw [(retry_recycled_only_when_clean o cache hasInit attempts cc re a w).1, hnot]
  simp

/-- a single (non-MULTI) command sent because of ASK gets its own ASKING immediately in front -/
theorem asking_once_per_single (e : Entry) (rest : List Entry) (h : e.2.isMulti = false) :
    askingItems false (e :: rest) = Item.asking :: Item.cmd e.2.id :: askingItems false rest := by
  simp [askingItems, h]

/-- a MULTI…EXEC block sent because of ASK gets exactly one ASKING, in front of MULTI; the next unit starts
    with a fresh ASKING -/
theorem asking_once_per_unit (mlt x : Entry) (members rest : List Entry)
    (hM : mlt.2.isMulti = true) (hm : ∀ e ∈ members, e.2.isExec = false) (hx : x.2.isExec = true) :
    askingItems false (mlt :: (members ++ x :: rest)) =
      Item.asking :: Item.cmd mlt.2.id :: ((members.map fun e => Item.cmd e.2.id) ++
        Item.cmd x.2.id :: askingItems false rest) := by
  simp only [askingItems, hM]
  rw [askingItems_inTx members x rest hm hx]

example : askingItems false
    [(0, { id := 0, slot := initSlot, isMulti := true }), (1, { id := 1, slot := 5 }),
     (2, { id := 2, slot := initSlot, isExec := true }), (3, { id := 3, slot := 5 })]
    = [.asking, .cmd 0, .cmd 1, .cmd 2, .asking, .cmd 3] := by decide

end Rv.C20
