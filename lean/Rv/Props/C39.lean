/-
C39 — cache-aside reads never leak locks and load once.

Chain: script texts regenerated (`Rv.Gen.LuaScripts`) and pinned here ⇒ hand transcription
`Rv.Aside.acquire/setkey/delkey` (trusted; differentially tested against the Go fake on the
`s.*` lines) ⇒ the `Get` loop as the automaton `Rv.Aside.gstep` and the system `Rv.Aside.next`
(trusted transcription of aside.go; the real clients run end-to-end against the fake with
invalidation pushes and are compared with the automaton run to quiescence after every event).
The theorems hold for every list of events, i.e. every interleaving of Gets of any number of
clients with Del, expiry, foreign writes, loader failures, client deaths, refreshes and
context cancellations.
-/
import Rv.Gen.LuaScripts
import Rv.Model.Aside

namespace Rv.C39
open Rv.Aside

theorem acquire_script_pinned : Rv.Gen.rueidisaside_acquireLock =
  "if redis.call(\"SET\", KEYS[1], ARGV[1], \"NX\", \"PX\", ARGV[2]) then return nil else return redis.call(\"GET\", KEYS[1]) end" := rfl
theorem setkey_script_pinned : Rv.Gen.rueidisaside_setkey =
  "if redis.call(\"GET\",KEYS[1]) == ARGV[1] then return redis.call(\"SET\",KEYS[1],ARGV[2],\"PX\",ARGV[3]) else return 0 end" := rfl
theorem delkey_script_pinned : Rv.Gen.rueidisaside_delkey =
  "if redis.call(\"GET\",KEYS[1]) == ARGV[1] then return redis.call(\"DEL\",KEYS[1]) else return 0 end" := rfl

def isValue : Val → Prop
  | .value _ => True
  | .ph _ => False

/-- what a Get carries is accounted for: a finished Get returned a non-placeholder value that a
loader produced or that was stored for the key; a value about to be stored came from a loader -/
def GoodG (seen : List Val) (g : G) : Prop :=
  match g.pc with
  | .done (.ok v) => isValue v ∧ v ∈ seen
  | .storing v => v ∈ seen
  | _ => True

/-- the key is accounted for: a value in it was stored or loaded by somebody; a placeholder in it
is either such a user value carrying the prefix, or the id of a client whose liveness marker has
been set (`started`) — keepalive publishes a client's id only after the marker SET succeeded -/
def KeyOk (srv : Srv) : Prop :=
  ∀ v, srv.key = some v → v ∈ srv.seen ∨ ∃ i, v = .ph i ∧ i ∈ srv.started

def Inv (s : Sys) : Prop := KeyOk s.srv ∧ ∀ g ∈ s.gs, GoodG s.srv.seen g

private theorem goodG_mono {seen seen' : List Val} {g : G} (h : ∀ v, v ∈ seen → v ∈ seen') (hg : GoodG seen g) :
    GoodG seen' g := by
  unfold GoodG at hg ⊢
  split at hg
  · exact ⟨hg.1, h _ hg.2⟩
  · exact h _ hg
  · trivial

private theorem goodG_pc {seen : List Val} {g g' : G} (h : g'.pc = g.pc) (hg : GoodG seen g) : GoodG seen g' := by
  unfold GoodG; rw [h]; exact hg

/-- what `wakeId i` does to one Get -/
def wid (i : Nat) (g : G) : G :=
  match g.pc with
  | .waiting j => if i = j then { g with wId := true } else g
  | _ => g

private theorem wid_pc (i : Nat) (g : G) : (wid i g).pc = g.pc := by
  unfold wid
  split
  · split <;> rfl
  · rfl

private theorem all_wakeKey {seen : List Val} {gs : List G} (h : ∀ g ∈ gs, GoodG seen g) : ∀ g ∈ wakeKey gs, GoodG seen g :=
  List.forall_mem_map.2 fun g hg => goodG_pc rfl (h g hg)

private theorem all_wakeId {i : Nat} {seen : List Val} {gs : List G} (h : ∀ g ∈ gs, GoodG seen g) :
    ∀ g ∈ wakeId i gs, GoodG seen g :=
  List.forall_mem_map.2 fun g hg => goodG_pc (wid_pc i g) (h g hg)

private theorem forall_mem_setAt {P : G → Prop} {gs : List G} {i : Nat} {g : G} (h : ∀ x ∈ gs, P x) (hg : P g) :
    ∀ x ∈ setAt gs i g, P x :=
  fun x hx => (List.mem_or_eq_of_mem_set hx).elim (h x) (· ▸ hg)

private theorem all_ite {seen : List Val} {c : Prop} [Decidable c] {a b : List G}
    (ha : ∀ g ∈ a, GoodG seen g) (hb : ∀ g ∈ b, GoodG seen g) : ∀ g ∈ (if c then a else b), GoodG seen g := by
  split <;> assumption

@[simp] private theorem keepalive_key (t : Srv) (d : Nat) : (keepalive t d).key = t.key := by unfold keepalive; split <;> rfl
@[simp] private theorem keepalive_seen (t : Srv) (d : Nat) : (keepalive t d).seen = t.seen := by unfold keepalive; split <;> rfl
@[simp] private theorem keepalive_loads (t : Srv) (d : Nat) : (keepalive t d).loads = t.loads := by unfold keepalive; split <;> rfl

private theorem keepalive_started (t : Srv) (d i : Nat) :
    i ∈ (keepalive t d).started ↔ i = d ∨ i ∈ t.started := by
  unfold keepalive; split
  · next h => exact ⟨.inr, fun e => e.elim (· ▸ h) id⟩
  · exact List.mem_cons

private theorem keepalive_alive (t : Srv) (d j : Nat) (h : j ∈ t.alive) : j ∈ (keepalive t d).alive := by
  unfold keepalive; split
  · exact h
  · simp only; split
    · exact h
    · exact List.mem_cons_of_mem _ h

private theorem keyOk_keepalive {s : Srv} (d : Nat) (h : KeyOk s) : KeyOk (keepalive s d) := by
  intro v hv
  rw [keepalive_key] at hv
  rw [keepalive_seen]
  exact (h v hv).imp_right fun ⟨i, e, hi⟩ => ⟨i, e, (keepalive_started ..).2 (.inr hi)⟩

private theorem acquire_none {id : Nat} {k k' : Option Val} (h : acquire id k = (k', none)) :
    k = none ∧ k' = some (.ph id) := by
  cases k <;> cases h; exact ⟨rfl, rfl⟩

private theorem acquire_some {id : Nat} {k k' : Option Val} {v : Val} (h : acquire id k = (k', some v)) : k = some v := by
  cases k <;> cases h; rfl

private theorem keyOk_delkey {s : Srv} (i : Nat) (h : KeyOk s) : KeyOk { s with key := (delkey i s.key).1 } := by
  intro v hv
  unfold delkey at hv
  split at hv
  · cases hv
  · exact h v hv

private theorem gstep_mono (s : Srv) (g : G) (load : Option Val) :
    (∀ v, v ∈ s.seen → v ∈ (gstep s g load).1.seen) ∧ (∀ j, j ∈ s.alive → j ∈ (gstep s g load).1.alive) := by
  obtain ⟨id, pc, wk, wi, canc⟩ := g
  cases canc <;> cases pc <;> simp only [gstep, gstepLive, gstepCancelled, Bool.false_eq_true, if_false, if_true]
  case false.locking => split <;> exact ⟨fun _ h => keepalive_seen s id ▸ h, keepalive_alive s id⟩
  case true.locking => exact ⟨fun _ h => keepalive_seen s id ▸ h, keepalive_alive s id⟩
  case false.loading | true.loading =>
    split
    · exact ⟨fun _ => List.mem_cons_of_mem _, fun _ h => h⟩
    · exact ⟨fun _ h => h, fun _ h => h⟩
  case false.read | false.checkHolder | false.waiting => split <;> exact ⟨fun _ h => h, fun _ h => h⟩
  all_goals exact ⟨fun _ h => h, fun _ h => h⟩

/-- one step of one Get keeps the accounting: the server's key stays accounted, `seen` only
grows, and the Get's new state is accounted -/
theorem gstep_good (s : Srv) (g : G) (load : Option Val) (hk : KeyOk s) (hg : GoodG s.seen g) :
    KeyOk (gstep s g load).1 ∧ (∀ v, v ∈ s.seen → v ∈ (gstep s g load).1.seen) ∧
      GoodG (gstep s g load).1.seen (gstep s g load).2 := by
  have value_seen : ∀ x, s.key = some (.value x) → Val.value x ∈ s.seen := fun x hx =>
    (hk _ hx).elim id fun ⟨_, e, _⟩ => nomatch e
  have main : KeyOk (gstep s g load).1 ∧ GoodG (gstep s g load).1.seen (gstep s g load).2 := by
    obtain ⟨id, pc, wk, wi, canc⟩ := g
    cases canc <;> cases pc <;> simp only [gstep, gstepLive, gstepCancelled, Bool.false_eq_true, if_false, if_true]
    case false.read =>
      split
      · exact ⟨hk, trivial⟩
      · exact ⟨hk, trivial, value_seen _ ‹_›⟩
      · exact ⟨hk, trivial⟩
    case false.locking =>
      split
      · -- a successful acquire stores the placeholder of an id that keepalive has just published
        refine ⟨fun v hv => ?_, trivial⟩
        cases (acquire_none ‹_›).2.symm.trans hv
        exact .inr ⟨id, rfl, (keepalive_started ..).2 (.inl rfl)⟩
      · exact ⟨keyOk_keepalive id hk, trivial,
          keepalive_seen s id ▸ value_seen _ (keepalive_key s id ▸ acquire_some ‹_›)⟩
      · exact ⟨keyOk_keepalive id hk, trivial⟩
    case true.locking => exact ⟨keyOk_keepalive id hk, trivial⟩
    case false.loading | true.loading =>
      split
      · exact ⟨fun v hv => (hk v hv).imp_left (List.mem_cons_of_mem _), List.mem_cons_self⟩
      · exact ⟨hk, trivial⟩
    case false.storing v =>
      -- setkey stores the loader's value, which `seen` already holds, and the Get returns it
      refine ⟨fun w hw => ?_, ?_⟩
      · simp only [setkey] at hw
        split at hw
        · cases hw; exact .inl hg
        · exact hk w hw
      · cases v
        · exact ⟨trivial, hg⟩
        · trivial
    case true.storing | false.releasing | true.releasing | false.freeing | true.freeing =>
      exact ⟨keyOk_delkey _ hk, trivial⟩
    case false.checkHolder | false.waiting => split <;> exact ⟨hk, trivial⟩
    case false.done | true.done => exact ⟨hk, hg⟩
    all_goals exact ⟨hk, trivial⟩
  exact ⟨main.1, (gstep_mono s g load).1, main.2⟩

theorem inv_next (s : Sys) (e : Ev) (h : Inv s) : Inv (next s e) := by
  obtain ⟨hk, hgs⟩ := h
  cases e with
  | newGet id => exact ⟨hk, List.forall_mem_append.2 ⟨hgs, List.forall_mem_singleton.2 trivial⟩⟩
  | step i load =>
    simp only [next]
    cases hgi : s.gs[i]? with
    | none => exact ⟨hk, hgs⟩
    | some g =>
      have hgm : g ∈ s.gs := List.mem_of_getElem? hgi
      obtain ⟨hk', hmono, hg'⟩ := gstep_good s.srv g load hk (hgs g hgm)
      refine ⟨hk', ?_⟩
      have hset : ∀ x ∈ setAt s.gs i (gstep s.srv g load).2, GoodG (gstep s.srv g load).1.seen x :=
        forall_mem_setAt (fun x h => goodG_mono hmono (hgs x h)) hg'
      exact all_ite (all_ite hset (all_wakeKey hset)) (all_wakeId (all_ite hset (all_wakeKey hset)))
  | cancel i =>
    simp only [next]
    cases hgi : s.gs[i]? with
    | none => exact ⟨hk, hgs⟩
    | some g => exact ⟨hk, forall_mem_setAt hgs (goodG_pc (g := g) rfl (hgs g (List.mem_of_getElem? hgi)))⟩
  | del | expire => exact ⟨nofun, all_ite hgs (all_wakeKey hgs)⟩
  | put v =>
    refine ⟨?_, all_wakeKey (fun g hg => goodG_mono (fun _ h => List.mem_cons_of_mem _ h) (hgs g hg))⟩
    intro w hw
    cases hw
    exact .inl List.mem_cons_self
  | death id => exact ⟨hk, all_ite (all_wakeId hgs) hgs⟩
  | refresh id => exact ⟨hk, all_wakeId hgs⟩

private theorem run_preserves {P : Sys → Prop} (hn : ∀ s e, P s → P (next s e)) (s : Sys) (es : List Ev) (h : P s) :
    P (run s es) := by
  induction es generalizing s with
  | nil => exact h
  | cons e r ih => exact ih _ (hn s e h)

theorem inv_run (s : Sys) (es : List Ev) (h : Inv s) : Inv (run s es) :=
  run_preserves inv_next s es h

private theorem inv_init : Inv {} := ⟨fun _ h => (nomatch h), fun _ h => nomatch h⟩

/-- for every interleaving, a value returned by Get is never the lock placeholder -/
theorem never_returns_placeholder (es : List Ev) (g : G) (v : Val)
    (hg : g ∈ (run {} es).gs) (hd : g.pc = .done (.ok v)) : isValue v := by
  have := (inv_run {} es inv_init).2 g hg
  rw [GoodG, hd] at this
  exact this.1

/-- for every interleaving, a value returned by Get was produced by a loader or stored for the
key by somebody (`seen` records exactly the loader outputs and the foreign writes) -/
theorem value_is_loader_or_stored (es : List Ev) (g : G) (v : Val)
    (hg : g ∈ (run {} es).gs) (hd : g.pc = .done (.ok v)) : v ∈ (run {} es).srv.seen := by
  have := (inv_run {} es inv_init).2 g hg
  rw [GoodG, hd] at this
  exact this.2

/-- for every interleaving: a placeholder in the key that is not a user value carrying the
prefix belongs to a client whose liveness marker has been set before — keepalive publishes the
client id only after its marker SET succeeded, and a Get locks the key only with a published id.
(Another client that reads the placeholder therefore finds the marker unless it expired.) -/
theorem placeholder_implies_marker_was_set (es : List Ev) (i : Nat)
    (hk : (run {} es).srv.key = some (.ph i)) (hu : Val.ph i ∉ (run {} es).srv.seen) :
    i ∈ (run {} es).srv.started := by
  rcases (inv_run {} es inv_init).1 _ hk with h | ⟨_, ⟨⟩, h⟩
  · exact absurd h hu
  · exact h

/-- the events that can remove or replace the placeholder of client `c`: Del, expiry, a foreign
write, the holder's own setkey/delkey, and the delkey of a Get that found `c`'s liveness key missing -/
def touches (s : Sys) (c : Nat) : Ev → Bool
  | .del | .expire | .put _ => true
  | .step i _ =>
    match s.gs[i]? with
    | some g => (match g.pc with
        | .storing _ => g.id == c
        | .releasing => g.id == c
        | .freeing j => j == c
        | _ => false)
    | none => false
  | _ => false

private theorem ph_ne {i c : Nat} (h : (i == c) = false) : some (Val.ph c) ≠ some (.ph i) := by
  intro e
  cases e
  rw [beq_self_eq_true] at h
  cases h

private theorem setkey_other {i c : Nat} (v : Val) (h : (i == c) = false) : (setkey i v (some (.ph c))).1 = some (.ph c) := by
  unfold setkey; rw [if_neg (ph_ne h)]

private theorem delkey_other {i c : Nat} (h : (i == c) = false) : (delkey i (some (.ph c))).1 = some (.ph c) := by
  unfold delkey; rw [if_neg (ph_ne h)]

private theorem gstep_keeps_ph (s : Sys) (i : Nat) (g : G) (load : Option Val) (c : Nat) (hg : s.gs[i]? = some g)
    (hk : s.srv.key = some (.ph c)) (ht : touches s c (.step i load) = false) :
    (gstep s.srv g load).1.key = some (.ph c) ∧ (gstep s.srv g load).1.loads = s.srv.loads := by
  simp only [touches, hg] at ht
  obtain ⟨id, pc, wk, wi, canc⟩ := g
  cases canc <;> cases pc <;>
    simp only [gstep, gstepLive, gstepCancelled, Bool.false_eq_true, if_false, if_true, and_true] at ht ⊢
  -- the lock attempt finds the key taken
  case false.locking => simp only [keepalive_key, keepalive_loads, hk, acquire, and_self]
  case true.locking => exact ⟨(keepalive_key ..).trans hk, keepalive_loads ..⟩
  case false.storing v => exact hk ▸ setkey_other v ht
  case true.storing | false.releasing | true.releasing | false.freeing | true.freeing => exact hk ▸ delkey_other ht
  case false.read | false.loading | true.loading | false.checkHolder | false.waiting => split <;> exact ⟨hk, rfl⟩
  all_goals exact hk

/-- while client `c`'s placeholder is in the key, no other event changes the key or starts a
loader: every other Get's lock attempt fails and it waits -/
theorem placeholder_stable (s : Sys) (c : Nat) (e : Ev) (hk : s.srv.key = some (.ph c))
    (ht : touches s c e = false) :
    (next s e).srv.key = some (.ph c) ∧ (next s e).srv.loads = s.srv.loads := by
  cases e with
  | newGet _ | death _ | refresh _ => exact ⟨hk, rfl⟩
  | cancel i => simp only [next]; cases s.gs[i]? <;> exact ⟨hk, rfl⟩
  | del | expire | put _ => cases ht
  | step i load =>
    simp only [next]
    cases hgi : s.gs[i]? with
    | none => exact ⟨hk, rfl⟩
    | some g => exact gstep_keeps_ph s i g load c hgi hk ht

/-- over any stretch of events none of which touches `c`'s placeholder, the loader count does
not move: concurrent Gets of all clients run no second loader and wait for the holder -/
theorem one_loader_while_holder_alive (c : Nat) (es : List Ev) (s : Sys) (hk : s.srv.key = some (.ph c))
    (hquiet : ∀ (pre : List Ev) (e : Ev) (post : List Ev), es = pre ++ e :: post → touches (run s pre) c e = false) :
    (run s es).srv.key = some (.ph c) ∧ (run s es).srv.loads = s.srv.loads := by
  induction es generalizing s with
  | nil => exact ⟨hk, rfl⟩
  | cons e r ih =>
    have h0 := hquiet [] e r rfl
    obtain ⟨hk', hl'⟩ := placeholder_stable s c e hk h0
    have := ih (next s e) hk' (fun pre e' post heq => hquiet (e :: pre) e' post (by simp [heq]))
    exact ⟨this.1, this.2.trans hl'⟩

/-- a Get starts to free `c`'s placeholder only after it saw `c`'s liveness key missing: as long
as the holder is alive nobody enters `freeing c` -/
theorem freeing_needs_dead (s : Srv) (g : G) (load : Option Val) (c : Nat)
    (h : (gstep s g load).2.pc = .freeing c) (hn : g.pc ≠ .freeing c) : c ∉ s.alive := by
  obtain ⟨id, pc, wk, wi, canc⟩ := g
  -- `checkHolder`, on a missing liveness key, is the only step whose target is `freeing`
  cases canc <;> cases pc <;>
    simp only [gstep, gstepLive, gstepCancelled, Bool.false_eq_true, if_false, if_true, reduceCtorEq] at h
  case false.checkHolder i =>
    split at h <;> cases h
    assumption
  all_goals split at h <;> cases h

def gsteps (s : Srv) (g : G) : Nat → Srv × G
  | 0 => (s, g)
  | n + 1 => let r := gstep s g none; gsteps r.1 r.2 n

/-- if the key holds the placeholder of a client whose liveness key is gone, a Get of any client
run on its own (seven steps: register, read, check holder, delkey, register, read, lock) removes the
placeholder, takes the lock and runs its loader -/
theorem dead_holder_released (s : Srv) (c d : Nat) (hk : s.key = some (.ph c)) (hdead : c ∉ s.alive) :
    (gsteps s { id := d } 7).2.pc = .loading ∧ (gsteps s { id := d } 7).1.key = some (.ph d) ∧
      (gsteps s { id := d } 7).1.loads = s.loads + 1 := by
  simp [gsteps, gstep, gstepLive, hk, hdead, delkey, acquire]

/-- what a Get knows is still true unless it has been woken: between its read of a placeholder
and its liveness check (`checkHolder`), and while parked (`waiting`), an un-woken Get's key
still holds the placeholder it read and (parked, id channel un-woken) the holder's liveness key
still exists. A Get that holds the lock has been woken by its own acquisition. This needs the
order `wait := c.register(key)` BEFORE `DoCache GET key`: with the registration after the read, a
write between the two would leave `wKey = false` with a changed key. -/
def WG (srv : Srv) (g : G) : Prop :=
  (∀ i, g.pc = .checkHolder i → g.wKey = false → srv.key = some (.ph i)) ∧
  (∀ i, g.pc = .waiting i → (g.wKey = false → srv.key = some (.ph i)) ∧ (g.wId = false → i ∈ srv.alive)) ∧
  (g.pc = .loading → g.wKey = true) ∧ (g.pc = .releasing → g.wKey = true) ∧ (∀ v, g.pc = .storing v → g.wKey = true)

def WInv (s : Sys) : Prop := ∀ g ∈ s.gs, WG s.srv g

private theorem wg_frame {s s' : Srv} {x : G} (h : WG s x) (hk : s'.key = s.key)
    (ha : ∀ j, j ∈ s.alive → j ∈ s'.alive) : WG s' x := by
  obtain ⟨h1, h2, h3⟩ := h
  refine ⟨fun i hp hw => hk ▸ h1 i hp hw, fun i hp => ⟨fun hw => hk ▸ (h2 i hp).1 hw, fun hw => ha i ((h2 i hp).2 hw)⟩, h3⟩

private theorem wg_woken {s s' : Srv} {x : G} (h : WG s x) (ha : ∀ j, j ∈ s.alive → j ∈ s'.alive) :
    WG s' { x with wKey := true } := by
  obtain ⟨_, h2, _⟩ := h
  refine ⟨fun i _ hw => by simp at hw, fun i hp => ⟨fun hw => by simp at hw, fun hw => ha i ((h2 i hp).2 hw)⟩,
    fun _ => rfl, fun _ => rfl, fun _ _ => rfl⟩

private theorem wg_iff (s : Srv) (g : G) : WG s g ↔ match g.pc with
    | .checkHolder i => g.wKey = false → s.key = some (.ph i)
    | .waiting i => (g.wKey = false → s.key = some (.ph i)) ∧ (g.wId = false → i ∈ s.alive)
    | .loading | .releasing | .storing _ => g.wKey = true
    | _ => True := by
  unfold WG
  cases g.pc <;> simp only [reduceCtorEq, false_implies, implies_true, and_self, and_true, true_and, forall_const,
    PC.checkHolder.injEq, PC.waiting.injEq, PC.storing.injEq, forall_eq']

/-- the stepping Get itself keeps what it knows, with one exception: the Get that has just taken
the lock counts as woken only through its own write of the key -/
private theorem wg_step (s : Srv) (g : G) (load : Option Val) (h : WG s g) :
    WG (gstep s g load).1 (gstep s g load).2 ∨
      ((gstep s g load).1.key ≠ s.key ∧ (gstep s g load).2.pc = .loading) := by
  obtain ⟨id, pc, wk, wi, canc⟩ := g
  rw [wg_iff] at h
  cases canc <;> cases pc <;>
    simp only [gstep, gstepLive, gstepCancelled, Bool.false_eq_true, if_false, if_true] at h ⊢
  case false.read =>
    left; split <;> simp only [wg_iff]
    exact fun _ => ‹_›
  case false.locking =>
    split
    · right
      obtain ⟨h0, rfl⟩ := acquire_none ‹_›
      rw [keepalive_key] at h0
      exact ⟨fun e => (nomatch e.trans h0), rfl⟩
    all_goals left; simp only [wg_iff]
    exact fun _ => acquire_some ‹_›
  case false.loading | true.loading => left; split <;> simp only [wg_iff] <;> exact h
  case false.storing v => left; cases v <;> simp only [wg_iff, h, reduceCtorEq, false_implies]
  case false.checkHolder i =>
    left; split <;> simp only [wg_iff]
    exact ⟨h, fun _ => ‹_›⟩
  case false.waiting i =>
    left; split <;> simp only [wg_iff]
    exact h
  all_goals left; simp only [wg_iff]

/-- the stepping Get, with the wake flag its own write of the key sets -/
theorem wg_own (s : Srv) (g : G) (load : Option Val) (h : WG s g) :
    WG (gstep s g load).1
      (if (gstep s g load).1.key = s.key then (gstep s g load).2 else { (gstep s g load).2 with wKey := true }) := by
  split
  · next hk => exact (wg_step s g load h).elim id fun hr => absurd hk hr.1
  · exact (wg_step s g load h).elim (fun hw => wg_woken hw fun _ hj => hj)
      fun hr => (wg_iff ..).2 (by simp only [hr.2])

private theorem wg_wid {s : Srv} {i : Nat} {x : G} (h : WG s x) : WG s (wid i x) := by
  unfold wid
  split
  · split
    · obtain ⟨h1, h2, h3⟩ := h
      exact ⟨h1, fun k hp => ⟨(h2 k hp).1, nofun⟩, h3⟩
    · exact h
  · exact h

private theorem wid_parked (i : Nat) (x : G) : ∀ j, (wid i x).pc = .waiting j → (wid i x).wId = false → j ≠ i := by
  unfold wid
  split
  · split
    · exact fun _ _ hw => nomatch hw
    · next hx hne => exact fun j hp _ e => hne ((PC.waiting.inj (hx.symm.trans hp)).trans e).symm
  · next hx => exact fun j hp _ => absurd hp (hx j)

private theorem wg_filter {s : Srv} {i : Nat} {x : G} (h : WG s x)
    (hne : ∀ j, x.pc = .waiting j → x.wId = false → j ≠ i) :
    WG { s with alive := s.alive.filter (· ≠ i) } x := by
  obtain ⟨h1, h2, h3⟩ := h
  refine ⟨h1, fun j hp => ⟨(h2 j hp).1, fun hw => ?_⟩, h3⟩
  simp only [List.mem_filter, decide_eq_true_eq]
  exact ⟨(h2 j hp).2 hw, hne j hp hw⟩

/-- for every event the invariant is preserved — in particular a parked
Get that has not been woken still waits for the placeholder of a holder whose liveness key
exists: no wake-up (holder's result, release, Del, expiry, holder death) is ever missed -/
theorem waiter_not_lost (s : Sys) (e : Ev) (inv : WInv s) : WInv (next s e) := by
  cases e with
  | newGet id => exact List.forall_mem_append.2 ⟨inv, List.forall_mem_singleton.2 ((wg_iff ..).2 trivial)⟩
  | cancel i =>
    simp only [next]
    cases hgi : s.gs[i]? with
    | none => exact inv
    | some g => exact forall_mem_setAt inv (inv g (List.mem_of_getElem? hgi))
  | del | expire =>
    simp only [WInv, next]
    split
    · next hk => exact fun x hx => wg_frame (inv x hx) hk.symm fun _ h => h
    · exact List.forall_mem_map.2 fun g hg => wg_woken (inv g hg) fun _ h => h
  | put v => exact List.forall_mem_map.2 fun g hg => wg_woken (inv g hg) fun _ h => h
  | death id =>
    simp only [WInv, next]
    split
    · exact List.forall_mem_map.2 fun g hg => wg_filter (wg_wid (inv g hg)) (wid_parked id g)
    · next hi => exact fun x hx => wg_filter (inv x hx) fun j hp hw e => hi (e ▸ ((inv x hx).2.1 j hp).2 hw)
  | refresh id =>
    refine List.forall_mem_map.2 fun g hg => wg_wid (wg_frame (inv g hg) rfl fun j hj => ?_)
    show j ∈ (if id ∈ s.srv.alive then s.srv.alive else id :: s.srv.alive)
    split
    · exact hj
    · exact List.mem_cons_of_mem _ hj
  | step i load =>
    simp only [next]
    cases hgi : s.gs[i]? with
    | none => exact inv
    | some g =>
      have hown := wg_own s.srv g load (inv g (List.mem_of_getElem? hgi))
      have hal := (gstep_mono s.srv g load).2
      -- every element of the final list, before the id wake
      have hmid : ∀ x ∈ (if (gstep s.srv g load).1.key = s.srv.key then setAt s.gs i (gstep s.srv g load).2
                      else wakeKey (setAt s.gs i (gstep s.srv g load).2)), WG (gstep s.srv g load).1 x := by
        split
        · next hk =>
          exact forall_mem_setAt (fun x h => wg_frame (inv x h) hk hal) (by rwa [if_pos hk] at hown)
        · next hk =>
          exact List.forall_mem_map.2 <| forall_mem_setAt (fun y h => wg_woken (inv y h) hal)
            (by rwa [if_neg hk] at hown)
      simp only [WInv]
      split
      · exact hmid
      · exact List.forall_mem_map.2 fun y hy => wg_wid (hmid y hy)

theorem waiter_not_lost_run (es : List Ev) : WInv (run {} es) :=
  run_preserves waiter_not_lost {} es fun _ hg => nomatch hg

/-- in plain words: in every reachable state a parked Get that no invalidation has reached is
parked on the placeholder that is still in the key, of a holder whose liveness key still exists -/
theorem parked_means_live_holder (es : List Ev) (g : G) (i : Nat) (hg : g ∈ (run {} es).gs)
    (hp : g.pc = .waiting i) (hk : g.wKey = false) (hi : g.wId = false) :
    (run {} es).srv.key = some (.ph i) ∧ i ∈ (run {} es).srv.alive :=
  ⟨((waiter_not_lost_run es g hg).2.1 i hp).1 hk, ((waiter_not_lost_run es g hg).2.1 i hp).2 hi⟩

private theorem freeing_key {s : Sys} {idx i : Nat} {g : G} (load : Option Val)
    (hg : s.gs[idx]? = some g) (hpc : g.pc = .freeing i) :
    (next s (.step idx load)).srv.key = (delkey i s.srv.key).1 := by
  simp only [next, hg]
  obtain ⟨id, pc, wk, wi, canc⟩ := g
  cases hpc
  cases canc <;> rfl

/-- the release a Get performs after it found holder `i`'s liveness key missing is the delkey
script on the placeholder VALUE it read: in every state — hence in every interleaving, however
long the Get was delayed and whatever happened meanwhile — it leaves the placeholder of any
other client `j` in place. A second client that detected the same dead holder later cannot
remove the lock the first one has taken in the meantime. -/
theorem release_of_dead_lock_never_removes_live_placeholder (s : Sys) (idx : Nat) (load : Option Val) (g : G)
    (i j : Nat) (hg : s.gs[idx]? = some g) (hpc : g.pc = .freeing i) (hk : s.srv.key = some (.ph j)) (hne : j ≠ i) :
    (next s (.step idx load)).srv.key = some (.ph j) := by
  rw [freeing_key load hg hpc, hk]
  exact delkey_other (beq_eq_false_iff_ne.2 hne.symm)

/-- and it does remove the dead holder's own placeholder (the lock is released) -/
theorem release_of_dead_lock_removes_it (s : Sys) (idx : Nat) (load : Option Val) (g : G)
    (i : Nat) (hg : s.gs[idx]? = some g) (hpc : g.pc = .freeing i) (hk : s.srv.key = some (.ph i)) :
    (next s (.step idx load)).srv.key = none := by
  rw [freeing_key load hg hpc, hk, delkey, if_pos rfl]

/-- the lock holder leaves Get with an error in two ways: the loader failed (`releasing`), or the
loader succeeded and the store of its value failed on the caller's side (`storing` with the
context done). In both the step runs delkey: if the key still holds the holder's placeholder it is
removed, and the Get is finished with the error. No live client keeps a lock it does not load for. -/
theorem holder_error_exit_releases (s : Srv) (g : G) (load : Option Val)
    (hpc : g.pc = .releasing ∨ (∃ v, g.pc = .storing v ∧ g.cancelled = true))
    (hk : s.key = some (.ph g.id)) :
    (gstep s g load).1.key = none ∧ (gstep s g load).2.pc = .done .err := by
  obtain ⟨id, pc, wk, wi, canc⟩ := g
  simp only at hk
  obtain rfl | ⟨v, rfl, rfl⟩ := hpc
  · cases canc <;> simp [gstep, gstepLive, gstepCancelled, delkey, hk]
  · simp [gstep, gstepCancelled, delkey, hk]

theorem acquire_iff_absent (id : Nat) (k : Option Val) : (acquire id k).2 = none ↔ k = none := by
  cases k <;> simp [acquire]

example : (run {} [.newGet 1, .step 0 none, .step 0 none, .step 0 none, .step 0 (some (.value "v")), .step 0 none]).srv.key
    = some (.value "v") := by decide
example : touches (run {} [.newGet 1, .step 0 none, .step 0 none, .step 0 none, .newGet 2]) 1 (.step 1 none) = false := by decide

end Rv.C39
