/-
C10 — client-side cache memory stays within CacheSizeEachConn (lru.go).
Model: Rv/Model/Lru.lean (the eviction loop as repaired by the `fix:` commit in /repo:
the successor is taken before `list.Remove`).
-/
import Rv.Lemmas.LruPending
namespace Rv.C10
open Rv.Lru

/-- every `update` of a history carries a non-negative reply size (`approximateSize() ≥ 0`) -/
def NonnegSizes (ops : List Op) : Prop :=
  ∀ op ∈ ops, match op with | .update _ _ _ vsz _ => 0 ≤ vsz | _ => True

private def Nn (s : State) : Prop :=
  0 ≤ s.base ∧ (∀ e ∈ s.list, 0 ≤ contrib e) ∧ (s.closed = false → s.size ≤ s.max)

private theorem sumC_nonneg {l : List Entry} (h : ∀ e ∈ l, 0 ≤ contrib e) : 0 ≤ sumC l := by
  induction l with
  | nil => simp [sumC]
  | cons a l ih =>
    simp only [sumC]
    have := h a List.mem_cons_self
    have := ih (fun e he => h e (List.mem_cons_of_mem _ he))
    omega

private theorem nn_outcome {s s' : State} {k c : Bytes} {ttl now : Int} {r : FRes}
    (h : Nn s) (o : Outcome4 s k c ttl now s' r) : Nn s' := by
  refine ⟨o.frame.2.2.2 ▸ h.1, fun x hx => (o.mem_sub hx).elim (h.2.1 x) fun hn => hn ▸ Int.le_refl 0, ?_⟩
  cases o with
  | closed hc hs hr => exact hs ▸ h.2.2
  | found e hc hf hv hr hl hsz hn fr => rw [hsz, fr.2.2.1, fr.1]; exact h.2.2
  | expired e hc hf hv hr hl hsz hn fr =>
    intro _
    have := h.2.1 e (find?_some hf).1
    rw [contrib, not_pend_of_not_valid hv] at this
    have := h.2.2 hc
    rw [hsz, fr.2.2.1]; simp at *; omega
  | absent hc hf hr hl hsz hn fr => rw [hsz, fr.2.2.1, fr.1]; exact h.2.2

private theorem nn_flights {s : State} (h : Nn s) (now : Int) (multi : List (Bytes × Bytes × Int)) :
    Nn (flights s now multi).1 := by
  obtain ⟨hmem, hsz, -, hfr, -⟩ := flightsMid_spec s now multi
  exact flights_ind (Φ := Nn)
    ⟨hfr.2.2.2 ▸ h.1, fun x hx => h.2.1 x ((hmem x).1 hx), by rw [hsz, hfr.2.2.1, hfr.1]; exact h.2.2⟩
    fun s k c ttl h => nn_outcome h (locked_cases s k c ttl now)

private theorem sumSizes_nonneg {l : List Entry} (h : ∀ e ∈ l, 0 ≤ e.size) : 0 ≤ sumSizes l := by
  induction l with
  | nil => simp [sumSizes]
  | cons a l ih =>
    have := h a List.mem_cons_self
    have := ih (fun e he => h e (List.mem_cons_of_mem _ he))
    simp [sumSizes] at *; omega

private theorem nn_purge {s : State} (h : Nn s) (k : Bytes) : Nn (purge s k) := by
  refine ⟨h.1, ?_, ?_⟩
  · intro x hx; exact h.2.1 x (mem_purge hx).1
  · intro hc
    have hc : s.closed = false := hc
    show s.size - sumSizes (s.list.filter fun e => e.key == k && !e.pend) ≤ s.max
    have : 0 ≤ sumSizes (s.list.filter fun e => e.key == k && !e.pend) := by
      apply sumSizes_nonneg
      intro e he
      rw [List.mem_filter] at he
      have hp : e.pend = false := by have := he.2; simp at this; exact this.2
      have := h.2.1 e he.1
      simpa [contrib, hp] using this
    have := h.2.2 hc
    omega

private theorem nn_update {s : State} (h : Nn s) (hi : Inv s) (k c : Bytes) (v : Nat) (vsz raw : Int) (hv : 0 ≤ vsz) :
    Nn (update s k c v vsz raw).1 := by
  have o := update_cases s k c v vsz raw
  have hbase : (update s k c v vsz raw).1.base = s.base := (update_conf s k c v vsz raw).2.1
  have hinv := inv_update hi k c v vsz raw
  have hnn : ∀ x ∈ (update s k c v vsz raw).1.list, 0 ≤ contrib x := by
    intro x hx
    rcases update_mem hi k c v vsz raw hx with hx | ⟨e, -, rfl⟩
    · exact h.2.1 x hx.1
    · have := h.1
      have : (0 : Int) ≤ (k.length : Int) := Int.natCast_nonneg _
      have : (0 : Int) ≤ (c.length : Int) := Int.natCast_nonneg _
      simp only [contrib, updEntry]; simp; omega
  generalize (update s k c v vsz raw).1 = s' at o hbase hinv hnn
  generalize (update s k c v vsz raw).2 = p at o
  -- when the loop stops over the bound only pending entries are left, and they account for nothing
  have fits : s.closed = false → s'.closed = false → ∀ sz l, s'.list = (evictLoop s.max sz l).2.1 →
      s'.size = (evictLoop s.max sz l).1 → Nn s' := by
    intro hc hcl sz l hl hsz
    have hmx : s'.max = s.max := by
      cases o with
      | closed hc' => rw [hc] at hc'; cases hc'
      | absent _ _ hs => rw [hs]
      | fill _ _ _ _ _ _ _ _ _ hmx => exact hmx
      | stale _ _ _ _ _ _ _ _ _ hmx => exact hmx
    refine ⟨hbase ▸ h.1, hnn, fun _ => ?_⟩
    rcases evict_fits s.max sz l with hf | hf
    · rw [hsz, hmx]; exact hf
    · rw [← hl] at hf
      have hs0 : 0 ≤ s.size := by rw [hi.size hc]; exact sumC_nonneg h.2.1
      have := h.2.2 hc
      rw [hinv.size hcl, sumC_pending hf, hmx]; omega
  cases o with
  | closed hc hs hp => exact hs ▸ h
  | absent hc hf hs hp => exact hs ▸ h
  | fill e hc hf hpend hp hl hsz hd hcl hmx hn => exact fits hc hcl _ _ hl hsz
  | stale e hc hf hpend hp hl hsz hd hcl hmx hn => exact fits hc hcl _ _ hl hsz

private theorem nn_step {s : State} (h : Nn s) (hi : Inv s) (op : Op)
    (hv : match op with | .update _ _ _ vsz _ => 0 ≤ vsz | _ => True) : Nn (step s op).1 := by
  cases op with
  | flight k c ttl now => exact nn_outcome h (flight_cases s k c ttl now)
  | flights now multi => exact nn_flights h now multi
  | update k c v vsz raw => exact nn_update h hi k c v vsz raw hv
  | cancel k c err =>
    show Nn (cancel s k c err)
    rcases cancel_cases s k c err with ⟨hs, -⟩ | ⟨e, -, -, -, hs⟩ <;> rw [hs]
    · exact h
    · exact ⟨h.1, fun x hx => h.2.1 x (List.mem_of_mem_erase hx), h.2.2⟩
  | delete keys => exact delete_ind (Φ := Nn) (fun _ k h => nn_purge h k) h keys
  | close err => exact ⟨h.1, by simp [step, close], by simp [step, close]⟩
  | sethits k n => exact h

private theorem nn_run {s : State} (h : Nn s) (hi : Inv s) (ops : List Op) (hv : NonnegSizes ops) : Nn (run s ops) := by
  induction ops generalizing s with
  | nil => exact h
  | cons op rest ih =>
    exact ih (nn_step h hi op (hv op List.mem_cons_self)) (inv_step hi op)
      (fun o ho => hv o (List.mem_cons_of_mem _ ho))

/-- **Accounting.** After any history of operations on a fresh store that has not been closed, the accounted
    size equals the sum of the sizes of the completed entries retained in the recency list. -/
theorem size_eq_sum (mx base : Int) (ops : List Op) (hopen : (run (Lru.init mx base) ops).closed = false) :
    (run (Lru.init mx base) ops).size = sumC (run (Lru.init mx base) ops).list :=
  (inv_run (inv_init mx base) ops).size hopen

/-- `Close` drops list and map but leaves `c.size` as it was: the equality of `size_eq_sum` is about open
    stores only (a closed lru is never used again: see `C06.close_clears`). Concrete witness. -/
theorem size_after_close_not_reset :
    let s := run (Lru.init 1000 336) [.flight [1] [2] 1000000000 0, .update [1] [2] 7 50 0, .close 1]
    s.size = 390 ∧ s.list = [] := by decide

/-- **Bound.** For a non-negative `CacheSizeEachConn`, after every operation of any history (in particular after
    every update) the accounted size of an open store is at most the bound. -/
theorem size_le_max_after_update (mx base : Int) (hmx : 0 ≤ mx) (hbase : 0 ≤ base) (ops : List Op)
    (hv : NonnegSizes ops) (hopen : (run (Lru.init mx base) ops).closed = false) :
    (run (Lru.init mx base) ops).size ≤ mx := by
  have h0 : Nn (Lru.init mx base) := ⟨hbase, by simp [Lru.init], fun _ => hmx⟩
  have := (nn_run h0 (inv_init mx base) ops hv).2.2 hopen
  rw [run_max _ ops] at this; exact this

/-- **In-flight entries are never evicted.** Whatever the operation, a pending entry stays in the store unless the
    operation is its own `Update`/`Cancel` or `Close` — in particular the eviction loop of an `Update` for another
    command and every invalidation pass it over. -/
theorem pending_never_evicted {s : State} (hi : Inv s) {e : Entry} (he : e ∈ s.list) (hp : e.pend = true)
    (op : Op) (hno : op.resolves e.key e.cmd = false) : e ∈ (step s op).1.list :=
  pending_persists hi he hp op hno

/-- the same along any history from a fresh store -/
theorem pending_never_evicted_run (mx base : Int) (ops ops' : List Op) {e : Entry}
    (he : e ∈ (run (Lru.init mx base) ops).list) (hp : e.pend = true)
    (hno : ∀ op ∈ ops', op.resolves e.key e.cmd = false) :
    e ∈ (run (run (Lru.init mx base) ops) ops').list :=
  pending_persists_run (inv_run (inv_init mx base) ops) he hp ops' hno

/-- **Least recently used first.** What an `Update` evicts is exactly the completed entries of a prefix `pre` of
    the recency list (front = least recently used) as it stands after the reply has been written; pending entries
    of that prefix and the whole rest `suf` stay, in order; the loop stops as soon as the size fits (or the list is
    exhausted); and every eviction was necessary: before each evicted entry was reached the size still exceeded
    the bound. `l0`/`sz0` are the list and size after the in-place write. -/
theorem evicts_lru_first (s : State) (k c : Bytes) (v : Nat) (vsz raw : Int) (e : Entry)
    (hopen : s.closed = false) (hf : find? s.list k c = some e) :
    let l0 := if e.pend then s.list.replace e (updEntry s e k c v vsz raw) else s.list
    let sz0 := if e.pend then s.size + (updEntry s e k c v vsz raw).size else s.size
    let s' := (update s k c v vsz raw).1
    ∃ pre suf, l0 = pre ++ suf ∧
      s'.list = pre.filter (·.pend) ++ suf ∧
      s'.size = sz0 - sumC pre ∧
      (suf = [] ∨ s'.size ≤ s.max) ∧
      (∀ p1 x p2, pre = p1 ++ x :: p2 → sz0 - sumC p1 > s.max) := by
  intro l0 sz0 s'
  have key : s'.list = (evictLoop s.max sz0 l0).2.1 ∧ s'.size = (evictLoop s.max sz0 l0).1 := by
    cases update_cases s k c v vsz raw with
    | closed hc => rw [hc] at hopen; cases hopen
    | absent _ hf' => rw [hf'] at hf; cases hf
    | fill e' _ hf' hpend _ hl hsz =>
      rw [hf'] at hf; cases hf
      simp only [l0, sz0, hpend, if_true]; exact ⟨hl, hsz⟩
    | stale e' _ hf' hpend _ hl hsz =>
      rw [hf'] at hf; cases hf
      simp only [l0, sz0, hpend, Bool.false_eq_true, if_false]; exact ⟨hl, hsz⟩
  obtain ⟨pre, suf, h1, h2, -, h4, h5, h6⟩ := evict_prefix s.max sz0 l0
  exact ⟨pre, suf, h1, key.1.trans h2, key.2.trans h4, key.2 ▸ h5, h6⟩

/-- the witness of the repaired defect (max 1452, three small completed entries, then a large reply): the loop
    now evicts all three older entries and the size fits again (the unrepaired loop stopped after one) -/
theorem several_evictions_witness :
    let s := run (Lru.init 1452 336)
      [.flight [1] [1] 1000000000000 0, .update [1] [1] 1 50 0,
       .flight [2] [1] 1000000000000 0, .update [2] [1] 2 50 0,
       .flight [3] [1] 1000000000000 0, .update [3] [1] 3 50 0,
       .flight [4] [1] 1000000000000 0, .update [4] [1] 4 1000 0]
    s.size = 1340 ∧ s.list.map (·.id) = [3] := by decide

end Rv.C10
