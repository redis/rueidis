/-
C30 — Lua scripts run at most once per Exec.
Theorems over the model Rv.LuaExec of /repo/lua.go, for every option combination, every
key/argument list, every stored SHA-1 and **every server** (`step` is universally quantified).
-/
import Rv.Model.LuaExec
namespace Rv.C30
open Rv.LuaExec Rv.LuaExec.Spec

variable {σ : Type}

/-- the classified commands one `Exec` call sends, in order -/
def events (c : Cfg) (sha : Bytes) (k a : List Bytes) (step : σ → Cmd → σ × Reply) (s : σ) : List Ev :=
  (exec c sha k a step s).trace.map evOf

section
variable (c : Cfg) (k a : List Bytes) (step : σ → Cmd → σ × Reply)

/-- the two `if` blocks at the end of `Exec`, row by row (what they add to the trace) -/
inductive Phase (sha : Bytes) (s : σ) : Out σ → Prop
  | eval {r s'} : c.nosha = true → step s (evalCmd c k a) = (s', r) →
      Phase sha s ⟨[(evalCmd c k a, r)], .reply r, sha, s'⟩
  | nothing : c.nosha = false → sha = [] → Phase sha s ⟨[], .zero, sha, s⟩
  | evalsha {r s'} : c.nosha = false → sha ≠ [] → step s (evalshaCmd c sha k a) = (s', r) →
      isNoScript r = false → Phase sha s ⟨[(evalshaCmd c sha k a, r)], .reply r, sha, s'⟩
  | fallback {r s' r2 s2} : c.nosha = false → sha ≠ [] → step s (evalshaCmd c sha k a) = (s', r) →
      isNoScript r = true → step s' (evalCmd c k a) = (s2, r2) →
      Phase sha s ⟨[(evalshaCmd c sha k a, r), (evalCmd c k a, r2)], .reply r2, sha, s2⟩

theorem evalPhase_table (sha : Bytes) (s : σ) (tr : List (Cmd × Reply)) :
    ∃ o, Phase c k a step sha s o ∧ evalPhase c sha k a step s tr = ⟨tr ++ o.trace, o.res, o.sha, o.srv⟩ := by
  cases hn : c.nosha
  · by_cases hs : sha = []
    · exact ⟨_, .nothing hn hs, by simp [evalPhase, hn, hs]⟩
    · by_cases hr : isNoScript (step s (evalshaCmd c sha k a)).2
      · exact ⟨_, .fallback hn hs rfl hr rfl, by simp [evalPhase, hn, hs, hr]⟩
      · exact ⟨_, .evalsha hn hs rfl (Bool.eq_false_iff.2 hr), by simp [evalPhase, hn, hs, hr]⟩
  · exact ⟨_, .eval hn rfl, by simp [evalPhase, hn]⟩

/-- `Exec`, row by row -/
inductive Table (sha : Bytes) (s : σ) : Out σ → Prop
  | loadFail {r s'} : c.load = true → sha = [] → step s (loadCmd c) = (s', r) → toStr? r = none →
      Table sha s ⟨[(loadCmd c, r)], errRes r, sha, s'⟩
  | loadOk {r s' str o} : c.load = true → sha = [] → step s (loadCmd c) = (s', r) → toStr? r = some str →
      Phase c k a step str s' o → Table sha s ⟨(loadCmd c, r) :: o.trace, o.res, o.sha, o.srv⟩
  | noLoad {o} : (c.load && sha == []) = false → Phase c k a step sha s o → Table sha s o

theorem exec_table (sha : Bytes) (s : σ) :
    Table c k a step sha s (exec c sha k a step s) := by
  unfold exec
  cases hl : c.load
  · obtain ⟨o, ho, he⟩ := evalPhase_table c k a step sha s []
    exact he ▸ .noLoad (by rw [hl]; rfl) ho
  · by_cases hs : sha = []
    · simp only [hs, if_true]
      split
      · next str h =>
        obtain ⟨o, ho, he⟩ := evalPhase_table c k a step str (step s (loadCmd c)).1 [(loadCmd c, (step s (loadCmd c)).2)]
        exact he ▸ .loadOk hl rfl rfl h ho
      · next h => exact .loadFail hl rfl rfl h
    · simp only [hs, if_false, if_true]
      obtain ⟨o, ho, he⟩ := evalPhase_table c k a step sha s []
      exact he ▸ .noLoad (by rw [hl, Bool.true_and]; exact beq_eq_false_iff_ne.2 hs) ho

@[elab_as_elim] theorem exec_cases {P : Out σ → Prop} (sha : Bytes) (s : σ) (h : ∀ o, Table c k a step sha s o → P o) :
    P (exec c sha k a step s) :=
  h _ (exec_table c k a step sha s)

end

/-! #### the same table over classified commands: every row is a closed list, so a property of
the command log is checked by evaluating it on each row -/

def shaK (ro : Bool) : Kind := if ro then .evalshaRo else .evalsha
def evalK (ro : Bool) : Kind := if ro then .evalRo else .eval

inductive Body (ro : Bool) : (nosha hasSha : Bool) → List Ev → Prop
  | eval (hasSha cE) : Body ro true hasSha [⟨evalK ro, cE⟩]
  | nothing : Body ro false false []
  | evalsha : Body ro false true [⟨shaK ro, .ok⟩]
  | fallback (cE) : Body ro false true [⟨shaK ro, .noscript⟩, ⟨evalK ro, cE⟩]

inductive Log (ro nosha : Bool) : (load loaded : Bool) → List Ev → Prop
  | loadFail : Log ro nosha true false [⟨.scriptLoad, .other⟩]
  | loadEmpty {b} : Body ro nosha false b → Log ro nosha true false (⟨.scriptLoad, .empty⟩ :: b)
  | loadOk {b} : Body ro nosha true b → Log ro nosha true false (⟨.scriptLoad, .ok⟩ :: b)
  | noLoad {load loaded b} : (load && !loaded) = false → Body ro nosha loaded b → Log ro nosha load loaded b

private theorem evOf_evalsha (c : Cfg) (sha : Bytes) (k a : List Bytes) (r : Reply) :
    evOf (evalshaCmd c sha k a, r) = ⟨shaK c.ro, if isNoScript r then .noscript else .ok⟩ := by
  unfold evalshaCmd shaK; cases c.ro <;> rfl

private theorem evOf_eval (c : Cfg) (k a : List Bytes) (r : Reply) :
    evOf (evalCmd c k a, r) = ⟨evalK c.ro, if isNoScript r then .noscript else .ok⟩ := by
  unfold evalCmd evalK; cases c.ro <;> rfl

private theorem Phase.body {c : Cfg} {k a : List Bytes} {step : σ → Cmd → σ × Reply} {sha : Bytes} {s : σ}
    {o : Out σ} (h : Phase c k a step sha s o) : Body c.ro c.nosha (sha != []) (o.trace.map evOf) := by
  cases h with
  | eval hn _ =>
    rw [hn, List.map, evOf_eval]
    exact .eval ..
  | nothing hn hs =>
    subst hs
    exact hn ▸ .nothing
  | evalsha hn hs _ hr =>
    rw [hn, bne_iff_ne.2 hs, List.map, evOf_evalsha, hr]
    exact .evalsha
  | fallback hn hs _ hr _ =>
    rw [hn, bne_iff_ne.2 hs, List.map, List.map, evOf_evalsha, evOf_eval, hr]
    exact .fallback _

theorem log_table (c : Cfg) (sha : Bytes) (k a : List Bytes) (step : σ → Cmd → σ × Reply) (s : σ) :
    Log c.ro c.nosha c.load (sha != []) (events c sha k a step s) := by
  unfold events
  refine exec_cases c k a step sha s fun o h => ?_
  cases h with
  | @loadFail r _ hl hs _ hr =>
    subst hs
    rw [hl]
    cases r <;> first | exact .loadFail | cases hr
  | @loadOk r _ str _ hl hs _ hr hp =>
    subst hs
    rw [hl]
    cases r <;> cases hr
    cases str
    · exact .loadEmpty hp.body
    · exact .loadOk hp.body
  | noLoad hl hp => exact .noLoad (by rw [bne, Bool.not_not]; exact hl) hp.body

theorem Log.spec {ro nosha load loaded : Bool} {log : List Ev} (h : Log ro nosha load loaded log) :
    execOk ro nosha load loaded log = true := by
  cases h with
  | loadFail => cases ro <;> cases nosha <;> rfl
  | loadEmpty hb | loadOk hb | noLoad _ hb => cases hb <;> cases ro <;> rfl

/-- every `Exec` of the model satisfies the executable specification `Spec.execOk`, which the
`!trace` oracle lines evaluate on the real code's observed log -/
theorem exec_spec (c : Cfg) (sha : Bytes) (k a : List Bytes) (step : σ → Cmd → σ × Reply) (s : σ) :
    execOk c.ro c.nosha c.load (sha != []) (events c sha k a step s) = true :=
  (log_table c sha k a step s).spec

private theorem afterNoscript_pos (prev : Option Ev) (log : List Ev) (h : afterNoscript prev log = true)
    (pre post : List Ev) (e : Ev) (hl : log = pre ++ e :: post) (he : isEval e.kind = true) :
    (∃ pre' q, pre = pre' ++ [q] ∧ isSha q.kind = true ∧ q.cls = .noscript) ∨
    (pre = [] ∧ ∃ q, prev = some q ∧ isSha q.kind = true ∧ q.cls = .noscript) := by
  induction log generalizing prev pre with
  | nil => cases pre <;> cases hl
  | cons x rest ih =>
    simp only [afterNoscript, Bool.and_eq_true] at h
    cases pre with
    | nil =>
      cases hl
      simp only [he, if_true] at h
      cases prev with
      | none => cases h.1
      | some p => exact .inr ⟨rfl, p, rfl, by simpa using h.1⟩
    | cons y pre' =>
      cases hl
      rcases ih (some x) h.2 pre' rfl with ⟨p2, q, rfl, hq⟩ | ⟨rfl, q, hq, hq2⟩
      · exact .inl ⟨x :: p2, q, rfl, hq⟩
      · cases hq
        exact .inl ⟨[], x, rfl, hq2⟩

/-- NoSha scripts never send EVALSHA / EVALSHA_RO -/
theorem nosha_never_evalsha (c : Cfg) (sha : Bytes) (k a : List Bytes) (step : σ → Cmd → σ × Reply)
    (s : σ) (h : c.nosha = true) : ∀ e ∈ events c sha k a step s, isSha e.kind = false := by
  have := exec_spec c sha k a step s
  simp only [execOk, h, Bool.not_true, Bool.false_or, Bool.and_eq_true, List.all_eq_true] at this
  intro e he
  simpa using this.1.1.1.1 e he

/-- read-only scripts only use EVALSHA_RO / EVAL_RO, the others only EVALSHA / EVAL
    (SCRIPT LOAD aside) -/
theorem ro_uses_ro_commands (c : Cfg) (sha : Bytes) (k a : List Bytes) (step : σ → Cmd → σ × Reply)
    (s : σ) : ∀ e ∈ events c sha k a step s, e.kind = .scriptLoad ∨
      (if c.ro then e.kind = .evalshaRo ∨ e.kind = .evalRo else e.kind = .evalsha ∨ e.kind = .eval) := by
  have := exec_spec c sha k a step s
  simp only [execOk, Bool.and_eq_true, List.all_eq_true] at this
  intro e he
  have h := this.1.1.1.2 e he
  cases hro : c.ro <;> simp [roOk, hro] at h ⊢ <;> exact h

/-- EVAL / EVAL_RO is sent only directly after an EVALSHA / EVALSHA_RO that was answered NOSCRIPT -/
theorem eval_only_after_noscript (c : Cfg) (sha : Bytes) (k a : List Bytes) (step : σ → Cmd → σ × Reply)
    (s : σ) (h : c.nosha = false) (pre post : List Ev) (e : Ev)
    (hl : events c sha k a step s = pre ++ e :: post) (he : isEval e.kind = true) :
    ∃ pre' q, pre = pre' ++ [q] ∧ isSha q.kind = true ∧ q.cls = .noscript := by
  have := exec_spec c sha k a step s
  simp only [execOk, h, Bool.false_or, Bool.and_eq_true] at this
  rcases afterNoscript_pos none _ this.1.1.2 pre post e hl he with h1 | ⟨_, q, hq, _⟩
  · exact h1
  · simp at hq

private theorem Log.sha_first {ro load loaded : Bool} {log : List Ev} (h : Log ro false load loaded log) :
    log.any (fun e => isEval e.kind) = log.any (fun e => isSha e.kind && e.cls == .noscript) ∧
    ∀ e, log.find? (fun e => isSha e.kind || isEval e.kind) = some e → isSha e.kind = true := by
  cases h with
  | loadFail => exact ⟨rfl, nofun⟩
  | loadEmpty hb | loadOk hb | noLoad _ hb =>
    cases hb <;> cases ro <;> exact ⟨rfl, fun e he => by cases he <;> rfl⟩

/-- … and conversely: EVAL is sent iff some EVALSHA was answered NOSCRIPT -/
theorem eval_iff_noscript (c : Cfg) (sha : Bytes) (k a : List Bytes) (step : σ → Cmd → σ × Reply)
    (s : σ) (h : c.nosha = false) :
    (events c sha k a step s).any (fun e => isEval e.kind) =
    (events c sha k a step s).any (fun e => isSha e.kind && e.cls == .noscript) :=
  (h ▸ log_table c sha k a step s).sha_first.1

/-- unless NoSha, the first EVAL-family command of a call is EVALSHA / EVALSHA_RO -/
theorem evalsha_first (c : Cfg) (sha : Bytes) (k a : List Bytes) (step : σ → Cmd → σ × Reply)
    (s : σ) (h : c.nosha = false) :
    ∀ e, (events c sha k a step s).find? (fun e => isSha e.kind || isEval e.kind) = some e →
      isSha e.kind = true :=
  (h ▸ log_table c sha k a step s).sha_first.2

/-- at most one command of a call makes the server run the script body (every EVAL, and every
    EVALSHA not refused with NOSCRIPT — a lost reply counts as run) -/
theorem body_at_most_once (c : Cfg) (sha : Bytes) (k a : List Bytes) (step : σ → Cmd → σ × Reply)
    (s : σ) : ((events c sha k a step s).filter ranBody).length ≤ 1 := by
  have := exec_spec c sha k a step s
  simp only [execOk, Bool.and_eq_true, decide_eq_true_eq] at this
  exact this.1.2

/-- the trace really is a run of the server, ending in the returned server state -/
inductive Run (step : σ → Cmd → σ × Reply) : σ → List (Cmd × Reply) → σ → Prop
  | nil (s : σ) : Run step s [] s
  | cons {s : σ} {cmd : Cmd} {tr : List (Cmd × Reply)} {s'' : σ} :
      Run step (step s cmd).1 tr s'' → Run step s ((cmd, (step s cmd).2) :: tr) s''

private theorem Run.step {step : σ → Cmd → σ × Reply} {s s' s'' : σ} {cmd : Cmd} {r : Reply} {tr : List (Cmd × Reply)}
    (h : step s cmd = (s', r)) (t : Run step s' tr s'') : Run step s ((cmd, r) :: tr) s'' := by
  have := Run.cons (step := step) (s := s) (cmd := cmd) (tr := tr) (s'' := s'')
  rw [h] at this
  exact this t

private theorem Phase.run {c : Cfg} {k a : List Bytes} {step : σ → Cmd → σ × Reply} {sha : Bytes} {s : σ}
    {o : Out σ} (h : Phase c k a step sha s o) : Run step s o.trace o.srv := by
  cases h with
  | eval _ h1 => exact .step h1 (.nil _)
  | nothing => exact .nil _
  | evalsha _ _ h1 _ => exact .step h1 (.nil _)
  | fallback _ _ h1 _ h2 => exact .step h1 (.step h2 (.nil _))

theorem exec_run (c : Cfg) (sha : Bytes) (k a : List Bytes) (step : σ → Cmd → σ × Reply) (s : σ) :
    Run step s (exec c sha k a step s).trace (exec c sha k a step s).srv := by
  refine exec_cases c k a step sha s fun o h => ?_
  cases h with
  | loadFail _ _ h1 _ => exact .step h1 (.nil _)
  | loadOk _ _ h1 _ hp => exact .step h1 hp.run
  | noLoad _ hp => exact hp.run

inductive Fault | none | before | after
  deriving DecidableEq, Repr

/-- a script cache: knows the script or not, counts body executions; `faults` says for each
    successive command whether it is lost before the server sees it or its reply is lost -/
structure Srv where
  known : Bool
  runs : Nat
  faults : List Fault

/-- "NOSCRIPT No": the beginning of the server's error text -/
def noscriptText : Bytes := NOSCRIPT ++ [32, 78, 111]

/-- `truth`: the SHA-1 under which the server caches the script; `v`: the body's value. The texts of
    the two transport errors are only tags: `[98]` = "b" (request lost before the server), `[97]` = "a"
    (reply lost after it) -/
def srvStep (truth : Bytes) (v : Reply) (s : Srv) (cmd : Cmd) : Srv × Reply :=
  let f := s.faults.headD .none
  let s0 := { s with faults := s.faults.tail }
  if f = .before then (s0, .io [98]) else
  let p : Srv × Reply := match cmd.kind with
    | .scriptLoad => ({ s0 with known := true }, .str truth)
    | .evalsha | .evalshaRo =>
      if s0.known && cmd.args.head? == some truth then ({ s0 with runs := s0.runs + 1 }, v)
      else (s0, .rerr noscriptText)
    | .eval | .evalRo => ({ s0 with known := true, runs := s0.runs + 1 }, v)
  if f = .after then (p.1, .io [97]) else p

private theorem noscript_is : isNoScript (.rerr noscriptText) = true := by decide

private theorem ranBody_of {cmd : Cmd} {r : Reply} (hk : cmd.kind ≠ .scriptLoad) (hr : isNoScript r = false) :
    ranBody (evOf (cmd, r)) = true := by
  cases hc : cmd.kind <;> simp_all [ranBody, evOf, clsOf, isSha, isEval]

private theorem srvStep_runs (truth : Bytes) (v : Reply) (hv : isNoScript v = false) (s : Srv) (cmd : Cmd) :
    (srvStep truth v s cmd).1.runs ≤
      s.runs + (if ranBody (evOf (cmd, (srvStep truth v s cmd).2)) then 1 else 0) := by
  unfold srvStep
  by_cases hc : (s.known && cmd.args.head? == some truth) = true <;>
    cases hf : s.faults.headD .none <;> cases hk : cmd.kind <;>
    simp only [hc, reduceCtorEq, if_false, if_true]
  -- either the counter has not moved, or a script command was answered `v` or, the reply lost,
  -- by a transport error, neither of which is NOSCRIPT
  all_goals first
    | exact Nat.le_add_right ..
    | rw [ranBody_of (by rw [hk]; nofun) (by first | exact hv | rfl)]; exact Nat.le_refl _

private theorem run_bound {step : Srv → Cmd → Srv × Reply} {s s' : Srv} {tr : List (Cmd × Reply)} (h : Run step s tr s')
    (hb : ∀ s cmd s' r, (cmd, r) ∈ tr → step s cmd = (s', r) →
      s'.runs ≤ s.runs + (if ranBody (evOf (cmd, r)) then 1 else 0)) :
    s'.runs ≤ s.runs + ((tr.map evOf).filter ranBody).length := by
  induction h with
  | nil s => exact Nat.le_add_right ..
  | cons _ ih =>
    have h1 := hb _ _ _ _ List.mem_cons_self rfl
    have h2 := ih fun s cmd s' r hm => hb s cmd s' r (List.mem_cons_of_mem _ hm)
    rw [List.map_cons, List.filter_cons]
    split
    · next h => rw [if_pos h] at h1; rw [List.length_cons]; omega
    · next h => rw [if_neg h] at h1; omega

/-- against a script cache in any state (script known or flushed), with any pattern of lost
    requests and lost replies, one `Exec` makes the server run the body at most once — provided
    the body's own result `v` is not itself an error reply that starts with NOSCRIPT -/
theorem at_most_once_faithful (c : Cfg) (sha : Bytes) (k a : List Bytes) (truth : Bytes) (v : Reply)
    (hv : isNoScript v = false) (s : Srv) :
    (exec c sha k a (srvStep truth v) s).srv.runs ≤ s.runs + 1 := by
  have h1 := run_bound (exec_run c sha k a (srvStep truth v) s) fun s cmd s' r _ h => by
    have := srvStep_runs truth v hv s cmd
    rwa [h] at this
  have h2 := body_at_most_once c sha k a (srvStep truth v) s
  unfold events at h2
  omega

def isIo : Reply → Bool
  | .io _ => true
  | _ => false

/-- a client with retries enabled (every rueidis client by default): a command tagged
    retryable that fails with a transport error is silently sent again, at most `n` times -/
def resend (n : Nat) (step : σ → Cmd → σ × Reply) (s : σ) (cmd : Cmd) : σ × Reply :=
  match n with
  | 0 => step s cmd
  | n + 1 =>
    let p := step s cmd
    if cmd.retry && isIo p.2 then resend n step p.1 cmd else p

/-- a script that is neither read-only nor from a *Retryable constructor never tags a script
    command retryable — neither the EVALSHA nor the EVAL fallback after NOSCRIPT; only
    SCRIPT LOAD (which runs nothing) is -/
theorem untagged_unless_opted_in (c : Cfg) (sha : Bytes) (k a : List Bytes) (step : σ → Cmd → σ × Reply)
    (s : σ) (hro : c.ro = false) (hr : c.retry = false) :
    ∀ p ∈ (exec c sha k a step s).trace, p.1.kind = .scriptLoad ∨ p.1.retry = false := by
  have hs : ∀ sha, (evalshaCmd c sha k a).retry = false := fun _ => by rw [evalshaCmd, hro]; exact hr
  have he : (evalCmd c k a).retry = false := by rw [evalCmd, hro]; exact hr
  have phase : ∀ {sha s o}, Phase c k a step sha s o → ∀ p ∈ o.trace, p.1.kind = .scriptLoad ∨ p.1.retry = false := by
    intro sha s o h
    cases h <;> simp [hs, he]
  refine exec_cases c k a step sha s fun o h => ?_
  cases h with
  | loadFail => exact List.forall_mem_singleton.2 (.inl rfl)
  | loadOk _ _ _ _ hp => exact List.forall_mem_cons.2 ⟨.inl rfl, phase hp⟩
  | noLoad _ hp => exact phase hp

private theorem resend_untagged (n : Nat) (step : σ → Cmd → σ × Reply) (s : σ) (cmd : Cmd)
    (h : cmd.retry = false) : resend n step s cmd = step s cmd := by
  cases n <;> simp [resend, h]

private theorem resend_load_runs (truth : Bytes) (v : Reply) (n : Nat) (s : Srv) (cmd : Cmd)
    (h : cmd.kind = .scriptLoad) : (resend n (srvStep truth v) s cmd).1.runs = s.runs := by
  have hstep : ∀ s : Srv, (srvStep truth v s cmd).1.runs = s.runs := by
    intro s
    unfold srvStep
    cases hf : s.faults.headD .none <;> simp [h]
  induction n generalizing s with
  | zero => simpa [resend] using hstep s
  | succ n ih =>
    simp only [resend]
    split
    · rw [ih, hstep]
    · exact hstep s

/-- the same bound when the client re-sends retryable-tagged commands after transport errors
    (any number of times, any pattern of lost requests and lost replies): a script that is neither
    read-only nor created by a *Retryable constructor is run at most once per `Exec`. This is
    what the `!exec` oracle lines judge on the real code (`Spec.bodyRunsOk`). -/
theorem at_most_once_resend (c : Cfg) (sha : Bytes) (k a : List Bytes) (truth : Bytes) (v : Reply)
    (hv : isNoScript v = false) (n : Nat) (s : Srv) (hro : c.ro = false) (hr : c.retry = false) :
    bodyRunsOk c.ro c.retry true
      ((exec c sha k a (resend n (srvStep truth v)) s).srv.runs - s.runs) = true := by
  have h1 := run_bound (exec_run c sha k a (resend n (srvStep truth v)) s) fun s cmd s' r hm h => by
    -- a re-sent SCRIPT LOAD runs nothing, and the script commands are not re-sent
    rcases untagged_unless_opted_in c sha k a _ _ hro hr _ hm with hk | hr
    · have := resend_load_runs truth v n s cmd hk
      rw [h] at this
      exact this ▸ Nat.le_add_right ..
    · rw [resend_untagged n _ s cmd hr] at h
      have := srvStep_runs truth v hv s cmd
      rwa [h] at this
  have h2 := body_at_most_once c sha k a (resend n (srvStep truth v)) s
  unfold events at h2
  simp only [bodyRunsOk, Bool.or_eq_true, decide_eq_true_eq]
  left; omega

/-- the opt-in is real: a retryable script whose EVALSHA reply is lost is run again by the re-send
    (`Cfg` fields in order: ro, nosha, load, retry, script, sha) -/
example : (exec ⟨false, false, false, true, [1], [2]⟩ [2] [] [] (resend 1 (srvStep [2] (.int 1)))
    ⟨true, 0, [.after]⟩).srv.runs = 2 := by decide

/-- the hypothesis `hv` is needed: a script whose body *returns* an error starting with NOSCRIPT
    (`return redis.error_reply('NOSCRIPT …')`) is run by EVALSHA and then again by the EVAL
    fallback, because the client cannot tell the two NOSCRIPT answers apart -/
theorem body_returning_noscript_runs_twice :
    (exec ⟨false, false, false, false, [1], [2]⟩ [2] [] [] (srvStep [2] (.rerr NOSCRIPT)) ⟨true, 0, []⟩).srv.runs = 2 := by
  decide

/-- non-vacuity: a known script runs exactly once through EVALSHA, a flushed one exactly once
    through the EVAL fallback -/
example : (exec ⟨false, false, false, false, [1], [2]⟩ [2] [] [] (srvStep [2] (.int 1)) ⟨true, 0, []⟩).srv.runs = 1 := by
  decide
example : (exec ⟨false, false, false, false, [1], [2]⟩ [2] [] [] (srvStep [2] (.int 1)) ⟨false, 0, []⟩).srv.runs = 1
    ∧ ((exec ⟨false, false, false, false, [1], [2]⟩ [2] [] [] (srvStep [2] (.int 1)) ⟨false, 0, []⟩).trace.map (·.1.kind))
      = [.evalsha, .eval] := by
  decide

private theorem Log.loads {ro nosha load loaded : Bool} {log : List Ev} (h : Log ro nosha load loaded log) :
    (log.filter (fun e => e.kind == .scriptLoad)).length = (if load && !loaded then 1 else 0) ∧
    (load = true → loaded = false → log.head?.map (·.kind) = some .scriptLoad) := by
  cases h with
  | loadFail => exact ⟨rfl, fun _ _ => rfl⟩
  | loadEmpty hb | loadOk hb => cases hb <;> cases ro <;> exact ⟨rfl, fun _ _ => rfl⟩
  | noLoad hl hb =>
    rw [hl]
    refine ⟨?_, fun h1 h2 => by rw [h1, h2] at hl; cases hl⟩
    cases hb <;> cases ro <;> rfl

/-- one caller: SCRIPT LOAD is sent iff the script has the load option and no SHA-1 yet; it is
    then the first command, and the only SCRIPT LOAD of the call -/
theorem load_only_when_unloaded (c : Cfg) (sha : Bytes) (k a : List Bytes) (step : σ → Cmd → σ × Reply)
    (s : σ) :
    ((events c sha k a step s).filter (fun e => e.kind == .scriptLoad)).length =
      (if c.load && sha == [] then 1 else 0) ∧
    (c.load = true → sha = [] → ((events c sha k a step s).head?.map (·.kind)) = some .scriptLoad) := by
  have h := (log_table c sha k a step s).loads
  rw [bne, Bool.not_not] at h
  exact ⟨h.1, fun h1 h2 => h.2 h1 (by rw [h2]; rfl)⟩

/-- one caller: a stored SHA-1 is never dropped or replaced; a SCRIPT LOAD answered with a string
    stores that string; a failed one stores nothing and the call returns its error without
    sending anything else -/
theorem load_result (c : Cfg) (sha : Bytes) (k a : List Bytes) (step : σ → Cmd → σ × Reply) (s : σ) :
    (sha ≠ [] → (exec c sha k a step s).sha = sha) ∧
    (c.load = false → (exec c sha k a step s).sha = sha) ∧
    (c.load = true → sha = [] →
      match toStr? (step s (loadCmd c)).2 with
      | some str => (exec c sha k a step s).sha = str
      | none => (exec c sha k a step s).sha = [] ∧
                (exec c sha k a step s).trace = [(loadCmd c, (step s (loadCmd c)).2)] ∧
                (exec c sha k a step s).res = errRes (step s (loadCmd c)).2) := by
  have sha_eq : ∀ {sha s o}, Phase c k a step sha s o → o.sha = sha := fun h => by cases h <;> rfl
  refine exec_cases c k a step sha s fun o h => ?_
  cases h with
  | loadFail _ hs h1 hr =>
    refine ⟨fun _ => rfl, fun _ => rfl, fun _ _ => ?_⟩
    simp only [h1, hr, and_true]
    exact hs
  | loadOk hl hs h1 hr hp =>
    refine ⟨fun h => absurd hs h, fun h => Bool.noConfusion (hl.symm.trans h), fun _ _ => ?_⟩
    simp only [h1, hr]
    exact sha_eq hp
  | noLoad hl hp =>
    refine ⟨fun _ => sha_eq hp, fun _ => sha_eq hp, fun h1 h2 => ?_⟩
    rw [h1, h2] at hl
    cases hl

/-- invariant of the lock protocol: a good SCRIPT LOAD answer in the log means the SHA-1 is set -/
private theorem reach_inv (σs : Sys) (h : Reach σs) : (∃ r ∈ σs.loads, goodLoad r) → σs.sha ≠ [] := by
  induction h with
  | init pc hpc => simp
  | @step σ0 τ hr hs ih =>
    cases hs with
    | read i hp => exact ih
    | hit i hp hne => exact ih
    | load i r hp he =>
      intro ⟨r', hm, hg⟩
      have hm' : r' ∈ σ0.loads ++ [r] := by cases hr' : toStr? r <;> simp only [hr'] at hm <;> exact hm
      rcases List.mem_append.1 hm' with hm | hm
      · exact absurd he (ih ⟨r', hm, hg⟩)
      · -- the load just answered is the good one: its string is the SHA-1 now stored
        cases List.mem_singleton.1 hm
        obtain ⟨s', hs', hne⟩ := hg
        simp only [hs']
        exact hne
    | multi s' =>
      intro hx
      have := ih hx
      simp [this]

/-- any number of concurrent `Exec` calls (and `ExecMulti` calls storing a SHA-1), any
    interleaving of their lock sections, any server answers: once a SCRIPT LOAD issued by
    `Exec` has returned a non-empty SHA-1, no `Exec` issues another SCRIPT LOAD — every load
    answer except the last one in the log is a failure (or an empty string) -/
theorem load_until_success (σs : Sys) (h : Reach σs) (pre post : List Reply) (r : Reply)
    (hl : σs.loads = pre ++ r :: post) (hg : goodLoad r) : post = [] := by
  induction h generalizing pre post r with
  | init pc hpc => simp at hl
  | @step σ0 τ hr hs ih =>
    cases hs with
    | read i hp => exact ih pre post r hl hg
    | hit i hp hne => exact ih pre post r hl hg
    | multi s' => exact ih pre post r hl hg
    | load i r' hp he =>
      have hloads : σ0.loads ++ [r'] = pre ++ r :: post := by
        cases hr' : toStr? r' <;> simp only [hr'] at hl <;> exact hl
      rcases List.eq_nil_or_concat post with rfl | ⟨post', x, rfl⟩
      · rfl
      · have : σ0.loads ++ [r'] = (pre ++ r :: post') ++ [x] := by simp [hloads]
        have h2 := List.append_inj' this rfl
        have hmem : r ∈ σ0.loads := by rw [h2.1]; simp
        exact absurd he (reach_inv σ0 hr ⟨r, hmem, hg⟩)

/-- non-vacuity: two concurrent callers, the first load fails, the second succeeds -/
example : ∃ σs, Reach σs ∧ σs.loads = [.io [1], .str [7]] ∧ σs.sha = [7] := by
  let pc0 : Nat → Pc := fun _ => .start
  have r0 : Reach ⟨[], pc0, []⟩ := Reach.init pc0 (fun _ => rfl)
  have r1 := Reach.step r0 (Step.read _ 0 rfl)
  have r2 := Reach.step r1 (Step.read _ 1 (by simp [setPc, pc0]))
  have r3 := Reach.step r2 (Step.load _ 0 (.io [1]) (by simp [setPc]) rfl)
  have r4 := Reach.step r3 (Step.load _ 1 (.str [7]) (by simp [setPc, toStr?]) (by simp [toStr?]))
  exact ⟨_, r4, by simp [toStr?], by simp [toStr?]⟩

/-- ExecMulti first sends SCRIPT LOAD (retryable) to every node — unless NoSha, then to none -/
theorem execmulti_loads_every_node (c : Cfg) (sha : Bytes) (nodes : List Reply)
    (multi : List (List Bytes × List Bytes)) (answer : List Cmd → List Reply) :
    (execMulti c sha nodes multi answer).nodeCmds =
      if c.nosha then [] else nodes.map (fun _ => loadCmd c) := by
  unfold execMulti
  cases c.nosha <;> simp
  split <;> simp

/-- if a node's SCRIPT LOAD fails, no script command is sent at all and every LuaExec gets
    (one of) the failing nodes' error -/
theorem execmulti_load_failure (c : Cfg) (sha : Bytes) (nodes : List Reply)
    (multi : List (List Bytes × List Bytes)) (answer : List Cmd → List Reply)
    (hn : c.nosha = false) (e : Res) (he : nodes.findSome? replyErr? = some e) :
    (execMulti c sha nodes multi answer).batch = none ∧
    (execMulti c sha nodes multi answer).res = multi.map (fun _ => e) ∧
    (execMulti c sha nodes multi answer).sha = sha ∧
    ∃ r ∈ nodes, replyErr? r = some e := by
  unfold execMulti
  simp only [hn, Bool.not_false, if_true, he]
  exact ⟨trivial, trivial, trivial, List.exists_of_findSome?_eq_some he⟩

/-- otherwise exactly one batch is sent, with one command per LuaExec in order, carrying that
    LuaExec's keys and arguments (EVALSHA-family iff a SHA-1 is available and not NoSha, never a
    fallback EVAL afterwards), and — the client answering one reply per command — the results
    are those replies in the same order: one result per LuaExec -/
theorem execmulti_positional (c : Cfg) (sha : Bytes) (nodes : List Reply)
    (multi : List (List Bytes × List Bytes)) (answer : List Cmd → List Reply)
    (hlen : ∀ cmds, (answer cmds).length = cmds.length)
    (hok : c.nosha = true ∨ nodes.findSome? replyErr? = none) :
    ∃ cmds, (execMulti c sha nodes multi answer).batch = some cmds ∧
      cmds.length = multi.length ∧
      (execMulti c sha nodes multi answer).res = (answer cmds).map .reply ∧
      (execMulti c sha nodes multi answer).res.length = multi.length ∧
      ∀ i (hi : i < multi.length), ∃ (hc : i < cmds.length) (w : Bytes),
        cmds[i].args = w :: natBytes multi[i].1.length :: (multi[i].1 ++ multi[i].2) ∧
        (isSha cmds[i].kind = true ∨ isEval cmds[i].kind = true) := by
  have hb : ∃ sha', (execMulti c sha nodes multi answer).batch = some (multiCmds c sha' multi) ∧
      (execMulti c sha nodes multi answer).res = (answer (multiCmds c sha' multi)).map .reply := by
    unfold execMulti
    cases hn : c.nosha
    · have hf : nodes.findSome? replyErr? = none := hok.resolve_left (by simp [hn])
      simp only [Bool.not_false, if_true, hf]
      exact ⟨_, rfl, rfl⟩
    · exact ⟨_, rfl, rfl⟩
  obtain ⟨sha', hb, hr⟩ := hb
  have hl : (multiCmds c sha' multi).length = multi.length := by simp [multiCmds]
  refine ⟨_, hb, hl, hr, by rw [hr, List.length_map, hlen, hl], fun i hi => ⟨hl ▸ hi, ?_⟩⟩
  simp only [multiCmds, List.getElem_map]
  split <;> simp only [evalshaCmd, evalCmd] <;> split <;> simp [isSha, isEval]

/-- with WithLoadSHA1, ExecMulti adopts a SHA-1 returned by a node only while none is stored -/
theorem execmulti_sha (c : Cfg) (sha : Bytes) (nodes : List Reply)
    (multi : List (List Bytes × List Bytes)) (answer : List Cmd → List Reply) :
    (sha ≠ [] ∨ c.load = false ∨ c.nosha = true → (execMulti c sha nodes multi answer).sha = sha) ∧
    ((execMulti c sha nodes multi answer).sha ≠ sha →
      ∃ r ∈ nodes, toStr? r = some (execMulti c sha nodes multi answer).sha) := by
  -- by cases on the options: the SHA-1 changes only in the branch that adopts a node's string,
  -- which is taken only with WithLoadSHA1, not NoSha, and no SHA-1 stored
  unfold execMulti
  cases hn : c.nosha <;> cases hl : c.load <;> by_cases hs : sha = [] <;> simp [hs] <;>
    (repeat' split) <;> simp_all
  all_goals
    rename_i s hsome
    obtain ⟨r, hr, h⟩ := List.exists_of_findSome?_eq_some hsome
    intro _
    exact ⟨r, hr, h⟩

end Rv.C30
