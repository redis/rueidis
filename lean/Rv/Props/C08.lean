/-
C08 — distinct cacheable commands never share a cache entry.
Model: Rv/Model/CacheKey.lean (cmds.CacheKey / MGetCacheCmd / MGetCacheKey, adapter address key++cmd).

The full statement is FALSE on the unchanged tree (the derived command is the plain concatenation
of the tokens, without separators or lengths): the negations are proved below with concrete
witnesses; what does hold is proved as `…_partial` theorems.
-/
import Rv.Model.CacheKey
namespace Rv.C08
open Rv Rv.CacheKey

abbrev Argv := List (List UInt8)

/-- position of the key the code uses for an argv -/
def kpOf (scrRo : Bool) (s : Argv) : Nat := if s.length = 2 then 1 else if scrRo then 3 else 1

/-- whenever `CacheKey` returns, it returns the token at `kpOf` and the concatenation of the others -/
theorem cacheKey_ok (scrRo : Bool) (s : Argv) (r : List UInt8 × List UInt8) (h : cacheKey scrRo s = .ok r) :
    r = (keyOf (kpOf scrRo s) s, cmdOf (kpOf scrRo s) s) := by
  match s, h with
  | [], h => cases scrRo <;> simp [cacheKey] at h; simp [kpOf, h]
  | [a], h => cases scrRo <;> simp [cacheKey] at h; simp [kpOf, h]
  | [a, c], h =>
    simp only [cacheKey, Res.ok.injEq] at h
    subst h; simp [kpOf, keyOf, cmdOf]
  | a :: c :: d :: t, h =>
    cases scrRo
    · simp only [cacheKey, Bool.false_eq_true, if_false, Res.ok.injEq] at h
      subst h; simp [kpOf]
    · simp only [cacheKey, if_true] at h
      simp only [List.getElem?_cons_succ, List.getElem?_cons_zero] at h
      split at h
      · simp only [Res.ok.injEq] at h; subst h; simp [kpOf]
      · cases h

/-- **full statement** for the built-in store (entries addressed by the pair `CacheKey` returns):
    two cacheable commands (at least a command token and a key) with the same cache identity are the
    same command -/
def CacheKeyInjective : Prop :=
  ∀ (scr scr' : Bool) (s s' : Argv) (r : List UInt8 × List UInt8), 2 ≤ s.length → 2 ≤ s'.length →
    cacheKey scr s = .ok r → cacheKey scr' s' = .ok r → s = s'

/-- **full statement** for NewSimpleCacheAdapter stores (entries addressed by `key ++ cmd`) -/
def AdapterAddrInjective : Prop :=
  ∀ (scr scr' : Bool) (s s' : Argv) (k c k' c' : List UInt8), 2 ≤ s.length → 2 ≤ s'.length →
    cacheKey scr s = .ok (k, c) → cacheKey scr' s' = .ok (k', c') → adapterAddr k c = adapterAddr k' c' → s = s'

/-- witness 1 (digit/boundary split between adjacent arguments):
    `GETRANGE k 1 23` and `GETRANGE k 12 3` are both ("k", "GETRANGE123") -/
theorem collision_getrange :
    cacheKey false [b "GETRANGE", b "k", b "1", b "23"] = .ok (b "k", b "GETRANGE123") ∧
    cacheKey false [b "GETRANGE", b "k", b "12", b "3"] = .ok (b "k", b "GETRANGE123") ∧
    [b "GETRANGE", b "k", b "1", b "23"] ≠ [b "GETRANGE", b "k", b "12", b "3"] := by
  refine ⟨rfl, rfl, by decide⟩

/-- witness 2 (command token / argument merge): `HGET k ALL` and `HGETALL k` are both ("k", "HGETALL") -/
theorem collision_hget_all :
    cacheKey false [b "HGET", b "k", b "ALL"] = .ok (b "k", b "HGETALL") ∧
    cacheKey false [b "HGETALL", b "k"] = .ok (b "k", b "HGETALL") ∧
    [b "HGET", b "k", b "ALL"] ≠ [b "HGETALL", b "k"] := by
  refine ⟨rfl, rfl, by decide⟩

/-- witness 3 (adapter key/command boundary): `HGET x GET` is ("x", "HGETGET"), `GET xHGET` is
    ("xHGET", "GET") — different identities, the same adapter address "xHGETGET" -/
theorem collision_adapter :
    cacheKey false [b "HGET", b "x", b "GET"] = .ok (b "x", b "HGETGET") ∧
    cacheKey false [b "GET", b "xHGET"] = .ok (b "xHGET", b "GET") ∧
    (b "x", b "HGETGET") ≠ (b "xHGET", b "GET") ∧
    adapterAddr (b "x") (b "HGETGET") = adapterAddr (b "xHGET") (b "GET") := by
  refine ⟨rfl, rfl, by decide, by decide⟩

/-- witness 4: the same boundary split exists for read-only scripts (key at position 3):
    `EVAL_RO x1 1 k` and `EVAL_RO x 1 k 1` are both ("k", "EVAL_ROx11") -/
theorem collision_script :
    cacheKey true [b "EVAL_RO", b "x1", b "1", b "k"] = .ok (b "k", b "EVAL_ROx11") ∧
    cacheKey true [b "EVAL_RO", b "x", b "1", b "k", b "1"] = .ok (b "k", b "EVAL_ROx11") := by
  exact ⟨rfl, rfl⟩

/-- the full statement does not hold for the code as it is -/
theorem cacheKey_not_injective : ¬ CacheKeyInjective := by
  intro h
  obtain ⟨h1, h2, hne⟩ := collision_getrange
  exact hne (h false false _ _ _ (by decide) (by decide) h1 h2)

/-- … and neither does it for adapter stores, even for commands whose identities differ -/
theorem adapter_not_injective : ¬ AdapterAddrInjective := by
  intro h
  obtain ⟨h1, h2, _, ha⟩ := collision_adapter
  have := h false false _ _ _ _ _ _ (by decide) (by decide) h1 h2 ha
  revert this; decide

private theorem flatten_inj (xs ys : Argv) (hl : xs.map List.length = ys.map List.length)
    (hf : xs.flatten = ys.flatten) : xs = ys := by
  induction xs generalizing ys with
  | nil => cases ys with
    | nil => rfl
    | cons y ys => simp at hl
  | cons x xs ih => cases ys with
    | nil => simp at hl
    | cons y ys =>
      simp only [List.map_cons, List.cons.injEq] at hl
      simp only [List.flatten_cons] at hf
      obtain ⟨h1, h2⟩ := List.append_inj hf hl.1
      rw [h1, ih ys hl.2 h2]

private theorem eraseIdx_getD_inj (k : Nat) : ∀ (s s' : Argv), s.length = s'.length →
    s.eraseIdx k = s'.eraseIdx k → s.getD k [] = s'.getD k [] → s = s' := by
  induction k with
  | zero =>
    intro s s' hl he hg
    cases s <;> cases s' <;> simp_all
  | succ k ih =>
    intro s s' hl he hg
    cases s with
    | nil => cases s' with
      | nil => rfl
      | cons y ys => simp at hl
    | cons x xs => cases s' with
      | nil => simp at hl
      | cons y ys =>
        simp only [List.eraseIdx_cons_succ, List.cons.injEq] at he
        simp only [List.getD_cons_succ] at hg
        simp only [List.length_cons, Nat.add_right_cancel_iff] at hl
        rw [he.1, ih xs ys hl he.2 hg]

private theorem map_length_eraseIdx (k : Nat) (s s' : Argv) (h : s.map List.length = s'.map List.length) :
    (s.eraseIdx k).map List.length = (s'.eraseIdx k).map List.length := by
  simp only [List.eraseIdx_eq_take_drop_succ, List.map_append, List.map_take, List.map_drop, h]

/-- **partial 1 (fixed-width arguments).** Two commands of the same kind whose corresponding tokens
    have equal lengths (e.g. the same command with fixed-width arguments, or any two commands that
    differ only in the *content* of tokens) never share a cache identity: no token boundary can move. -/
theorem cacheKey_injective_partial (scr : Bool) (s s' : Argv) (r : List UInt8 × List UInt8)
    (hl : s.map List.length = s'.map List.length)
    (h : cacheKey scr s = .ok r) (h' : cacheKey scr s' = .ok r) : s = s' := by
  have hlen : s.length = s'.length := by simpa using congrArg List.length hl
  have e := cacheKey_ok scr s r h
  have e' := cacheKey_ok scr s' r h'
  have hkp : kpOf scr s' = kpOf scr s := by simp [kpOf, hlen]
  rw [hkp] at e'
  rw [e] at e'
  simp only [Prod.mk.injEq, keyOf, cmdOf] at e'
  exact eraseIdx_getD_inj _ s s' hlen
    (flatten_inj _ _ (map_length_eraseIdx _ s s' hl) e'.2) e'.1

/-- **partial 2 (single differing token).** Two commands of the same kind that differ in at most one
    token — command name, key, or any one argument, of any lengths — never share a cache identity. -/
theorem cacheKey_injective_one_token_partial (scr : Bool) (pre post : Argv) (x y : List UInt8)
    (r : List UInt8 × List UInt8)
    (h : cacheKey scr (pre ++ x :: post) = .ok r) (h' : cacheKey scr (pre ++ y :: post) = .ok r) : x = y := by
  have e := cacheKey_ok scr _ r h
  have e' := cacheKey_ok scr _ r h'
  have hkp : kpOf scr (pre ++ y :: post) = kpOf scr (pre ++ x :: post) := by simp [kpOf]
  rw [hkp, e] at e'
  generalize kpOf scr (pre ++ x :: post) = kp at e'
  simp only [Prod.mk.injEq, keyOf, cmdOf] at e'
  obtain ⟨hk, hc⟩ := e'
  rcases Nat.lt_trichotomy kp pre.length with hlt | heq | hgt
  · rw [List.eraseIdx_append_of_lt_length hlt, List.eraseIdx_append_of_lt_length hlt] at hc
    simp only [List.flatten_append, List.flatten_cons] at hc
    exact List.append_cancel_right (List.append_cancel_left hc)
  · subst heq
    simpa using hk
  · rw [List.eraseIdx_append_of_length_le (by omega), List.eraseIdx_append_of_length_le (by omega)] at hc
    obtain ⟨j, hj⟩ : ∃ j, kp - pre.length = j + 1 := ⟨kp - pre.length - 1, by omega⟩
    rw [hj] at hc
    simp only [List.eraseIdx_cons_succ, List.flatten_append, List.flatten_cons] at hc
    exact List.append_cancel_right (List.append_cancel_left hc)

/-- **partial 3 (two-token commands).** Among commands of the form `CMD key` the identity is exact. -/
theorem cacheKey_injective_two_token_partial (scr scr' : Bool) (c k c' k' : List UInt8)
    (h : cacheKey scr [c, k] = cacheKey scr' [c', k']) : [c, k] = [c', k'] := by
  simp only [cacheKey, Res.ok.injEq, Prod.mk.injEq] at h
  rw [h.1, h.2]

/-- **partial 4 (keys are kept apart in the built-in store).** Plain commands with different keys
    never share an LRU entry: the key component of the identity is the key token itself. -/
theorem cacheKey_key_exact_partial (s s' : Argv) (r : List UInt8 × List UInt8) (h2 : 2 ≤ s.length) (h2' : 2 ≤ s'.length)
    (h : cacheKey false s = .ok r) (h' : cacheKey false s' = .ok r) : s[1]? = s'[1]? := by
  have e := cacheKey_ok false s r h
  have e' := cacheKey_ok false s' r h'
  have hk : s.getD 1 [] = s'.getD 1 [] := by simpa [kpOf, keyOf] using congrArg Prod.fst (e.symm.trans e')
  have h1 : s[1]? = some s[1] := List.getElem?_eq_getElem (by omega)
  have h1' : s'[1]? = some s'[1] := List.getElem?_eq_getElem (by omega)
  rw [List.getD_eq_getElem?_getD, List.getD_eq_getElem?_getD, h1, h1'] at hk
  rw [h1, h1']; exact congrArg some hk

/-- **partial 5 (adapter, same key length).** For adapter stores, two identities whose keys have the
    same length (in particular: the same key) address different entries unless they are equal. -/
theorem adapter_addr_injective_partial (k c k' c' : List UInt8) (hl : k.length = k'.length)
    (h : adapterAddr k c = adapterAddr k' c') : (k, c) = (k', c') := by
  obtain ⟨h1, h2⟩ := List.append_inj h hl
  rw [h1, h2]

private theorem mgetCacheCmd_json (rest : Argv) :
    mgetCacheCmd (b "JSON.MGET" :: rest) = .ok (b "JSON.GET" ++ (b "JSON.MGET" :: rest).getLast?.getD []) := rfl

private theorem getLast_snoc (x : List UInt8) (keys : Argv) (p : List UInt8) :
    (x :: (keys ++ [p])).getLast?.getD [] = p := by
  rw [← List.cons_append, List.getLast?_concat]; rfl

/-- the entry of key `i` of `MGET k₀ … kₙ` is exactly the entry of `GET kᵢ` (shared on purpose) -/
theorem mget_entry_is_get_entry (keys : Argv) (i : Nat) (hi : i < keys.length) :
    mgetCacheCmd (b "MGET" :: keys) = .ok (b "GET") ∧
    mgetCacheKey (b "MGET" :: keys) i = .ok keys[i] ∧
    cacheKey false [b "GET", keys[i]] = .ok (keys[i], b "GET") := by
  refine ⟨rfl, ?_, rfl⟩
  simp [mgetCacheKey, List.getElem?_eq_getElem hi]

/-- the entry of key `i` of `JSON.MGET k₀ … kₙ path` is exactly the entry of `JSON.GET kᵢ path` -/
theorem json_mget_entry_is_json_get_entry (keys : Argv) (path : List UInt8) (i : Nat) (hi : i < keys.length) :
    mgetCacheCmd (b "JSON.MGET" :: (keys ++ [path])) = .ok (b "JSON.GET" ++ path) ∧
    mgetCacheKey (b "JSON.MGET" :: (keys ++ [path])) i = .ok keys[i] ∧
    cacheKey false [b "JSON.GET", keys[i], path] = .ok (keys[i], b "JSON.GET" ++ path) := by
  refine ⟨?_, ?_, ?_⟩
  · rw [mgetCacheCmd_json, getLast_snoc]
  · simp [mgetCacheKey, List.getElem?_append_left hi, List.getElem?_eq_getElem hi]
  · simp [cacheKey, keyOf, cmdOf]

/-- different JSON paths give different per-key commands -/
theorem mget_cache_cmd_injective (keys keys' : Argv) (p p' : List UInt8)
    (h : mgetCacheCmd (b "JSON.MGET" :: (keys ++ [p])) = mgetCacheCmd (b "JSON.MGET" :: (keys' ++ [p']))) : p = p' := by
  rw [mgetCacheCmd_json, mgetCacheCmd_json, getLast_snoc, getLast_snoc] at h
  simpa using h

/-- MGET entries are never JSON.MGET entries -/
theorem mget_cmd_ne_json_mget_cmd (p : List UInt8) : b "GET" ≠ b "JSON.GET" ++ p := by
  have h1 : b "GET" = 71 :: b "ET" := by decide
  have h2 : b "JSON.GET" = 74 :: b "SON.GET" := by decide
  rw [h1, h2]; simp

end Rv.C08
