/-
C31 — multi-key helpers map every key to its own reply.
Theorems over the model Rv.MultiKey of helper.go / internal/cmds/cmds.go. The slot function is
an arbitrary `Key → Nat` everywhere (nothing depends on CRC16), key lists are arbitrary
(duplicates, empty keys, any length).
-/
import Rv.Model.MultiKey
namespace Rv.C31
open Rv.MultiKey

private theorem lookup_graph {κ α : Type} [BEq κ] [LawfulBEq κ] (f : κ → α) (ks : List κ)
    (m : List (κ × α)) (k : κ) :
    List.lookup k ((ks.map fun k => (k, f k)).reverse ++ m) =
      if k ∈ ks then some (f k) else List.lookup k m := by
  induction ks generalizing m with
  | nil => rfl
  | cons x ks ih =>
    rw [List.map_cons, List.reverse_cons, List.append_assoc, ih, List.singleton_append, List.lookup_cons]
    by_cases hx : k = x
    · subst hx
      rw [beq_self_eq_true, if_pos List.mem_cons_self, ite_self]
    · simp only [beq_false_of_ne hx, List.mem_cons, hx, false_or]

/-- a map that is the graph of a store `f` on `ks` (written in order, so newest first), where
    `ks` is the key list `keys` in any arrangement, has exactly the keys `keys` and maps each to
    its own `f key` — duplicates included -/
private theorem graph_store {α : Type} (f : Key → α) (ks keys : List Key) (m : KV α)
    (hm : m = (ks.map fun k => (k, f k)).reverse) (hks : ∀ k, k ∈ ks ↔ k ∈ keys) :
    (∀ k, m.get? k = if k ∈ keys then some (f k) else none) ∧ (∀ k, k ∈ m.keys ↔ k ∈ keys) := by
  subst hm
  refine ⟨fun k => ?_, fun k => ?_⟩
  · have := lookup_graph f ks [] k
    rw [List.append_nil] at this
    exact this.trans (ite_congr (propext (hks k)) (fun _ => rfl) fun _ => rfl)
  · rw [← hks k, KV.keys, List.map_reverse, List.map_map, List.mem_reverse]
    exact iff_of_eq (congrArg (k ∈ ·) (List.map_id ks))

private theorem writeAll_eq {α : Type} (m : KV α) (ks : List Key) (vs : List α) :
    writeAll m ks vs = (ks.zip vs).reverse ++ m := by
  induction ks generalizing m vs with
  | nil => rfl
  | cons x ks ih =>
    cases vs with
    | nil => rfl
    | cons y vs =>
      rw [List.zip_cons_cons, List.reverse_cons, List.append_assoc]
      exact ih _ _

/-- one answer `f key` per name; `sfx` (the JSON path that follows the keys) gets none -/
private theorem writeAll_map {α : Type} (f : Key → α) (ks sfx : List Key) (m : KV α) :
    writeAll m (ks ++ sfx) (ks.map f) = (ks.map fun k => (k, f k)).reverse ++ m := by
  induction ks generalizing m with
  | nil => cases sfx <;> rfl
  | cons x ks ih =>
    rw [List.map_cons (f := fun k => (k, f k)), List.reverse_cons, List.append_assoc]
    exact ih _

private theorem writeAll_graph {α : Type} (f : Key → α) (ks : List Key) :
    writeAll [] ks (ks.map f) = (ks.map fun k => (k, f k)).reverse := by
  rw [writeAll_eq, ← List.map_prod_left_eq_zip, List.append_nil]

private theorem map_fst_zip {κ α : Type} (ks : List κ) (vs : List α) :
    (ks.zip vs).map (·.1) = ks.take vs.length := by
  induction ks generalizing vs with
  | nil => exact List.take_nil.symm
  | cons x ks ih =>
    cases vs with
    | nil => rfl
    | cons y vs => exact congrArg (x :: ·) (ih vs)

private theorem writeAll_pos {α : Type} (keys : List Key) (vs : List α) :
    (∀ k v, (writeAll [] keys vs).get? k = some v → ∃ j : Nat, keys[j]? = some k ∧ vs[j]? = some v) ∧
    (∀ k, k ∈ (writeAll [] keys vs).keys ↔ k ∈ keys.take vs.length) := by
  rw [writeAll_eq, List.append_nil]
  refine ⟨fun k v h => ?_, fun k => ?_⟩
  · obtain ⟨l₁, l₂, e, _⟩ := List.lookup_eq_some_iff.mp h
    have : (k, v) ∈ (keys.zip vs).reverse := e ▸ List.mem_append_right _ List.mem_cons_self
    obtain ⟨j, hj⟩ := List.mem_iff_getElem?.mp (List.mem_reverse.mp this)
    exact ⟨j, List.getElem?_zip_eq_some.mp hj⟩
  · rw [KV.keys, List.map_reverse, List.mem_reverse, map_fst_zip]

/-! ### slot grouping: `slotMCMDs` / `slotMSets` / the `slotIdx` loop of clusterMGet -/

section grouping
variable {β : Type} (slot : Key → Nat) (key : β → Key)

/-- invariant of the grouping loop after the prefix `pre` of the input -/
private def GInv (g : List (Nat × List β)) (pre : List β) : Prop :=
  (g.map (·.1)).Nodup ∧
  (∀ p ∈ g, p.2 = pre.filter (fun x => slot (key x) == p.1) ∧ p.2 ≠ []) ∧
  (∀ x ∈ pre, ∃ p ∈ g, p.1 = slot (key x))

/-- one loop step, without the case split -/
private theorem addKey_eq (g : List (Nat × List β)) (x : β) :
    addKey slot key g x =
      (g.map fun p => (p.1, p.2 ++ if slot (key x) == p.1 then [x] else [])) ++
        if slot (key x) ∈ g.map (·.1) then [] else [(slot (key x), [x])] := by
  have hany : (g.any fun p => p.1 == slot (key x)) = true ↔ slot (key x) ∈ g.map (·.1) := by
    simp only [List.any_eq_true, List.mem_map, beq_iff_eq]
  unfold addKey
  by_cases h : slot (key x) ∈ g.map (·.1)
  · rw [if_pos (hany.2 h), if_pos h, List.append_nil]
    refine List.map_congr_left fun p _ => ?_
    by_cases hp : p.1 = slot (key x)
    · rw [if_pos (beq_iff_eq.2 hp), if_pos (beq_iff_eq.2 hp.symm)]
    · rw [if_neg (mt beq_iff_eq.1 hp), if_neg (mt beq_iff_eq.1 (Ne.symm hp)), List.append_nil]
  · rw [if_neg (mt hany.1 h), if_neg h]
    refine congrArg (· ++ _) ((List.map_id g).symm.trans (List.map_congr_left fun p hp => ?_))
    have : ¬ slot (key x) = p.1 := fun e => h (e ▸ List.mem_map_of_mem hp)
    rw [if_neg (mt beq_iff_eq.1 this), List.append_nil]; rfl

private theorem ginv_step (g : List (Nat × List β)) (pre : List β) (x : β) (h : GInv slot key g pre) :
    GInv slot key (addKey slot key g x) (pre ++ [x]) := by
  obtain ⟨h1, h2, h3⟩ := h
  have hfil (s : Nat) : (pre ++ [x]).filter (fun y => slot (key y) == s) =
      pre.filter (fun y => slot (key y) == s) ++ if slot (key x) == s then [x] else [] := by
    rw [List.filter_append, List.filter_cons, List.filter_nil]
  have hpre : ∀ y ∈ pre, slot (key y) ∈ g.map (·.1) := fun y hy => List.mem_map.2 (h3 y hy)
  rw [addKey_eq]
  refine ⟨?_, List.forall_mem_append.2 ⟨List.forall_mem_map.2 fun q hq => ?_, ?_⟩,
    fun y hy => List.mem_map.1 ?_⟩
  · rw [List.map_append, List.map_map]
    by_cases hs : slot (key x) ∈ g.map (·.1)
    · rw [if_pos hs, List.map_nil, List.append_nil]; exact h1
    · rw [if_neg hs]
      refine List.nodup_append.2 ⟨h1, List.nodup_cons.2 ⟨List.not_mem_nil, List.nodup_nil⟩,
        fun a ha b hb e => hs ?_⟩
      cases List.mem_singleton.1 hb
      subst e
      exact ha
  · exact ⟨by rw [hfil, ← (h2 q hq).1], List.append_ne_nil_of_left_ne_nil (h2 q hq).2 _⟩
  · by_cases hs : slot (key x) ∈ g.map (·.1)
    · rw [if_pos hs]; exact fun _ hp => (List.not_mem_nil hp).elim
    · have : pre.filter (fun y => slot (key y) == slot (key x)) = [] :=
        List.filter_eq_nil_iff.2 fun y hy e => hs (beq_iff_eq.1 e ▸ hpre y hy)
      rw [if_neg hs, List.forall_mem_singleton, hfil, this, if_pos (beq_self_eq_true _)]
      exact ⟨rfl, List.cons_ne_nil _ _⟩
  · rw [List.map_append, List.map_map]
    rcases List.mem_append.1 hy with hy | hy
    · exact List.mem_append_left _ (hpre y hy)
    · cases List.mem_singleton.1 hy
      by_cases hs : slot (key x) ∈ g.map (·.1)
      · exact List.mem_append_left _ hs
      · rw [if_neg hs]; exact List.mem_append_right _ List.mem_cons_self

private theorem ginv_fold (xs : List β) (g : List (Nat × List β)) (pre : List β) (h : GInv slot key g pre) :
    GInv slot key (xs.foldl (addKey slot key) g) (pre ++ xs) := by
  induction xs generalizing g pre with
  | nil => rwa [List.append_nil]
  | cons x xs ih =>
    have := ih _ _ (ginv_step slot key g pre x h)
    rwa [List.append_assoc] at this

/-- For every slot function and every input list (keys for
    `slotMCMDs`/clusterMGet, key-value pairs in map order for `slotMSets`/`JsonMSets`) the per-slot
    commands have pairwise different slots, the command of slot `s` carries exactly the inputs
    whose key hashes to `s`, in input order (duplicates kept), none is empty, and every input
    lands in a command. Hence the commands partition the input multiset. -/
theorem grouping_partition (xs : List β) :
    ((groupBy slot key xs).map (·.1)).Nodup ∧
    (∀ p ∈ groupBy slot key xs, p.2 = xs.filter (fun x => slot (key x) == p.1) ∧ p.2 ≠ []) ∧
    (∀ x ∈ xs, ∃ p ∈ groupBy slot key xs, p.1 = slot (key x)) :=
  ginv_fold slot key xs [] []
    ⟨List.nodup_nil, fun _ h => (List.not_mem_nil h).elim, fun _ h => (List.not_mem_nil h).elim⟩

end grouping

/-- an input key is in some per-slot command iff it is an input key -/
theorem group_mem (slot : Key → Nat) (keys : List Key) (k : Key) :
    (∃ p ∈ group slot keys, k ∈ p.2) ↔ k ∈ keys := by
  obtain ⟨_, h2, h3⟩ := grouping_partition slot id keys
  constructor
  · rintro ⟨p, hp, hk⟩
    rw [(h2 p hp).1] at hk
    exact (List.mem_filter.mp hk).1
  · intro hk
    obtain ⟨p, hp, hps⟩ := h3 k hk
    exact ⟨p, hp, (h2 p hp).1 ▸ List.mem_filter.mpr ⟨hk, beq_iff_eq.2 hps.symm⟩⟩

private theorem count_groups (slot : Key → Nat) (keys : List Key) (k : Key) (g : List (Nat × List Key))
    (hnd : (g.map (·.1)).Nodup) (hall : ∀ q ∈ g, q.2 = keys.filter (fun x => slot x == q.1)) :
    (g.map fun q => q.2.count k).sum = if slot k ∈ g.map (·.1) then keys.count k else 0 := by
  induction g with
  | nil => rfl
  | cons q g ih =>
    obtain ⟨hq, hnd⟩ := List.nodup_cons.1 hnd
    rw [List.map_cons, List.sum_cons, ih hnd fun r hr => hall r (List.mem_cons_of_mem _ hr),
      hall q List.mem_cons_self, List.map_cons]
    by_cases hs : slot k = q.1
    · rw [List.count_filter (p := fun x => slot x == q.1) (beq_iff_eq.2 hs), if_neg (hs ▸ hq),
        if_pos (hs ▸ List.mem_cons_self)]
      rfl
    · have : k ∉ keys.filter fun x => slot x == q.1 :=
        fun h => hs (beq_iff_eq.1 (List.mem_filter.1 h).2)
      rw [List.count_eq_zero.2 this, Nat.zero_add]
      simp only [List.mem_cons, hs, false_or]

/-- the multiset is preserved: each key occurs in the per-slot commands exactly as often as in
    the input -/
theorem group_count (slot : Key → Nat) (keys : List Key) (k : Key) :
    ((group slot keys).map fun p => p.2.count k).sum = keys.count k := by
  obtain ⟨h1, h2, h3⟩ := grouping_partition slot id keys
  rw [count_groups slot keys k (group slot keys) h1 fun q hq => (h2 q hq).1]
  by_cases hs : slot k ∈ (group slot keys).map (·.1)
  · exact if_pos hs
  · rw [if_neg hs]
    exact (List.count_eq_zero.2 fun hk => hs (List.mem_map.2 (h3 k hk))).symm

/-! ### arrayToKV / clientMGet (single, standalone, sentinel clients) -/

private theorem clientMGet_eq (keys : List Key) (arr : List Val) (h : arr.length ≤ keys.length) :
    clientMGet keys (.arr arr) = .ok (writeAll [] keys arr) := by
  simp only [clientMGet, toArray, arrayToKV, if_neg (Nat.not_lt.mpr h)]

/-- **value_of_own_key + keys_exact, one MGET**: if the reply array answers the keys
    positionally from any function `f` of the key (a store), the returned map has exactly the
    input keys and maps each to its own answer — duplicates included -/
theorem clientMGet_store (keys : List Key) (f : Key → Val) :
    ∃ m, clientMGet keys (.arr (keys.map f)) = .ok m ∧
      (∀ k, m.get? k = if k ∈ keys then some (f k) else none) ∧
      (∀ k, k ∈ m.keys ↔ k ∈ keys) :=
  ⟨_, clientMGet_eq keys _ (Nat.le_of_eq (List.length_map f)),
    graph_store f keys keys _ (writeAll_graph f keys) fun _ => Iff.rfl⟩

/-- for *any* reply array: an entry of the returned map is the reply element at an index where
    the key list holds that key (never another key's element), and the reply must not be longer
    than the key list (else the Go code panics with index out of range) -/
theorem clientMGet_positional (keys : List Key) (arr : List Val) :
    (arr.length ≤ keys.length →
      ∃ m, clientMGet keys (.arr arr) = .ok m ∧
        (∀ k v, m.get? k = some v → ∃ j : Nat, keys[j]? = some k ∧ arr[j]? = some v) ∧
        (∀ k, k ∈ m.keys ↔ k ∈ keys.take arr.length)) ∧
    (keys.length < arr.length → clientMGet keys (.arr arr) = .panic) := by
  refine ⟨fun hle => ⟨_, clientMGet_eq keys arr hle, writeAll_pos keys arr⟩, fun hlt => ?_⟩
  simp only [clientMGet, toArray, arrayToKV, if_pos hlt]

/-- One MGET: if the reply is not an array (transport error, error
    reply, nil, wrong type) the helper returns `(nil, that error)` -/
theorem clientMGet_error (keys : List Key) (r : Reply) (e : Err) (h : toArray r = .error e) :
    clientMGet keys r = .err e := by
  simp only [clientMGet, h]

private theorem mergeResps_arr (m : KV Val) (n : List Key) (ns : List (List Key)) (arr : List Val)
    (rs : List Reply) (h : arr.length ≤ n.length) :
    mergeResps m (n :: ns) (.arr arr :: rs) = mergeResps (writeAll m n arr) ns rs := by
  simp only [mergeResps, toArray, if_neg (Nat.not_lt.mpr h)]

private theorem mergeResps_store (f : Key → Val) (sfx : List Key) (gs : List (List Key)) (m : KV Val) :
    mergeResps m (gs.map (· ++ sfx)) (gs.map fun g => .arr (g.map f)) =
      .ok ((gs.flatten.map fun k => (k, f k)).reverse ++ m) := by
  induction gs generalizing m with
  | nil => rfl
  | cons g gs ih =>
    rw [List.map_cons, List.map_cons, mergeResps_arr, ih, writeAll_map, List.flatten_cons,
      List.map_append, List.reverse_append, List.append_assoc]
    rw [List.length_map, List.length_append]
    exact Nat.le_add_right _ _

/-- **value_of_own_key + keys_exact, cluster**: for every slot function, every key list
    (duplicates, any distribution over slots) and every JSON path: if each per-slot MGET is
    answered positionally from a function `f` of the key, the merged map has exactly the input
    keys and maps each key to its own answer -/
theorem clusterMGet_store (slot : Key → Nat) (keys : List Key) (path : Option Key) (f : Key → Val) :
    ∃ m, clusterMGet slot keys path ((group slot keys).map fun p => .arr (p.2.map f)) = .ok m ∧
      (∀ k, m.get? k = if k ∈ keys then some (f k) else none) ∧
      (∀ k, k ∈ m.keys ↔ k ∈ keys) := by
  have h := mergeResps_store f path.toList ((group slot keys).map (·.2)) []
  rw [List.map_map, List.map_map, List.append_nil] at h
  exact ⟨_, h, graph_store f _ keys _ rfl fun k => List.mem_flatMap.trans (group_mem slot keys k)⟩

/-- Cluster: the replies are inspected in command order; as soon as one
    is not an array the helper returns `(nil, that error)` — the values already merged from
    earlier slots are dropped — provided the earlier arrays were not longer than their commands
    (else index-out-of-range panic first) -/
theorem mergeResps_first_error (names : List (List Key)) (arrs : List (List Val)) (m : KV Val)
    (rest : List Reply) (r : Reply) (e : Err) (he : toArray r = .error e)
    (hfit : ∀ i, ∀ (h1 : i < arrs.length), ∃ (h2 : i < names.length), arrs[i].length ≤ names[i].length)
    (hlen : arrs.length < names.length) :
    mergeResps m names (arrs.map .arr ++ r :: rest) = .err e := by
  induction arrs generalizing names m with
  | nil =>
    cases names with
    | nil => exact absurd hlen (Nat.lt_irrefl _)
    | cons n ns => simp only [List.map_nil, List.nil_append, mergeResps, he]
  | cons a arrs ih =>
    cases names with
    | nil => exact absurd hlen (Nat.not_lt_zero _)
    | cons n ns =>
      obtain ⟨_, h0⟩ := hfit 0 (Nat.succ_pos _)
      rw [List.map_cons, List.cons_append, mergeResps_arr m n ns a _ h0]
      refine ih ns _ (fun i hi => ?_) (Nat.lt_of_succ_lt_succ hlen)
      obtain ⟨h2, h3⟩ := hfit (i + 1) (Nat.succ_lt_succ hi)
      exact ⟨Nat.lt_of_succ_lt_succ h2, h3⟩

/-! ### doMultiCache (MGetCache / JsonMGetCache) -/

private theorem doMultiCache_cons (m : KV Val) (k : Key) (ks : List Key) (r : Reply) (rs : List Reply)
    (hr : ∀ t, r ≠ .io t) :
    doMultiCache m (k :: ks) (r :: rs) = doMultiCache ((k, msgOf r) :: m) ks rs := by
  cases r with
  | io t => exact absurd rfl (hr t)
  | _ => rfl

private theorem doMultiCache_eq (m : KV Val) (keys : List Key) (rs : List Reply)
    (hio : ∀ r ∈ rs, ∀ t, r ≠ .io t) (hlen : rs.length ≤ keys.length) :
    doMultiCache m keys rs = .ok (writeAll m keys (rs.map msgOf)) := by
  induction rs generalizing m keys with
  | nil => cases keys <;> rfl
  | cons r rs ih =>
    cases keys with
    | nil => exact absurd hlen (Nat.not_succ_le_zero _)
    | cons k ks =>
      rw [doMultiCache_cons _ _ _ _ _ (hio r List.mem_cons_self)]
      exact ih _ _ (fun r' hr' => hio r' (List.mem_cons_of_mem _ hr')) (Nat.le_of_succ_le_succ hlen)

/-- **value_of_own_key + keys_exact, cached GETs**: one cached GET per key; if none of the
    replies is a transport error, the map has exactly the input keys, each with its own reply —
    an error *reply* for one key stays that key's entry and does not affect the others -/
theorem doMultiCache_store (keys : List Key) (r : Key → Reply) (hio : ∀ k ∈ keys, ∀ t, r k ≠ .io t) :
    ∃ m, doMultiCache [] keys (keys.map r) = .ok m ∧
      (∀ k, m.get? k = if k ∈ keys then some (msgOf (r k)) else none) ∧
      (∀ k, k ∈ m.keys ↔ k ∈ keys) := by
  refine ⟨_, doMultiCache_eq [] keys _ (fun x hx t => ?_) (Nat.le_of_eq (List.length_map r)),
    graph_store (fun k => msgOf (r k)) keys keys _ (by rw [List.map_map]; exact writeAll_graph _ keys)
    fun _ => Iff.rfl⟩
  obtain ⟨k, hk, rfl⟩ := List.mem_map.1 hx
  exact hio k hk t

/-- Cached GETs: the first transport error aborts the helper with
    `(nil, err)`; redis error replies before it do not -/
theorem doMultiCache_first_io (m : KV Val) (keys : List Key) (pre rest : List Reply) (t : Key)
    (hio : ∀ r ∈ pre, ∀ t', r ≠ .io t') :
    doMultiCache m keys (pre ++ .io t :: rest) = .err (.io t) ∨
    (keys.length < pre.length ∧ doMultiCache m keys (pre ++ .io t :: rest) = .panic) := by
  induction pre generalizing m keys with
  | nil => left; cases keys <;> rfl
  | cons r pre ih =>
    have hr := hio r List.mem_cons_self
    cases keys with
    | nil =>
      refine .inr ⟨Nat.succ_pos _, ?_⟩
      cases r with
      | io t => exact absurd rfl (hr t)
      | _ => rfl
    | cons k ks =>
      rw [List.cons_append, doMultiCache_cons _ _ _ _ _ hr]
      exact (ih _ ks fun r' hr' => hio r' (List.mem_cons_of_mem _ hr')).imp id
        (And.imp Nat.succ_lt_succ id)

/-! ### doMultiSet (MSet / MSetNX / MDel / JsonMSet on a cluster-type client) -/

private theorem doMultiSet_eq (m : KV (Option Err)) (keys : List Key) (rs : List Reply)
    (hlen : rs.length ≤ keys.length) :
    doMultiSet m keys rs = .ok (writeAll m keys (rs.map errOf)) := by
  induction rs generalizing m keys with
  | nil => cases keys <;> rfl
  | cons r rs ih =>
    cases keys with
    | nil => exact absurd hlen (Nat.not_succ_le_zero _)
    | cons k ks => exact ih _ _ (Nat.le_of_succ_le_succ hlen)

/-- **value_of_own_key + keys_exact, per-key commands**: one command per
    key; the result map has exactly the input keys and each key's entry is the error (or nil)
    of its own command — a failure of one key's command, transport errors included, never
    aborts the helper or leaks into another key's entry -/
theorem doMultiSet_store (keys : List Key) (r : Key → Reply) :
    ∃ m, doMultiSet [] keys (keys.map r) = .ok m ∧
      (∀ k, m.get? k = if k ∈ keys then some (errOf (r k)) else none) ∧
      (∀ k, k ∈ m.keys ↔ k ∈ keys) :=
  ⟨_, doMultiSet_eq [] keys _ (Nat.le_of_eq (List.length_map r)),
    graph_store (fun k => errOf (r k)) keys keys _ (by rw [List.map_map]; exact writeAll_graph _ keys)
    fun _ => Iff.rfl⟩

/-- positional version for arbitrary replies (e.g. `DEL k` twice answering 1 then 0): an entry
    is the error of a command that carried that key -/
theorem doMultiSet_positional (keys : List Key) (rs : List Reply) (hlen : rs.length ≤ keys.length) :
    ∃ m, doMultiSet [] keys rs = .ok m ∧
      (∀ k e, m.get? k = some e → ∃ (j : Nat) (r : Reply), keys[j]? = some k ∧ rs[j]? = some r ∧ e = errOf r) ∧
      (∀ k, k ∈ m.keys ↔ k ∈ keys.take rs.length) := by
  obtain ⟨h1, h2⟩ := writeAll_pos keys (rs.map errOf)
  refine ⟨_, doMultiSet_eq _ _ _ hlen, fun k e h => ?_, fun k => ?_⟩
  · obtain ⟨j, hj1, hj2⟩ := h1 k e h
    rw [List.getElem?_map, Option.map_eq_some_iff] at hj2
    obtain ⟨r, hr, rfl⟩ := hj2
    exact ⟨j, r, hj1, hr, rfl⟩
  · rw [h2 k, List.length_map]

/-! ### single-command writes (MSET / MSETNX / JSON.MSET / DEL on single, standalone, sentinel) -/

/-- One write command: every input key gets the one command's error -/
theorem allKeys_spec (keys : List Key) (e : Option Err) :
    (∀ k, (allKeys keys e).get? k = if k ∈ keys then some e else none) ∧
    (∀ k, k ∈ (allKeys keys e).keys ↔ k ∈ keys) :=
  graph_store (fun _ => e) keys keys _ rfl fun _ => Iff.rfl

/-- MGet / JsonMGet on any client kind, any slot function, any key list: against a server that
    answers MGET / JSON.MGET positionally from a store `f`, the returned map has exactly the
    input keys, each mapped to the store's value for that key -/
theorem mget_store (slot : Key → Nat) (single : Bool) (keys : List Key) (path : Option Key)
    (srv : List Key → Reply) (f : Key → Val)
    (hsrv : ∀ ks, srv ((if path.isSome then s "JSON.MGET" else s "MGET") :: (ks ++ path.toList)) = .arr (ks.map f)) :
    ∃ m, (mget slot single keys path srv).2 = .vals (.ok m) ∧
      (∀ k, m.get? k = if k ∈ keys then some (f k) else none) ∧
      (∀ k, k ∈ m.keys ↔ k ∈ keys) := by
  unfold mget
  by_cases hk : keys = []
  · subst hk
    exact ⟨[], rfl, fun _ => (if_neg List.not_mem_nil).symm, fun _ => Iff.rfl⟩
  · rw [if_neg (mt List.isEmpty_iff.1 hk)]
    cases single
    · obtain ⟨m, h1, h2, h3⟩ := clusterMGet_store slot keys path f
      refine ⟨m, ?_, h2, h3⟩
      rw [← h1]
      refine congrArg (fun rs => Out.vals (clusterMGet slot keys path rs)) ?_
      rw [clusterNames, List.map_map, List.map_map]
      exact List.map_congr_left fun p _ => hsrv p.2
    · obtain ⟨m, h1, h2, h3⟩ := clientMGet_store keys f
      refine ⟨m, ?_, h2, h3⟩
      rw [← h1]
      exact congrArg (fun r => Out.vals (clientMGet keys r)) (hsrv keys)

/-- MSet / MSetNX on a cluster-type client: every key of the map gets the error of its own
    `SET` command -/
theorem mset_cluster_own_error (nx : Bool) (kvs : List (Key × Key)) (srv : List Key → Reply)
    (r : Key → Reply) (hne : kvs ≠ [])
    (hsrv : ∀ p ∈ kvs, srv ([s "SET", p.1, p.2] ++ (if nx then [s "NX"] else [])) = r p.1) :
    ∃ m, (mset false nx kvs srv).2 = .errs (.ok m) ∧
      (∀ k, m.get? k = if k ∈ kvs.map (·.1) then some (errOf (r k)) else none) := by
  obtain ⟨m, h1, h2, _⟩ := doMultiSet_store (kvs.map (·.1)) r
  refine ⟨m, ?_, h2⟩
  rw [← h1, mset, if_neg (mt List.isEmpty_iff.1 hne)]
  refine congrArg (fun rs => Out.errs (doMultiSet [] (kvs.map (·.1)) rs)) ?_
  rw [List.map_map, List.map_map]
  exact List.map_congr_left hsrv

example :
    (clusterMGet (fun k => k.length) [[1], [2, 2], [1]] none [.arr [.int 1, .int 1], .arr [.int 2]]) =
      .ok [([2, 2], .int 2), ([1], .int 1), ([1], .int 1)] := by decide

end Rv.C31
