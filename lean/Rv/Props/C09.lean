/-
C09 — concurrent cache misses on one connection share one request.
Store level: Rv/Model/Lru.lean and Rv/Model/Adapter.lean. A caller is "told to send" iff `Flight`/`Flights`
answers `send`; "the same pending entry" is the entry id (`nextId` at creation); what waiters receive is the
log `done` of closed channels (`Wait` returns `e.val, e.err` once `e.ch` is closed).
Connection level: Rv/Model/CachePipe.lean (fetches on the wire against pending entries, failed fetches, a DoCache
whose context is already done). The scheduling of the real DoCache/DoMultiCache code is left to the test suites.
-/
import Rv.Lemmas.LruPending
import Rv.Lemmas.AdapterPending
import Rv.Lemmas.CachePipeFlight
namespace Rv.C09
open Rv.Lru

/-- the pending entry of (k, c) in an invariant state is what every lookup of (k, c) waits on -/
private theorem wait_on_pending {s : State} (hi : Inv s) {x : Entry} (hx : x ∈ s.list) (hp : x.pend = true)
    (ttl now : Int) : (flight s x.key x.cmd ttl now).2 = .wait x.id ∧
      (locked s x.key x.cmd ttl now).2 = .wait x.id := by
  have hfind := find?_of_mem hi.nodup hx
  have key : ∀ s' r, Outcome4 s x.key x.cmd ttl now s' r → r = .wait x.id := by
    intro s' r o
    by_cases hr : r = .send
    · have := (o.of_send hi.nodup (hi.open_of_mem hx) hr).2 x hx ⟨rfl, rfl⟩
      rw [valid_of_pend hp] at this; cases this
    · obtain ⟨-, e, hf, -, hre⟩ := o.of_ne_send hr
      rw [hfind] at hf; cases hf
      rw [hre, resOf, if_pos hp]
  exact ⟨key _ _ (flight_cases _ _ _ _ _), key _ _ (locked_cases _ _ _ _ _)⟩

/-- **Single flight.** If a `Flight` of (k, c) on an open store was told to send (this creates the pending entry
    with id `s.nextId`), then after any operations that are not the `Update`/`Cancel` of (k, c) nor `Close`, every
    further `Flight` of (k, c) — with any TTL, at any time — is answered "wait on that same entry": it is not told
    to send and gets no hit. -/
theorem single_flight {s : State} (hi : Inv s) (hopen : s.closed = false) (k c : Bytes) (ttl t0 : Int)
    (hsend : (flight s k c ttl t0).2 = .send) (ops : List Op) (hno : ∀ op ∈ ops, op.resolves k c = false)
    (ttl' now' : Int) :
    (flight (run (flight s k c ttl t0).1 ops) k c ttl' now').2 = .wait s.nextId := by
  obtain ⟨hi2, hmem⟩ := send_entry_persists hi hopen hsend ops hno
  simpa [newEntry] using (wait_on_pending hi2 hmem rfl ttl' now').1

/-- the same for a lookup made through one round of the second loop of `Flights` (`locked`), e.g. a duplicate of
    (k, c) later in the same batch or in a later `DoMultiCache` -/
theorem single_flight_batch {s : State} (hi : Inv s) (hopen : s.closed = false) (k c : Bytes) (ttl t0 : Int)
    (hsend : (flight s k c ttl t0).2 = .send) (ops : List Op) (hno : ∀ op ∈ ops, op.resolves k c = false)
    (ttl' now' : Int) :
    (locked (run (flight s k c ttl t0).1 ops) k c ttl' now').2 = .wait s.nextId := by
  obtain ⟨hi2, hmem⟩ := send_entry_persists hi hopen hsend ops hno
  simpa [newEntry] using (wait_on_pending hi2 hmem rfl ttl' now').2

/-- in any state reached from a fresh store: at most one entry per (key, cmd), so at most one request in flight -/
theorem at_most_one_pending (mx base : Int) (ops : List Op) (x y : Entry)
    (hx : x ∈ (run (Lru.init mx base) ops).list) (hy : y ∈ (run (Lru.init mx base) ops).list)
    (hk : x.key = y.key) (hc : x.cmd = y.cmd) : x = y :=
  (inv_run (inv_init mx base) ops).nodup.eq_of_sameKC hx hy ⟨hk, hc⟩

/-- **Waiters get the result.** The `Update` of a pending entry closes its channel with exactly the reply and the
    expiry that `Update` returns (what later hits will see as well). -/
theorem waiters_get_result {s : State} (k c : Bytes) (v : Nat) (vsz raw : Int) (e : Entry)
    (hopen : s.closed = false) (hf : find? s.list k c = some e) (hp : e.pend = true) :
    (update s k c v vsz raw).1.done = s.done ++ [(e.id, .val v (update s k c v vsz raw).2)] := by
  have := update_of_pending hopen hf hp v vsz raw
  rw [this.2, this.1]

/-- `Cancel` of a pending entry wakes its waiters with the error -/
theorem waiters_get_error_cancel {s : State} (k c : Bytes) (err : Nat) (e : Entry)
    (hopen : s.closed = false) (hf : find? s.list k c = some e) (hp : e.pend = true) :
    (cancel s k c err).done = s.done ++ [(e.id, .err err)] :=
  (cancel_of_pending hopen hf hp err).2

/-- `Close` wakes the waiters of every pending entry with the error, and only those -/
theorem waiters_get_error_close (s : State) (err : Nat) :
    (close s err).done = s.done ++ ((s.list.filter (·.pend)).map fun e => (e.id, Outcome.err err)) := rfl

/-- a completed or absent entry is not touched by `Cancel` (no waiter is woken twice) -/
theorem cancel_only_pending {s : State} (k c : Bytes) (err : Nat)
    (h : ∀ e, find? s.list k c = some e → e.pend = false) : cancel s k c err = s := by
  rcases cancel_cases s k c err with ⟨hs, -⟩ | ⟨e, -, hf, hp, -⟩
  · exact hs
  · rw [h e hf] at hp; cases hp

private theorem cancelled_gone {s : State} (hi : Inv s) {k c : Bytes} {e : Entry} (hopen : s.closed = false)
    (hf : find? s.list k c = some e) (hp : e.pend = true) (err : Nat) :
    ∀ x ∈ (cancel s k c err).list, ¬ (x.key = k ∧ x.cmd = c) :=
  fun _ hx => hi.nodup.erase_find hf ((cancel_of_pending hopen hf hp err).1 ▸ hx)

/-- **Errors are not cached.** After the `Cancel` of a pending (k, c) nothing is stored for it: the next `Flight`
    is told to send again, whatever the time and TTL. -/
theorem error_not_cached {s : State} (hi : Inv s) (k c : Bytes) (err : Nat) (e : Entry)
    (hopen : s.closed = false) (hf : find? s.list k c = some e) (hp : e.pend = true) (ttl now : Int) :
    (flight (cancel s k c err) k c ttl now).2 = .send := by
  by_cases hr : (flight (cancel s k c err) k c ttl now).2 = .send
  · exact hr
  · obtain ⟨-, e', hf', -⟩ := (flight_cases (cancel s k c err) k c ttl now).of_ne_send hr
    exact absurd (find?_some hf').2 (cancelled_gone hi hopen hf hp err e' (find?_some hf').1)

/-- after `Close` nothing is served and nobody is made to wait: every lookup is told to send (the pipe is dead and
    fails the request), for ever -/
theorem closed_store_only_sends (s : State) (err : Nat) (ops : List Op) (k c : Bytes) (ttl now : Int) :
    (flight (run (close s err) ops) k c ttl now).2 = .send := by
  have hc := run_closed (s := close s err) rfl ops
  cases flight_cases (run (close s err) ops) k c ttl now with
  | found e hc' => rw [hc] at hc'; cases hc'
  -- the other outcomes answer "send"
  | _ => assumption

/-- **Single flight (adapter).** If a `Flight` of (k, c) on an open adapter was told to send, then after any
    operations that are not the `Update`/`Cancel` of (k, c) nor `Close`, no further `Flight` of (k, c) is told to
    send, and whenever it is told to wait it waits on the entry created by that first call. -/
theorem adapter_single_flight (s : Adapter.State) (hopen : s.flights ≠ none) (k c : Bytes) (ttl t0 : Int)
    (hsend : (Adapter.flight s k c ttl t0).2 = .send) (ops : List Adapter.Op)
    (hno : ∀ op ∈ ops, op.resolves k c = false) (ttl' now' : Int) :
    (Adapter.flight (Adapter.run (Adapter.flight s k c ttl t0).1 ops) k c ttl' now').2 ≠ .send ∧
    ∀ i, (Adapter.flight (Adapter.run (Adapter.flight s k c ttl t0).1 ops) k c ttl' now').2 = .wait i → i = s.nextId :=
  Adapter.flight_of_pending
    (Adapter.pending_persists_run (Adapter.send_creates_pending k c ttl t0 hopen hsend) ops hno) ttl' now'

/-- `Update` of a pending adapter entry wakes its waiters with the stored reply; `Cancel` with the error; neither
    touches the user store on the error path -/
theorem adapter_waiters {s : Adapter.State} {fl : List (Adapter.KC × Option Adapter.AEntry)} (hfl : s.flights = some fl)
    (k c : Bytes) (e : Adapter.AEntry) (hs : Adapter.slot s k c = some (some e)) (v : Nat) (raw : Int) (err : Nat) :
    (∃ exp, (Adapter.update s k c v raw).1.done = s.done ++ [(e.id, .val v exp)] ∧
            Adapter.get (Adapter.update s k c v raw).1.store (k ++ c) = some (v, exp)) ∧
    (Adapter.cancel s k c err).done = s.done ++ [(e.id, .err err)] ∧
    (Adapter.cancel s k c err).store = s.store := by
  refine ⟨?_, ?_, ?_⟩
  · simp only [Adapter.update, hfl, hs]
    exact ⟨_, rfl, by simp [Adapter.get_put]⟩
  · simp only [Adapter.cancel, hfl, hs]
  · simp only [Adapter.cancel, hfl, hs]

/-! ### one connection: fetches on the wire and pending entries (`Rv.CachePipe`)

`inFlight st` lists the fetches of the connection that were sent and are not yet answered, or answered and not yet
handled by the reader loop. All statements are for arbitrary event lists (every interleaving that respects wire
order); in the model a failed fetch is cancelled in the same step in which its failure is handled, i.e. before
anybody can wait on it again — the order the real DoCache/DoMultiCache code must keep (tied by the `flightdup`
and `cachee2e` suites). -/

open Rv.CachePipe in
private theorem deliver_fail_store {st : St} {k c : Bytes} {err : Nat} {rest : List Msg}
    (hq : st.respQ = .fail k c err :: rest) (t : Int) :
    (CachePipe.step st (.deliver t)).store = cancel st.store k c err := by
  simp only [CachePipe.step, hq, handle]

open Rv.CachePipe in
/-- **Pending iff in flight.** At every moment the pending entries of the store and the fetches on the wire
    correspond one to one: every pending entry has exactly one request on the wire that will resolve it (nobody
    waits on a dead flight), every request on the wire has its pending entry, and no command is on the wire twice. -/
theorem pending_iff_in_flight (mx base : Int) (evs : List Ev) :
    let st := CachePipe.run (CachePipe.init mx base) evs
    (inFlight st).Nodup ∧
    (∀ e ∈ st.store.list, e.pend = true → (e.key, e.cmd) ∈ inFlight st) ∧
    (∀ kc ∈ inFlight st, ∃ e ∈ st.store.list, e.key = kc.1 ∧ e.cmd = kc.2 ∧ e.pend = true) := by
  intro st
  have h := sf_run (pinv_init mx base) (sf_init mx base) evs
  exact ⟨h.nodup, h.flight_of, h.pend_of⟩

open Rv.CachePipe in
/-- while a fetch of (k, c) is on the wire, every further DoCache of (k, c) waits on its entry: no second request -/
theorem no_second_fetch_while_in_flight (mx base : Int) (evs : List Ev) (k c : Bytes)
    (hin : (k, c) ∈ inFlight (CachePipe.run (CachePipe.init mx base) evs)) (ttl now : Int) :
    ∃ id, lookupRes (CachePipe.run (CachePipe.init mx base) evs) k c ttl now = .wait id := by
  have h := sf_run (pinv_init mx base) (sf_init mx base) evs
  have hp := pinv_run (pinv_init mx base) evs
  obtain ⟨e, he, hk, hc, hpe⟩ := h.pend_of _ hin
  have := (wait_on_pending hp.store he hpe ttl now).1
  rw [hk, hc] at this
  exact ⟨e.id, this⟩

open Rv.CachePipe in
/-- **A failed fetch releases all its waiters.** When the failure of the fetch of (k, c) is handled, its pending
    entry exists, every caller waiting on it is woken with that error, nothing is cached, the command is no longer in
    flight, and the next DoCache of (k, c) fetches again. -/
theorem failed_fetch_releases_all_waiters (mx base : Int) (evs : List Ev) (k c : Bytes) (err : Nat) (rest : List Msg)
    (hq : (CachePipe.run (CachePipe.init mx base) evs).respQ = .fail k c err :: rest) (t : Int) :
    let st := CachePipe.run (CachePipe.init mx base) evs
    let st' := CachePipe.step st (.deliver t)
    ∃ e ∈ st.store.list, e.key = k ∧ e.cmd = c ∧ e.pend = true ∧
      st'.store.done = st.store.done ++ [(e.id, .err err)] ∧
      (k, c) ∉ inFlight st' ∧
      (∀ x ∈ st'.store.list, ¬ (x.key = k ∧ x.cmd = c)) ∧
      ∀ ttl now, lookupRes st' k c ttl now = .send := by
  intro st st'
  have h := sf_run (pinv_init mx base) (sf_init mx base) evs
  have hp := pinv_run (pinv_init mx base) evs
  have hin : (k, c) ∈ inFlight st := by
    show (k, c) ∈ st.reqQ ++ st.respQ.filterMap cmdOf
    rw [show st.respQ = .fail k c err :: rest from hq]; simp [cmdOf]
  obtain ⟨e, he, hk, hc, hpe⟩ := h.pend_of _ hin
  have hopen : st.store.closed = false := hp.store.open_of_mem he
  have hfind : find? st.store.list k c = some e := by
    have := find?_of_mem hp.store.nodup he; rw [hk, hc] at this; exact this
  have hst' : st'.store = cancel st.store k c err := deliver_fail_store hq t
  have h' := sf_step hp.store h (.deliver t)
  have hgone : ∀ x ∈ st'.store.list, ¬ (x.key = k ∧ x.cmd = c) :=
    fun x hx => cancelled_gone hp.store hopen hfind hpe err x (hst' ▸ hx)
  refine ⟨e, he, hk, hc, hpe, ?_, fun hin' => ?_, hgone, ?_⟩
  · rw [hst']; exact waiters_get_error_cancel k c err e hopen hfind hpe
  · obtain ⟨e', he', hk', hc', -⟩ := h'.pend_of _ hin'
    exact hgone e' he' ⟨hk', hc'⟩
  · intro ttl now
    show (flight st'.store k c ttl now).2 = .send
    rw [hst']; exact error_not_cached hp.store k c err e hopen hfind hpe ttl now

/-- **`Close` releases every pending waiter.** For every store state — in particular whatever the order of the
    recency list, also when completed entries sit behind pending ones after a promotion — `Close(err)` wakes the
    waiters of every pending entry with `err`, wakes nobody else, and leaves nothing behind. -/
theorem close_releases_every_pending_waiter (s : State) (err : Nat) :
    (∀ e ∈ s.list, e.pend = true → (e.id, Outcome.err err) ∈ (close s err).done) ∧
    (∀ p ∈ (close s err).done, p ∈ s.done ∨ ∃ e ∈ s.list, e.pend = true ∧ p = (e.id, Outcome.err err)) ∧
    (close s err).list = [] := by
  refine ⟨?_, ?_, rfl⟩
  · intro e he hp
    exact List.mem_append_right _ (List.mem_map.2 ⟨e, List.mem_filter.2 ⟨he, hp⟩, rfl⟩)
  · intro p hp
    rcases List.mem_append.1 hp with h | h
    · exact Or.inl h
    · obtain ⟨e, he, rfl⟩ := List.mem_map.1 h
      have := List.mem_filter.1 he
      exact Or.inr ⟨e, this.1, this.2, rfl⟩

/-- the same for the store built by `NewSimpleCacheAdapter`: every pending slot is failed by `Close` -/
theorem adapter_close_releases_every_pending_waiter (s : Adapter.State) (err : Nat) (k c : Bytes) (e : Adapter.AEntry)
    (h : Adapter.slot s k c = some (some e)) : (e.id, Outcome.err err) ∈ (Adapter.close s err).done := by
  have := Adapter.mem_of_get _ _ _ h
  show (e.id, Outcome.err err) ∈ s.done ++ _
  apply List.mem_append_right
  rw [List.mem_filterMap]
  exact ⟨((k, c), some e), this, rfl⟩

open Rv.CachePipe in
/-- **A failing fetch cancels only its own flight.** Handling the failure of the fetch of (k, c) leaves every other
    pending entry in the store, still with its own request on the wire, and wakes only the waiters of (k, c). -/
theorem cancel_only_own_flights (mx base : Int) (evs : List Ev) (k c : Bytes) (err : Nat) (rest : List Msg)
    (hq : (CachePipe.run (CachePipe.init mx base) evs).respQ = .fail k c err :: rest) (t : Int)
    (e : Entry) (he : e ∈ (CachePipe.run (CachePipe.init mx base) evs).store.list) (hp : e.pend = true)
    (hne : ¬ (e.key = k ∧ e.cmd = c)) :
    let st := CachePipe.run (CachePipe.init mx base) evs
    let st' := CachePipe.step st (.deliver t)
    e ∈ st'.store.list ∧ (e.key, e.cmd) ∈ inFlight st' ∧
    ∃ e0 ∈ st.store.list, e0.key = k ∧ e0.cmd = c ∧ st'.store.done = st.store.done ++ [(e0.id, .err err)] := by
  intro st st'
  have h := sf_run (pinv_init mx base) (sf_init mx base) evs
  have hpi := pinv_run (pinv_init mx base) evs
  have hst' : st'.store = cancel st.store k c err := deliver_fail_store hq t
  have hmem : e ∈ st'.store.list := by
    rw [hst']
    exact pending_persists hpi.store he hp (.cancel k c err) (resolves_other hne)
  have h' := sf_step hpi.store h (.deliver t)
  obtain ⟨e0, he0, hk0, hc0, _, hd, _⟩ := failed_fetch_releases_all_waiters mx base evs k c err rest hq t
  exact ⟨hmem, h'.flight_of e hmem hp, e0, he0, hk0, hc0, hd⟩

open Rv.CachePipe in
/-- **A caller whose context is already done leaves no dead flight.** A DoCache call that finds its context done
    (`startDone`: the request is never written, the caller cancels the flight it has just created) changes neither
    the fetches on the wire nor — through `pending_iff_in_flight`, which covers this event — the one-to-one
    correspondence with the pending entries: afterwards the command is pending only if a request for it really is on
    the wire, so no later read can wait on an entry that nothing will ever resolve. -/
theorem ctx_done_at_entry_leaves_no_dead_flight (mx base : Int) (evs : List Ev) (k c : Bytes) (ttl now : Int) (err : Nat) :
    let st := CachePipe.run (CachePipe.init mx base) evs
    let st' := CachePipe.step st (.startDone k c ttl now err)
    inFlight st' = inFlight st ∧
    (∀ e ∈ st'.store.list, e.pend = true → (e.key, e.cmd) ∈ inFlight st') ∧
    ((k, c) ∉ inFlight st → ∀ ttl' now', lookupRes st' k c ttl' now' ≠ .wait 0 ∧
        ∀ id, lookupRes st' k c ttl' now' ≠ .wait id) := by
  intro st st'
  have h := sf_run (pinv_init mx base) (sf_init mx base) evs
  have hp := pinv_run (pinv_init mx base) evs
  have h' : SF st' := sf_step hp.store h _
  have hp' : PInv st' := pinv_step hp _
  have hin : inFlight st' = inFlight st := by
    show inFlight (CachePipe.step st (.startDone k c ttl now err)) = inFlight st
    simp only [CachePipe.step]
    split
    · rfl
    · split <;> rfl
  refine ⟨hin, h'.flight_of, ?_⟩
  intro hnot ttl' now'
  have key : ∀ id, lookupRes st' k c ttl' now' ≠ .wait id := by
    intro id hw
    obtain ⟨e, hf, hpe, -⟩ := (flight_cases st'.store k c ttl' now').of_wait hw
    have hf' := find?_some hf
    have := h'.flight_of e hf'.1 hpe
    rw [hf'.2.1, hf'.2.2, hin] at this
    exact hnot this
  exact ⟨key 0, key⟩

example : (flight (Lru.init 1000 336) [1] [2] 5 0).2 = .send ∧
    (flight (flight (Lru.init 1000 336) [1] [2] 5 0).1 [1] [2] 7 9).2 = .wait 0 := by decide

end Rv.C09
