/-
C43 — hooks intercept every request path.
Theorems over the table regenerated from rueidishook/hook.go (Rv.Gen.Hook.rows) and the
interpreter Rv.Hook.call of that table.
-/
import Rv.Model.Hook
namespace Rv.C43
open Rv.Hook Rv.Gen.Hook

/-! ### The table is inside the modelled fragment -/

/-- the Hook interface has exactly the seven request entry points of the property statement -/
theorem hook_iface_is_entry_points :
    hookMethods.all (entryPoints.contains ·) = true ∧ entryPoints.all (hookMethods.contains ·) = true := by
  decide +kernel

/-- `WithHook` builds a `hookclient`; every method of rueidis.Client has an explicit row on
    hookclient and every method of rueidis.DedicatedClient has one on dedicated (so no request
    can bypass the table through a promoted method) -/
theorem iface_covered :
    withHook = "hookclient" ∧
    clientIface.all (fun m => (findRow "hookclient" m).isSome) = true ∧
    dedicatedIface.all (fun m => (findRow "dedicated" m).isSome) = true ∧
    entryPoints.all (clientIface.contains ·) = true := by
  decide +kernel

/-- the wrappers a user can hold -/
def userWrappers : List String := ["hookclient", "dedicated"]

private def wrappedOk : Ret → Bool
  | Ret.wrapped w' => userWrappers.contains w'
  | _ => true

private theorem call_facts :
    (∀ w ∈ userWrappers, ∀ m ∈ ifaceOf w, ∀ fwd : Bool, (call w m fwd).2 ≠ Ret.unknown) ∧
    (∀ w ∈ userWrappers, ∀ m ∈ entryPoints, m ∈ ifaceOf w →
      call w m false = ([Ev.hook m (clientClass w)], Ret.fromHook) ∧
      call w m true = ([Ev.hook m (clientClass w), Ev.inner m], Ret.fromHook) ∧
      levelKind w m = LK.hooked m) ∧
    (∀ w ∈ userWrappers, ∀ m ∈ ifaceOf w, m ∉ entryPoints → m ∉ derivers →
      call w m false = ([Ev.inner m], Ret.fromInner)) ∧
    (∀ w ∈ userWrappers, ∀ m ∈ derivers, m ∈ ifaceOf w → wrappedOk (call w m false).2 = true) := by
  decide +kernel

/-- no row is outside the fragment the interpreter understands: every call on a user-visible
    wrapper has a known outcome -/
theorem no_unknown_outcome :
    ∀ w ∈ ["hookclient", "dedicated"], ∀ m ∈ ifaceOf w, ∀ fwd : Bool, (call w m fwd).2 ≠ Ret.unknown :=
  call_facts.1

/-- Every request entry point of every user-visible wrapper invokes exactly one hook method —
    the one of the same name — exactly once, hands it the inner client, invokes nothing else,
    and returns the hook's result unchanged. -/
theorem every_entry_point_hooked_once :
    ∀ w ∈ userWrappers, ∀ m ∈ entryPoints, m ∈ ifaceOf w →
      call w m false = ([Ev.hook m (clientClass w)], Ret.fromHook) :=
  fun w hw m hm hi => (call_facts.2.1 w hw m hm hi).1

/-- the hook's result is what the caller gets, also when the hook forwards to the inner client -/
theorem result_unchanged :
    ∀ w ∈ userWrappers, ∀ m ∈ entryPoints, m ∈ ifaceOf w → ∀ fwd, (call w m fwd).2 = Ret.fromHook := by
  intro w hw m hm hi fwd
  obtain ⟨h0, h1, _⟩ := call_facts.2.1 w hw m hm hi
  cases fwd
  · rw [h0]
  · rw [h1]

/-- the client handed to the hook is usable for the same request and reaches the real inner
    client exactly once without going through the hook again (no recursion, no double send) -/
theorem forwarded_call_reaches_inner_once :
    ∀ w ∈ userWrappers, ∀ m ∈ entryPoints, m ∈ ifaceOf w →
      (call w m true).1 = [Ev.hook m (clientClass w), Ev.inner m] :=
  fun w hw m hm hi => congrArg Prod.fst (call_facts.2.1 w hw m hm hi).2.1

/-- Dedicated / Dedicate / Nodes call the inner client once and wrap every derived client again,
    keeping the same hook -/
theorem derived_clients_wrapped_again :
    call "hookclient" "Dedicated" false = ([Ev.inner "Dedicated"], Ret.wrapped "dedicated") ∧
    call "hookclient" "Dedicate" false = ([Ev.inner "Dedicate"], Ret.wrapped "dedicated") ∧
    call "hookclient" "Nodes" false = ([Ev.inner "Nodes"], Ret.wrapped "hookclient") := by
  decide +kernel

/-- methods that are forwarded without the hook are never request entry points, and they are
    forwarded to the method of the same name -/
theorem passthrough_only_non_request :
    ∀ r ∈ rows, r.recv ∈ userWrappers → r.kind = Kind.pass →
      r.method ∉ entryPoints ∧ r.target = r.method ∧ r.method ∈ ["B", "Mode", "Close", "SetPubSubHooks", "SetOnInvalidations"] := by
  decide +kernel

/-- the pass-through methods reach the inner client once and return its result -/
theorem passthrough_reaches_inner :
    ∀ w ∈ userWrappers, ∀ m ∈ ifaceOf w, m ∉ entryPoints → m ∉ derivers →
      call w m false = ([Ev.inner m], Ret.fromInner) :=
  call_facts.2.2.1

/-- the adapter placed between `dedicated` and the real dedicated client refuses everything a
    dedicated connection cannot do and forwards the rest -/
theorem adapter_refuses_or_forwards :
    ∀ m ∈ clientIface, adapterCall "extended" m = ([], Ret.panics) ∨ adapterCall "extended" m = ([Ev.inner m], Ret.fromInner) := by
  decide +kernel

/-- wrappers reachable from `WithHook` by any sequence of Dedicated / Dedicate / Nodes -/
inductive Reach : String → Prop
  | root : Reach withHook
  | step {w w' : String} {m : String} {evs : List Ev} :
      Reach w → m ∈ derivers → m ∈ ifaceOf w → call w m false = (evs, Ret.wrapped w') → Reach w'

private theorem closure :
    ∀ w ∈ userWrappers, ∀ m ∈ derivers, m ∈ ifaceOf w → wrappedOk (call w m false).2 = true :=
  call_facts.2.2.2

/-- every client reachable from `WithHook` is one of the user-visible wrappers -/
theorem reach_user : ∀ w, Reach w → w ∈ userWrappers := by
  intro w h
  induction h with
  | root => decide
  | @step w0 w1 m0 evs0 _ hm hi hc ih =>
    have hk := closure w0 ih m0 hm hi
    rw [hc] at hk
    simpa [wrappedOk] using hk

/-- **Main theorem**: on every client reachable from `WithHook(client, hook)` through any chain of
    Dedicated / Dedicate / Nodes, every request entry point the client offers runs the hook method of
    the same name exactly once (and nothing else) and returns the hook's result unchanged. -/
theorem reachable_entry_points_hooked_once (w : String) (h : Reach w) :
    ∀ m ∈ entryPoints, m ∈ ifaceOf w → call w m false = ([Ev.hook m (clientClass w)], Ret.fromHook) :=
  every_entry_point_hooked_once w (reach_user w h)

/-- the executable path follower used by the correspondence driver only visits reachable wrappers -/
theorem follow_reach : ∀ (path : List String) (w : String) (acc : List Ev) (w' : String) (evs : List Ev),
    Reach w → follow w path acc = some (w', evs) → Reach w' := by
  intro path
  induction path with
  | nil => intro w acc w' evs hw h; simp [follow] at h; exact h.1 ▸ hw
  | cons s rest ih =>
    intro w acc w' evs hw h
    unfold follow at h
    split at h
    · cases h
    · rename_i m hs
      split at h
      · rename_i hi
        split at h
        · rename_i evs1 w1 hc
          have hmd : ∀ x ∈ stepMethod s, x ∈ derivers := by
            unfold stepMethod
            repeat' split
            all_goals decide
          have him : m ∈ ifaceOf w := by simpa using hi
          exact ih w1 _ w' evs (Reach.step hw (hmd m hs) him hc) h
        · cases h
      · cases h

/-- for every derivation path and every entry point, the model's answer to the oracle question
    "how often did the hook run and whose result came back" is the specification's -/
theorem every_path_hooked_once (path : List String) (w : String) (pre : List Ev) (m : String)
    (hf : follow withHook path [] = some (w, pre)) (hm : m ∈ entryPoints) (hi : m ∈ ifaceOf w) :
    hookCount (call w m false).1 m = 1 ∧ otherHooks (call w m false).1 m = 0 ∧ (call w m false).2 = Ret.fromHook := by
  have hr : Reach w := follow_reach path withHook [] w pre Reach.root hf
  rw [every_entry_point_hooked_once w (reach_user w hr) m hm hi]
  simp [hookCount, otherHooks]

/-- **stacked hooks, any depth**: on a stack WithHook(…WithHook(base, h1)…, h_d) of forwarding hooks every
    request entry point runs the same-named hook of EVERY level exactly once, in outer-to-inner order,
    and then reaches the real client exactly once — no level is skipped or doubled -/
theorem stacked_every_level_once (d : Nat) (w : String) (hw : w ∈ userWrappers) (m : String)
    (hm : m ∈ entryPoints) (hi : m ∈ ifaceOf w) : stackCall d w m = expectLevels d w m := by
  induction d with
  | zero => rfl
  | succ d ih => simp only [stackCall, expectLevels, (call_facts.2.1 w hw m hm hi).2.2, ih]

/-- the same on every client reachable through Dedicated / Dedicate / Nodes -/
theorem stacked_reachable_every_level_once (d : Nat) (w : String) (h : Reach w) (m : String)
    (hm : m ∈ entryPoints) (hi : m ∈ ifaceOf w) : stackCall d w m = expectLevels d w m :=
  stacked_every_level_once d w (reach_user w h) m hm hi

/-! ### Non-vacuity -/

example : stackCall 3 "hookclient" "DoCache" =
    [Ev.hookAt 3 "DoCache" "other", Ev.hookAt 2 "DoCache" "other", Ev.hookAt 1 "DoCache" "inner", Ev.inner "DoCache"] := by decide +kernel

example : Reach "dedicated" :=
  Reach.step (w := "hookclient") (m := "Dedicate")
    (Reach.step (w := "hookclient") (m := "Nodes") Reach.root (by decide +kernel) (by decide +kernel)
      derived_clients_wrapped_again.2.2)
    (by decide +kernel) (by decide +kernel) derived_clients_wrapped_again.2.1

example : follow withHook ["nodes", "nodes", "dedicated"] [] =
    some ("dedicated", [Ev.inner "Nodes", Ev.inner "Nodes", Ev.inner "Dedicated"]) := by decide +kernel

example : answer ["nodes", "dedicate"] "DoMulti" true =
    "log=inner:Nodes,inner:Dedicate,hook:DoMulti(other),inner:DoMulti ret=hook" := by decide +kernel

end Rv.C43
