/-
C13 — RESP decoding rejects malformed input without crashing.
For EVERY byte sequence the model reader returns a value or an error: it never
reaches a Go runtime panic (negative `make`/`Grow`) and never requests an
allocation beyond a fixed reserve plus what has already been received.
-/
import Rv.Lemmas.RespBasics
namespace Rv.C13
open Rv Rv.Resp Rv.RespL

private theorem safe_cases {α} {r : Res α} (h : r.safe = true) : (∃ a, r = .ok a) ∨ ∃ e, r = .err e := by
  cases r with
  | ok a => exact .inl ⟨a, rfl⟩
  | err e => exact .inr ⟨e, rfl⟩
  | panic => cases h
  | oom => cases h

private theorem grow_safe (fuel n len avail : Nat) : (grow fuel n len avail).safe = true := by
  induction fuel generalizing n with
  | zero => rfl
  | succ f ih =>
    unfold grow
    split
    · rw [alloc_ok (by omega) (by omega)]
      dsimp only
      split
      · rfl
      · exact ih _
    · rfl

private theorem readB_safe (B : Nat) (bs : List UInt8) : ∀ r, readB B bs = .fail r → ∃ e, r = .err e := by
  intro r h
  unfold readB at h
  split at h
  · injection h with h; exact ⟨_, h.symm⟩
  · cases h
  · rename_i len r0 _
    split at h
    · cases h
    · split at h
      · injection h with h; exact ⟨_, h.symm⟩
      · rename_i hneg
        have ha : alloc (min len.toNat capBytes : Nat) 0 capBytes = .ok () := alloc_ok (by omega) (by omega)
        dsimp only at h
        rw [ha] at h
        dsimp only at h
        split at h
        · injection h with h; exact ⟨_, h.symm⟩
        · have hg := grow_safe len.toNat (min len.toNat capBytes) len.toNat r0.length
          split at h
          · injection h with h; exact ⟨_, h.symm⟩
          · rename_i hp; rw [hp] at hg; cases hg
          · rename_i hp; rw [hp] at hg; cases hg
          · split at h
            · injection h with h; exact ⟨_, h.symm⟩
            · cases h

private theorem readChunks_safe (B : Nat) (fuel : Nat) (acc bs : List UInt8) : (readChunks B fuel acc bs).safe = true := by
  induction fuel generalizing acc bs with
  | zero => rfl
  | succ f ih =>
    unfold readChunks
    split
    · rfl
    · split
      · rfl
      · rfl
      · rename_i len r _
        split
        · rfl
        · split
          · rfl
          · rename_i _ hneg
            rw [alloc_ok (by omega) (by omega)]
            dsimp only
            split
            · rfl
            · split
              · rfl
              · exact ih _ _

private theorem preFixed_safe (len : Int) : (preFixed len).safe = true := by
  unfold preFixed
  split
  · rfl
  · rename_i h; rw [alloc_ok (by omega) (by omega)]; rfl

private theorem wrapFixed_safe (t : UInt8) (len : Int) (r) (h : r.safe = true) : (wrapFixed t len r).safe = true := by
  cases r <;> simp_all [wrapFixed, Res.safe]

private theorem wrapStream_safe (t : UInt8) (r) (h : r.safe = true) : (wrapStream t r).safe = true := by
  cases r <;> simp_all [wrapStream, Res.safe]

private theorem fixedBody_safe (t : UInt8) (len : Int) (k : Nat → Res (List Msg × List UInt8))
    (hk : ∀ n, (k n).safe = true) : (fixedBody t len k).safe = true := by
  unfold fixedBody
  rcases safe_cases (preFixed_safe len) with ⟨a, h⟩ | ⟨e, h⟩
  · rw [h]; exact wrapFixed_safe _ _ _ (hk _)
  · rw [h]; rfl

private theorem arrCase_safe (t : UInt8) (ri : IRes) (kA kE)
    (hA : ∀ n r, (kA n r).safe = true) (hE : ∀ r, (kE r).safe = true) : (arrCase t ri kA kE).safe = true := by
  unfold arrCase
  split
  · split
    · rfl
    · exact fixedBody_safe _ _ _ (fun n => hA n _)
  · exact wrapStream_safe _ _ (hE _)
  · rfl

private theorem mapCase_safe (t : UInt8) (ri : IRes) (kA kE)
    (hA : ∀ n r, (kA n r).safe = true) (hE : ∀ r, (kE r).safe = true) : (mapCase t ri kA kE).safe = true := by
  unfold mapCase
  split
  · exact fixedBody_safe _ _ _ (fun n => hA n _)
  · exact wrapStream_safe _ _ (hE _)
  · rfl

private def AllSafe (B f : Nat) : Prop :=
  (∀ ats bs, (readNext B f ats bs).safe = true) ∧
  (∀ t rk bs, (readBody B f t rk bs).safe = true) ∧
  (∀ n bs, (readArr B f n bs).safe = true) ∧
  (∀ acc bs, (readEnd B f acc bs).safe = true)

private theorem readS_safe (bs : List UInt8) : (readS bs).safe = true := by
  unfold readS
  split
  · rfl
  · split <;> rfl

private theorem discard2_safe (bs : List UInt8) : (discard2 bs).safe = true := by
  unfold discard2; split <;> rfl

/-- the leaf readers do not recurse; the aggregate readers are safe when the loops they call are -/
private theorem body_safe (B f : Nat) (t : UInt8) (rk : RK) (bs : List UInt8)
    (hf : ∀ g, f = g + 1 → (∀ n r, (readArr B g n r).safe = true) ∧ ∀ acc r, (readEnd B g acc r).safe = true) :
    (readBody B f t rk bs).safe = true := by
  cases rk with
  | blob =>
    rw [readBody]
    split
    · rfl
    · rfl
    · rename_i r0 _
      rcases safe_cases (readChunks_safe B (r0.length + 1) [] r0) with ⟨a, h⟩ | ⟨e, h⟩
      all_goals rw [h]; rfl
    · rfl
    · rename_i h; obtain ⟨e, he⟩ := readB_safe B bs _ h; cases he
    · rename_i h; obtain ⟨e, he⟩ := readB_safe B bs _ h; cases he
    · rfl
  | simple =>
    rw [readBody]
    rcases safe_cases (readS_safe bs) with ⟨a, h⟩ | ⟨e, h⟩
    all_goals rw [h]; rfl
  | integer => rw [readBody]; split <;> rfl
  | null =>
    rw [readBody]
    rcases safe_cases (discard2_safe bs) with ⟨a, h⟩ | ⟨e, h⟩
    all_goals rw [h]; rfl
  | bool =>
    cases bs with
    | nil => rw [readBody]; rfl
    | cons b r0 =>
      rw [readBody]
      rcases safe_cases (discard2_safe r0) with ⟨a, h⟩ | ⟨e, h⟩
      all_goals rw [h]; rfl
  | array =>
    cases f with
    | zero => rw [readBody]; rfl
    | succ g => rw [readBody]; exact arrCase_safe _ _ _ _ (hf g rfl).1 (fun r => (hf g rfl).2 [] r)
  | map =>
    cases f with
    | zero => rw [readBody]; rfl
    | succ g => rw [readBody]; exact mapCase_safe _ _ _ _ (hf g rfl).1 (fun r => (hf g rfl).2 [] r)

private theorem all_safe (B : Nat) : ∀ f, AllSafe B f := by
  intro f
  induction f with
  | zero =>
    refine ⟨?_, ?_, ?_, ?_⟩
    · intro ats bs; rw [readNext]; rfl
    · exact fun t rk bs => body_safe B 0 t rk bs (fun _ h => nomatch h)
    · intro n bs; cases n <;> rw [readArr] <;> rfl
    · intro acc bs; rw [readEnd]; rfl
  | succ f ih =>
    obtain ⟨ihN, ihB, ihA, ihE⟩ := ih
    refine ⟨?_, ?_, ?_, ?_⟩
    · intro ats bs
      cases bs with
      | nil => rw [readNext]; rfl
      | cons t bs =>
        rw [readNext]
        split
        · rfl
        · rcases safe_cases (ihB t ‹_› bs) with ⟨⟨om, r⟩, h⟩ | ⟨e, h⟩
          · rw [h]
            cases om with
            | none => rfl
            | some m =>
              dsimp only
              split
              · exact ihN _ _
              · rfl
          · rw [h]; rfl
    · exact fun t rk bs => body_safe B _ t rk bs (fun g h => by cases h; exact ⟨ihA, ihE⟩)
    · intro n bs
      cases n with
      | zero => rw [readArr]; rfl
      | succ n =>
        rw [readArr]
        rcases safe_cases (ihN [] bs) with ⟨⟨m, r⟩, h⟩ | ⟨e, h⟩
        · rw [h]
          rcases safe_cases (ihA n r) with ⟨a, h2⟩ | ⟨e, h2⟩
          all_goals dsimp only; rw [h2]; rfl
        · rw [h]; rfl
    · intro acc bs
      rw [readEnd]
      rcases safe_cases (ihN [] bs) with ⟨⟨m, r⟩, h⟩ | ⟨e, h⟩
      · rw [h]
        dsimp only
        split
        · rfl
        · exact ihE _ _
      · rw [h]; rfl

/-- **C13 main theorem.** For every bufio size and every byte sequence a peer can send,
    decoding returns a value or an ordinary error — never a runtime panic and never an
    allocation beyond the fixed reserve plus the bytes already received. -/
theorem decode_never_panics (B : Nat) (bs : List UInt8) :
    (∃ m r, decode B bs = .ok (m, r)) ∨ (∃ e, decode B bs = .err e) := by
  rcases safe_cases ((all_safe B (2 * bs.length + 4)).1 [] bs) with ⟨a, h⟩ | ⟨e, h⟩
  · exact .inl ⟨a.1, a.2, h⟩
  · exact .inr ⟨e, h⟩

/-- every allocation request of the reader is within `max(reserve, received)`:
    the allocation primitive only succeeds under that bound, and the reader never fails it -/
theorem alloc_bounded (req : Int) (received cap : Nat) (h : alloc req received cap = .ok ()) :
    0 ≤ req ∧ req.toNat ≤ max cap received := by
  unfold alloc at h
  split at h
  · cases h
  · split at h
    · cases h
    · omega

end Rv.C13

namespace Rv.C13
open Rv Rv.Resp
/-! the hostile frames that crashed the unrepaired reader are ordinary errors now -/
private def isErr {α} (r : Res α) (e : String) : Bool := match r with | .err x => x == e | _ => false
example : isErr (decode 4096 [36, 45, 50, 13, 10]) "neglen" = true := by decide +kernel          -- $-2
example : isErr (decode 4096 [42, 45, 50, 13, 10]) "neglen" = true := by decide +kernel          -- *-2
example : isErr (decode 4096 [37, 45, 49, 13, 10]) "neglen" = true := by decide +kernel          -- %-1
example : isErr (decode 4096 [36, 63, 13, 10, 59, 45, 50, 13, 10]) "neglen" = true := by decide +kernel   -- $? ;-2
end Rv.C13
