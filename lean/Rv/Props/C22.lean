/-
C22 — read-node selectors follow their documented priorities.
Model: Rv/Model/Selector.lean (helper.go after the `fix:` commit for the empty list).
-/
import Rv.Model.Selector
import Rv.Spec.Selector
namespace Rv.C22
open Rv.Selector Rv.Spec.Selector

variable {α : Type} [DecidableEq α]
set_option linter.unusedSectionVars false

private theorem exists_nat_cases (P : Nat → Prop) : (∃ k, P k) ↔ P 0 ∨ ∃ k, P (k + 1) :=
  ⟨fun ⟨k, h⟩ => by cases k with | zero => exact .inl h | succ k => exact .inr ⟨k, h⟩,
   fun h => h.elim (fun h => ⟨0, h⟩) fun ⟨k, h⟩ => ⟨k + 1, h⟩⟩

private theorem mem_matchIdx (az : α) (xs : List α) (i limit j : Nat) :
    j ∈ matchIdx az xs i limit ↔ j < limit ∧ ∃ k, j = i + k ∧ xs[k]? = some az := by
  induction xs generalizing i with
  | nil => simp [matchIdx]
  | cons x xs ih =>
    unfold matchIdx
    by_cases hl : i < limit
    · -- position `i` is the head, the positions beyond it are those of the tail from `i + 1`
      rw [if_pos hl, exists_nat_cases]
      simp only [List.getElem?_cons_zero, List.getElem?_cons_succ, Nat.add_zero, Option.some.injEq,
        ← Nat.add_assoc, Nat.add_right_comm i _ 1]
      split
      · rw [List.mem_cons, ih]
        constructor
        · rintro (rfl | ⟨h, e⟩)
          · exact ⟨hl, .inl ⟨rfl, ‹_›⟩⟩
          · exact ⟨h, .inr e⟩
        · rintro ⟨h, ⟨rfl, _⟩ | e⟩
          · exact .inl rfl
          · exact .inr ⟨h, e⟩
      · rw [ih]
        exact and_congr_right fun _ => ⟨.inr, fun h => h.resolve_left fun h => ‹¬x = az› h.2⟩
    · rw [if_neg hl]
      exact ⟨nofun, fun ⟨h, k, e, _⟩ => by omega⟩

private theorem lt_of_getElem? {l : List α} {j : Nat} {a : α} (h : l[j]? = some a) : j < l.length :=
  let ⟨hlt, _⟩ := List.getElem?_eq_some_iff.1 h
  hlt

private theorem mem_sameAZ (nodes : List α) (az : α) (s j : Nat) :
    j ∈ sameAZ nodes az s ↔ s ≤ j ∧ j < 255 ∧ nodes[j]? = some az := by
  unfold sameAZ
  rw [mem_matchIdx]
  simp only [List.getElem?_drop]
  constructor
  · rintro ⟨h, k, rfl, hk⟩
    exact ⟨Nat.le_add_right s k, by omega, hk⟩
  · rintro ⟨h1, h2, h3⟩
    have := lt_of_getElem? h3
    exact ⟨by omega, j - s, by omega, by rw [Nat.add_sub_cancel' h1]; exact h3⟩

/-- the Go loop computes the first 8 matches (as `uint8`s) -/
private theorem scanLoop_eq (az : α) (xs : List α) (i limit : Nat) (ms : List Nat) (hms : ms.length < 8) :
    scanLoop az xs i limit ms = (ms ++ (matchIdx az xs i limit).map (· % 256)).take 8 := by
  induction xs generalizing i ms with
  | nil => simp [scanLoop, matchIdx, List.take_of_length_le (Nat.le_of_lt hms)]
  | cons x xs ih =>
    unfold scanLoop matchIdx
    by_cases hl : i < limit
    · by_cases hx : x = az
      · simp only [hl, hx, if_true, List.map_cons]
        rw [List.append_cons ms _ (List.map _ _)]
        split
        · next h8 => exact (List.take_left' h8).symm
        · next h8 => exact ih (i + 1) _ (by simp at h8 ⊢; omega)
      · simp only [hl, hx, if_true, if_false]
        exact ih (i + 1) ms hms
    · simp [hl, List.take_of_length_le (Nat.le_of_lt hms)]

private theorem scanLoop_cands (nodes : List α) (az : α) (s : Nat) :
    scanLoop az (nodes.drop s) s (min nodes.length 255) [] = cands nodes az s := by
  rw [scanLoop_eq _ _ _ _ [] (Nat.zero_lt_succ 7), List.nil_append]
  -- every match is below 255, so the `uint8` conversion changes nothing
  rw [List.map_congr_left fun j hj => Nat.mod_eq_of_lt (by have := ((mem_matchIdx ..).1 hj).1; omega),
    List.map_id']
  rfl

private theorem cands_sub (nodes : List α) (az : α) (s j : Nat) (h : j ∈ cands nodes az s) :
    s ≤ j ∧ j < 255 ∧ nodes[j]? = some az :=
  (mem_sameAZ nodes az s j).1 (List.mem_of_mem_take h)

private theorem cands_nil_iff (nodes : List α) (az : α) (s : Nat) :
    cands nodes az s = [] ↔ ¬ ∃ j, s ≤ j ∧ j < 255 ∧ nodes[j]? = some az := by
  unfold cands
  rw [List.take_eq_nil_iff, List.eq_nil_iff_forall_not_mem]
  simp [mem_sameAZ]

/-- `pickAZ` returns -1 without touching the counter when there is no candidate, otherwise
    advances the counter once and returns candidate number `counter mod count`. -/
theorem pickAZ_eq (nodes : List α) (az : α) (s c : Nat) :
    (cands nodes az s = [] ∧ pickAZ nodes az s c = (-1, c)) ∨
    (∃ m, (cands nodes az s)[((c + 1) % U32) % (cands nodes az s).length]? = some m ∧
          pickAZ nodes az s c = (Int.ofNat m, (c + 1) % U32)) := by
  unfold pickAZ
  by_cases hn : nodes.length ≤ s
  · left
    refine ⟨?_, by simp [hn]⟩
    unfold cands sameAZ
    rw [List.drop_eq_nil_of_le hn]; rfl
  · simp only [hn, if_false, scanLoop_cands]
    cases hc : cands nodes az s with
    | nil => left; simp
    | cons a l =>
      right
      have hlt : ((c + 1) % U32) % (a :: l).length < (a :: l).length := Nat.mod_lt _ (by simp)
      refine ⟨(a :: l)[((c + 1) % U32) % (a :: l).length], by simp, ?_⟩
      have hne : ¬ ((a :: l).length = 0) := by simp
      simp only [hne, if_false]
      rw [List.getElem?_eq_getElem hlt]

/-- `pickAZ` returns -1 or the index of a node of `nodes[startIdx:]` in the client's AZ -/
theorem pickAZ_valid (nodes : List α) (az : α) (s c : Nat) :
    (pickAZ nodes az s c).1 = -1 ∨
    ∃ j : Nat, (pickAZ nodes az s c).1 = Int.ofNat j ∧ s ≤ j ∧ j < nodes.length ∧ j < 255 ∧ nodes[j]? = some az := by
  rcases pickAZ_eq nodes az s c with ⟨_, h⟩ | ⟨m, hm, h⟩
  · left; rw [h]
  · right
    refine ⟨m, by rw [h], ?_⟩
    have hmem : m ∈ cands nodes az s := List.mem_of_getElem? hm
    obtain ⟨h1, h2, h3⟩ := cands_sub nodes az s m hmem
    exact ⟨h1, lt_of_getElem? h3, h2, h3⟩

/-- a result is acceptable to the caller: -1 or an index into the node list -/
def Valid (nodes : List α) (r : Int) : Prop := r = -1 ∨ (0 ≤ r ∧ r < (nodes.length : Int))

theorem Valid.of_lt {nodes : List α} {j : Nat} (h : j < nodes.length) : Valid nodes (Int.ofNat j) :=
  .inr ⟨Int.natCast_nonneg _, Int.ofNat_lt.2 h⟩

/-- PreferReplicaNodeSelector: -1 or a valid index, for every node list (any length) and counter value -/
theorem prefer_valid (nodes : List α) (c : Nat) : Valid nodes (preferReplica nodes c).1 := by
  unfold preferReplica anyReplica
  dsimp only
  split
  · next h =>
    have := Nat.mod_lt ((c + 1) % U32) (show nodes.length % U32 - 1 > 0 by omega)
    have := Nat.mod_le nodes.length U32
    exact .of_lt (by omega)
  · exact .inl rfl

private theorem valid_pickAZ (nodes : List α) (az : α) (s c : Nat) : Valid nodes (pickAZ nodes az s c).1 := by
  rcases pickAZ_valid nodes az s c with h | ⟨j, hj, _, hlt, _⟩
  · exact .inl h
  · rw [hj]; exact .of_lt hlt

/-- AZAffinityNodeSelector (and `newAZSelector` with any start index ≥ 0): -1 or a valid index,
    for every node list — including the empty one — and every counter value -/
theorem az_valid (az : α) (s : Nat) (nodes : List α) (c : Nat) : Valid nodes (azSelector az s nodes c).1 := by
  unfold azSelector
  dsimp only
  split
  · exact valid_pickAZ nodes az s c
  · split
    · next hc =>
      have := Nat.mod_lt (((pickAZ nodes az s c).2 + 1) % U32) hc
      have := Nat.mod_le (nodes.length - s) U32
      exact .of_lt (by omega)
    · exact .inl rfl

/-- AZAffinityReplicasAndPrimaryNodeSelector: -1 or a valid index for every node list and counter value -/
theorem azp_valid (az : α) (nodes : List α) (c : Nat) : Valid nodes (azpSelector az nodes c).1 := by
  unfold azpSelector
  dsimp only
  split
  · exact valid_pickAZ nodes az 1 c
  · split
    · next h0 => exact .of_lt (lt_of_getElem? h0.2)
    · exact prefer_valid nodes _

private theorem pickAZ_ne (nodes : List α) (az : α) (s c : Nat) (hne : cands nodes az s ≠ []) :
    (pickAZ nodes az s c).1 ≠ -1 := by
  rcases pickAZ_eq nodes az s c with ⟨hnil, _⟩ | ⟨m, _, hp⟩
  · exact absurd hnil hne
  · rw [hp]; nofun

private theorem az_eq_pickAZ (az : α) (nodes : List α) (c : Nat) (hne : cands nodes az 1 ≠ []) :
    azAffinity az nodes c = pickAZ nodes az 1 c := if_pos (pickAZ_ne nodes az 1 c hne)

private theorem azp_eq_pickAZ (az : α) (nodes : List α) (c : Nat) (hne : cands nodes az 1 ≠ []) :
    azpSelector az nodes c = pickAZ nodes az 1 c := if_pos (pickAZ_ne nodes az 1 c hne)

/-- AZAffinityNodeSelector: whenever a replica (index ≥ 1) in the client's AZ exists among the first
    255 nodes, the chosen node is a replica in the client's AZ -/
theorem az_same_az_replica_preferred (az : α) (nodes : List α) (c : Nat)
    (h : ∃ j, 1 ≤ j ∧ j < 255 ∧ nodes[j]? = some az) :
    ∃ j : Nat, (azAffinity az nodes c).1 = Int.ofNat j ∧ 1 ≤ j ∧ j < 255 ∧ nodes[j]? = some az := by
  have hne : cands nodes az 1 ≠ [] := fun hnil => (cands_nil_iff nodes az 1).1 hnil h
  rw [az_eq_pickAZ az nodes c hne]
  obtain ⟨j, h1, h2, _, h3⟩ := (pickAZ_valid nodes az 1 c).resolve_left (pickAZ_ne nodes az 1 c hne)
  exact ⟨j, h1, h2, h3⟩

/-- AZAffinityReplicasAndPrimaryNodeSelector: same statement -/
theorem azp_same_az_replica_preferred (az : α) (nodes : List α) (c : Nat)
    (h : ∃ j, 1 ≤ j ∧ j < 255 ∧ nodes[j]? = some az) :
    ∃ j : Nat, (azpSelector az nodes c).1 = Int.ofNat j ∧ 1 ≤ j ∧ j < 255 ∧ nodes[j]? = some az := by
  have hne : cands nodes az 1 ≠ [] := fun hnil => (cands_nil_iff nodes az 1).1 hnil h
  rw [azp_eq_pickAZ az nodes c hne]
  obtain ⟨j, h1, h2, _, h3⟩ := (pickAZ_valid nodes az 1 c).resolve_left (pickAZ_ne nodes az 1 c hne)
  exact ⟨j, h1, h2, h3⟩

private theorem pickAZ_none (nodes : List α) (az : α) (s c : Nat)
    (h : ¬ ∃ j, s ≤ j ∧ j < 255 ∧ nodes[j]? = some az) : pickAZ nodes az s c = (-1, c) := by
  rcases pickAZ_eq nodes az s c with ⟨_, hp⟩ | ⟨m, hm, _⟩
  · exact hp
  · exact absurd ⟨m, cands_sub nodes az s m (List.mem_of_getElem? hm)⟩ h

/-- AZAffinityNodeSelector falls back to round robin over all replicas `1 … n-1`, and to -1
    when there is no replica (empty list or primary only) -/
theorem az_fallback (az : α) (nodes : List α) (c : Nat)
    (h : ¬ ∃ j, 1 ≤ j ∧ j < 255 ∧ nodes[j]? = some az) (hn : nodes.length ≤ U32) :
    azAffinity az nodes c =
      if nodes.length > 1 then (Int.ofNat (((c + 1) % U32) % (nodes.length - 1) + 1), (c + 1) % U32)
      else (-1, c) := by
  unfold azAffinity azSelector
  rw [pickAZ_none nodes az 1 c h]
  dsimp only
  rw [if_neg (not_not_intro rfl), Nat.mod_eq_of_lt (show nodes.length - 1 < U32 by unfold U32 at *; omega)]
  by_cases h1 : nodes.length > 1
  · rw [if_pos h1, if_pos (by omega)]
  · rw [if_neg h1, if_neg (by omega)]

/-- AZAffinityReplicasAndPrimaryNodeSelector: 2. same-AZ primary (counter untouched),
    3. any replica in round robin, 4. -1 (primary) -/
theorem azp_fallback (az : α) (nodes : List α) (c : Nat)
    (h : ¬ ∃ j, 1 ≤ j ∧ j < 255 ∧ nodes[j]? = some az) (hn : nodes.length < U32) :
    azpSelector az nodes c =
      if nodes[0]? = some az then (0, c)
      else if nodes.length > 1 then (Int.ofNat (((c + 1) % U32) % (nodes.length - 1) + 1), (c + 1) % U32)
      else (-1, c) := by
  unfold azpSelector anyReplica
  rw [pickAZ_none nodes az 1 c h]
  dsimp only
  rw [if_neg (not_not_intro rfl), Nat.mod_eq_of_lt hn]
  by_cases h0 : nodes[0]? = some az
  · rw [if_pos h0, if_pos ⟨lt_of_getElem? h0, h0⟩]
  · rw [if_neg h0, if_neg fun h' => h0 h'.2]

/-- PreferReplicaNodeSelector: round robin over the replicas `1 … n-1`, -1 when there is none -/
theorem prefer_eq (nodes : List α) (c : Nat) (hn : nodes.length < U32) :
    preferReplica nodes c =
      if nodes.length > 1 then (Int.ofNat (((c + 1) % U32) % (nodes.length - 1) + 1), (c + 1) % U32)
      else (-1, c) := by
  unfold preferReplica anyReplica
  rw [Nat.mod_eq_of_lt hn]

private theorem calls_of_form (sel : List α → Nat → Int × Nat) (nodes : List α) (f : Nat → Int)
    (h : ∀ c, sel nodes c = (f ((c + 1) % U32), (c + 1) % U32)) (c k : Nat) :
    calls sel nodes c (k + 1) = (f ((c + k + 1) % U32), (c + k + 1) % U32) := by
  induction k with
  | zero => simp [calls, h]
  | succ k ih =>
    show sel nodes (calls sel nodes c (k + 1)).2 = _
    rw [ih, h, Nat.mod_add_mod]
    rfl

private theorem pickAZ_rotation (sel : List α → Nat → Int × Nat) (az : α) (nodes : List α) (c k : Nat)
    (hsel : ∀ c', sel nodes c' = pickAZ nodes az 1 c') (hne : cands nodes az 1 ≠ []) :
    ∃ m, (cands nodes az 1)[((c + k + 1) % U32) % (cands nodes az 1).length]? = some m ∧
      calls sel nodes c (k + 1) = (Int.ofNat m, (c + k + 1) % U32) := by
  have hform : ∀ c', sel nodes c' =
      (Int.ofNat ((cands nodes az 1)[((c' + 1) % U32) % (cands nodes az 1).length]?.getD 0), (c' + 1) % U32) := by
    intro c'
    rcases pickAZ_eq nodes az 1 c' with ⟨hnil, _⟩ | ⟨m, hm, hp⟩
    · exact absurd hnil hne
    · rw [hsel, hp, hm]; rfl
  rw [calls_of_form sel nodes (fun x => Int.ofNat ((cands nodes az 1)[x % (cands nodes az 1).length]?.getD 0)) hform c k]
  have hlt : ((c + k + 1) % U32) % (cands nodes az 1).length < (cands nodes az 1).length :=
    Nat.mod_lt _ (List.length_pos_iff.2 hne)
  exact ⟨_, List.getElem?_eq_getElem hlt, by rw [List.getElem?_eq_getElem hlt]; rfl⟩

/-- the (k+1)-th consecutive call on a node list with same-AZ replicas returns candidate number
    `((c₀ + k + 1) mod 2^32) mod count` of the (at most 8) candidates, in ascending index order -/
theorem az_rotation (az : α) (nodes : List α) (c k : Nat) (hne : cands nodes az 1 ≠ []) :
    ∃ m, (cands nodes az 1)[((c + k + 1) % U32) % (cands nodes az 1).length]? = some m ∧
      calls (azAffinity az) nodes c (k + 1) = (Int.ofNat m, (c + k + 1) % U32) :=
  pickAZ_rotation _ az nodes c k (fun c' => az_eq_pickAZ az nodes c' hne) hne

/-- same for AZAffinityReplicasAndPrimaryNodeSelector -/
theorem azp_rotation (az : α) (nodes : List α) (c k : Nat) (hne : cands nodes az 1 ≠ []) :
    ∃ m, (cands nodes az 1)[((c + k + 1) % U32) % (cands nodes az 1).length]? = some m ∧
      calls (azpSelector az) nodes c (k + 1) = (Int.ofNat m, (c + k + 1) % U32) :=
  pickAZ_rotation _ az nodes c k (fun c' => azp_eq_pickAZ az nodes c' hne) hne

/-- the candidates are exactly the first (at most 8) replicas in the client's AZ among the
    first 255 nodes: every candidate is one, and if such a replica exists the list is not empty -/
theorem cands_spec (az : α) (nodes : List α) :
    (∀ j ∈ cands nodes az 1, 1 ≤ j ∧ j < 255 ∧ nodes[j]? = some az) ∧
    ((∃ j, 1 ≤ j ∧ j < 255 ∧ nodes[j]? = some az) → cands nodes az 1 ≠ []) ∧
    (cands nodes az 1).length ≤ 8 := by
  refine ⟨fun j hj => cands_sub nodes az 1 j hj, fun h hnil => (cands_nil_iff nodes az 1).1 hnil h, ?_⟩
  unfold cands; simp [List.length_take]; omega

/-- without same-AZ candidates the replicas `1 … n-1` are visited cyclically, one step per call
    (PreferReplicaNodeSelector always; the AZ selectors in their "any replica" fallback) -/
theorem prefer_rotation (nodes : List α) (c k : Nat) (h1 : nodes.length > 1) (hn : nodes.length < U32) :
    calls preferReplica nodes c (k + 1) =
      (Int.ofNat (((c + k + 1) % U32) % (nodes.length - 1) + 1), (c + k + 1) % U32) :=
  calls_of_form preferReplica nodes (fun x => Int.ofNat (x % (nodes.length - 1) + 1))
    (fun c' => by rw [prefer_eq nodes c' hn, if_pos h1]) c k

theorem az_fallback_rotation (az : α) (nodes : List α) (c k : Nat)
    (h : ¬ ∃ j, 1 ≤ j ∧ j < 255 ∧ nodes[j]? = some az) (h1 : nodes.length > 1) (hn : nodes.length < U32) :
    calls (azAffinity az) nodes c (k + 1) =
      (Int.ofNat (((c + k + 1) % U32) % (nodes.length - 1) + 1), (c + k + 1) % U32) :=
  calls_of_form (azAffinity az) nodes (fun x => Int.ofNat (x % (nodes.length - 1) + 1))
    (fun c' => by rw [az_fallback az nodes c' h (Nat.le_of_lt hn), if_pos h1]) c k

/-- before the `fix:` commit `uint32(len(nodes) - startIdx)` wrapped on the empty list and the
    selector answered index 2 for a list without nodes -/
theorem old_az_empty_invalid : azSelectorOld "a" 1 ([] : List String) 0 = (2, 1) := by decide

theorem old_az_empty_not_valid : ¬ Valid ([] : List String) (azSelectorOld "a" 1 [] 0).1 := by
  rw [old_az_empty_invalid]; unfold Valid; simp

example : cands ["a", "b", "a", "b", "b"] "b" 1 = [1, 3, 4] := by decide
example : calls (azAffinity "b") ["a", "b", "a", "b", "b"] 0 1 = (3, 1) := by decide
example : calls (azAffinity "b") ["a", "b", "a", "b", "b"] 0 2 = (4, 2) := by decide
example : calls (azAffinity "b") ["a", "b", "a", "b", "b"] 0 3 = (1, 3) := by decide
example : azpSelector "z" ["z", "b"] 7 = (0, 7) := by decide
example : azpSelector "z" ["y", "b", "c"] 7 = (1, 8) := by decide
example : azAffinity "z" ([] : List String) 0 = (-1, 0) := by decide
example : azAffinity "z" ["z"] 0 = (-1, 0) := by decide

end Rv.C22
