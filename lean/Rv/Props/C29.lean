/-
C29 — Streaming reads deliver exact bytes and recycle connections.

Part 1: `streamTo` (resp.go) on the model `Rv.StreamTo` (built on the C12 reader model).
Part 2: the `RedisResultStream` automaton (pipe.go) on the model `Rv.ResultStream`.
The blocking pool behind `store` is C24 (`Rv.Pool`, `Rv.C24.*`), the normal reader is
C12 (`Rv.C12.decode_encode`), its panic freedom C13 (`Rv.C13.decode_never_panics`).
`B` is the bufio buffer size; `32 ≤ B` so that the header line of a 64-bit length fits, as in
C12 (rueidis uses ≥ 4096). `9223372036854775808` is 2^63: lengths are Go `int64`s (`Rv.Spec.lim`).
-/
import Rv.Lemmas.StreamBasics
import Rv.Lemmas.StreamInv
import Rv.Lemmas.StreamCut
import Rv.Model.ResultStream
namespace Rv.C29
open Rv Rv.Resp Rv.Spec Rv.RespL Rv.StreamTo Rv.StreamL

/-! ## Part 1: streamTo -/

/-- replies whose payload a streaming read must deliver: `$`/`=` blob strings (also
    chunked), `+` simple strings, `,` floats, `(` big numbers, integers, booleans -/
def streamable : Wire → Bool
  | .blob t _ => t == 36 || t == 61
  | .chunked t _ => t == 36 || t == 61
  | .line t _ => t == 43 || t == 44 || t == 40
  | .int _ => true
  | .bool _ => true
  | _ => false

/-- what a *normal* read of the reply hands to the user: the string, or the decimal
    rendering of the integer / boolean -/
abbrev payload (w : Wire) : List UInt8 := payloadOf (value w [])

/-- For every well-formed streamable reply `w` (incl. chunked `$?`
    strings), preceded by any number of well-formed push frames and followed by any bytes
    `rest`, `streamTo` with a writer that does not fail writes exactly the bytes a normal
    read returns (`payload w`; by `Rv.C12.decode_encode` that is the value the normal reader
    decodes), reports their count, no error, clean = true, and leaves `rest` unread. -/
theorem stream_eq_payload (B : Nat) (hb : 32 ≤ B) (ps : List Wire) (hps : Pushes ps) (w : Wire) (hwf : WF w = true)
    (hs : streamable w = true) (rest : List UInt8) (wr : Wr) (hw : wr.budget = none) :
    run B wr (bytesL ps ++ (bytes w ++ rest)) =
      ⟨(payload w).length, .none, true, rest, { wr with out := wr.out ++ payload w }⟩ := by
  cases w with
  | blob t s =>
    simp only [streamable, Bool.or_eq_true, beq_iff_eq] at hs
    simp only [WF, Bool.and_eq_true, lim] at hwf
    obtain ⟨f, e⟩ := run_blob B hb ps hps t s rest wr
    obtain ⟨ht, h59⟩ := blobT_like hs
    have hpay : payload (.blob t s) = s := by
      rcases hs with h | h <;> subst h <;> simp [payload, payloadOf, value, Msg.typ, Msg.str]
    rw [e, streamTo_blob B hb f t ht s rest (of_decide_eq_true hwf.2) (fun e => absurd e h59) wr hw, hpay]
  | chunked t cs =>
    simp only [streamable, Bool.or_eq_true, beq_iff_eq] at hs
    obtain ⟨f, hf, e⟩ := run_chunked B hb ps hps t cs rest wr
    have hpay : payload (.chunked t cs) = cs.flatten := by
      rcases hs with h | h <;> subst h <;> simp [payload, payloadOf, value, Msg.typ, Msg.str]
    rw [e, hpay]
    exact streamTo_chunked B hb t (blobT_like hs).1 cs (chunks_wf hwf) f hf wr hw rest
  | line t s =>
    simp only [streamable, Bool.or_eq_true, beq_iff_eq] at hs
    refine run_default B hb ps hps _ hwf ?_ rest wr _ ?_ <;> rcases hs with (h | h) | h <;> subst h
    all_goals first | rfl | simp [msgCase, value, Msg.typ, Msg.str, writeOut, Wr.write, hw, payload, payloadOf]
  | int v =>
    exact run_default B hb ps hps _ hwf rfl rest wr _ (by
      simp [msgCase, value, Msg.typ, Msg.int, writeOut, Wr.write, hw, payload, payloadOf, fmtInt])
  | bool b =>
    exact run_default B hb ps hps _ hwf rfl rest wr _ (by
      simp [msgCase, value, Msg.typ, Msg.int, writeOut, Wr.write, hw, payload, payloadOf, fmtInt])
  | _ => simp [streamable] at hs

/-- the bytes delivered for an integer reply are its decimal rendering, for a string reply
    the string itself (unfolds `payload` for the two main cases) -/
theorem payload_cases (v : Int) (t : UInt8) (s : List UInt8) (ht : t = 36 ∨ t = 61) :
    payload (.int v) = decI v ∧ payload (.blob t s) = s := by
  refine ⟨by simp [payload, payloadOf, value, Msg.typ, Msg.int], ?_⟩
  rcases ht with h | h <;> subst h <;> simp [payload, payloadOf, value, Msg.typ, Msg.str]

/-- null replies: RESP3 `_`, RESP2 `$-1` / `=-1` / `!-1`, `*-1` -/
def isNullReply : Wire → Bool
  | .null => true
  | .nullBlob _ => true
  | .nullArr t => t != 62
  | _ => false

/-- A null reply (any of its wire forms, pushes in front) is reported as the
    `Nil` error with nothing written, clean = true and `rest` unread — whatever the writer. -/
theorem null_is_Nil (B : Nat) (hb : 32 ≤ B) (ps : List Wire) (hps : Pushes ps) (w : Wire) (hwf : WF w = true)
    (hn : isNullReply w = true) (rest : List UInt8) (wr : Wr) :
    run B wr (bytesL ps ++ (bytes w ++ rest)) = ⟨0, .nilMsg, true, rest, wr⟩ := by
  cases w with
  | null => exact run_default B hb ps hps _ hwf rfl rest wr _ (by simp [msgCase, value, Msg.typ])
  | nullBlob t =>
    cases hbl : isBlobLike t with
    | false => exact run_default B hb ps hps _ hwf hbl rest wr _ (by simp [msgCase, value, Msg.null, Msg.typ])
    | true =>
      obtain ⟨f, _, e⟩ := run_skip B hb ps hps (bytes (.nullBlob t) ++ rest) wr
      rw [e]
      exact streamTo_nullblob B hb f t hbl wr rest
  | nullArr t =>
    refine run_default B hb ps hps _ hwf ?_ rest wr _ (by simp [msgCase, value, Msg.null, Msg.typ])
    simp only [WF, isArrT, Bool.or_eq_true, beq_iff_eq] at hwf
    rcases hwf with (h | h) | h <;> subst h <;> rfl
  | _ => simp [isNullReply] at hn

/-- error replies: `-text`, `!n text`, chunked `!?` -/
def isErrorReply : Wire → Bool
  | .line t _ => t == 45
  | .blob t _ => t == 33
  | .chunked t _ => t == 33
  | _ => false

/-- A simple or blob error reply surfaces as a RedisError carrying
    exactly the error text, nothing is written, clean = true and `rest` is unread. -/
theorem error_reply_is_error (B : Nat) (hb : 32 ≤ B) (ps : List Wire) (hps : Pushes ps) (w : Wire) (hwf : WF w = true)
    (he : isErrorReply w = true) (rest : List UInt8) (wr : Wr) :
    run B wr (bytesL ps ++ (bytes w ++ rest)) = ⟨0, .redis (value w []).str, true, rest, wr⟩ := by
  cases w with
  | line t s | blob t s | chunked t s =>
    simp only [isErrorReply, beq_iff_eq] at he; subst he
    exact run_default B hb ps hps _ hwf rfl rest wr _ (by simp [msgCase, value, Msg.typ, Msg.str])
  | _ => simp [isErrorReply] at he

/-- aggregate replies: arrays, sets, maps (fixed length or streamed) -/
def aggType : Wire → Option UInt8
  | .arr t _ => if t = 42 ∨ t = 126 then some t else none
  | .map t _ => if t = 37 then some t else none
  | .stream t _ => if t = 42 ∨ t = 126 ∨ t = 37 then some t else none
  | _ => none

/-- An array / set / map reply is *not* streamed: `streamTo`
    returns the "unsupported … response" error. The code reports clean = true, and this is
    right: `readNextMessage` has consumed the whole aggregate — `rest` is exactly what
    follows the aggregate's frame, so the connection can be reused. -/
theorem aggregate_unsupported (B : Nat) (hb : 32 ≤ B) (ps : List Wire) (hps : Pushes ps) (w : Wire) (hwf : WF w = true)
    (t : UInt8) (ha : aggType w = some t) (rest : List UInt8) (wr : Wr) :
    run B wr (bytesL ps ++ (bytes w ++ rest)) = ⟨0, .unsupported t, true, rest, wr⟩ := by
  cases w with
  | arr t' xs =>
    simp only [aggType] at ha; split at ha <;> cases ha
    rename_i h
    refine run_default B hb ps hps _ hwf ?_ rest wr _ ?_ <;> rcases h with h | h <;> subst h <;>
      first | rfl | simp [msgCase, hd, value, Msg.typ]
  | map t' xs =>
    simp only [aggType] at ha; split at ha <;> cases ha
    rename_i h; subst h
    exact run_default B hb ps hps _ hwf rfl rest wr _ (by simp [msgCase, hd, value, Msg.typ])
  | stream t' xs =>
    simp only [aggType] at ha; split at ha <;> cases ha
    rename_i h
    refine run_default B hb ps hps _ hwf ?_ rest wr _ ?_ <;> rcases h with h | h | h <;> subst h <;>
      first | rfl | simp [msgCase, hd, value, Msg.typ]
  | _ => simp [aggType] at ha

/-- The code as it is: a string reply that carries a RESP3 attribute frame is
    *not* streamed — the default branch decodes it and reports "unsupported attribute
    response" (clean = true, frame fully consumed). -/
theorem attr_prefixed_string_unsupported (B : Nat) (hb : 32 ≤ B) (a : Wire) (s rest : List UInt8) (wr : Wr)
    (hwf : WF (.attr a (.blob 36 s)) = true) :
    run B wr (bytes (.attr a (.blob 36 s)) ++ rest) = ⟨0, .unsupported 124, true, rest, wr⟩ := by
  have ha : attrOK a = true := by simp only [WF, Bool.and_eq_true] at hwf; exact hwf.1
  exact run_default B hb [] (fun _ h => nomatch h) _ hwf (by rw [hd, hd_attr a ha]; rfl) rest wr
    ⟨0, .unsupported 124, true, rest, wr⟩ (by simp [msgCase, value, Msg.typ, hd, hd_attr a ha])

/-- Blob strings, the streaming-specific path: if the server
    stops anywhere inside the payload or its trailing CRLF of a `$n` / `=n` / `;n` frame,
    `streamTo` returns clean = false with a non-nil error — for *every* writer, failing or
    not (so `WriteTo` closes the wire before giving it back). -/
theorem short_input_not_clean (B : Nat) (hb : 32 ≤ B) (t : UInt8) (ht : t = 36 ∨ t = 61 ∨ t = 59)
    (n : Nat) (hn : n < 9223372036854775808) (h0 : n = 0 → t ≠ 59) (p : List UInt8) (hp : p.length < n + 2) (wr : Wr) :
    (run B wr (t :: (digits n ++ crlf ++ p))).clean = false ∧ (run B wr (t :: (digits n ++ crlf ++ p))).err ≠ .none := by
  exact streamTo_payload_cut B hb _ t (by rcases ht with rfl | rfl | rfl <;> rfl) n hn h0 p hp wr

/-- a connection that ends before any byte of the reply: error, not clean -/
theorem empty_input_not_clean (B : Nat) (wr : Wr) : run B wr [] = ⟨0, .rd "io", false, [], wr⟩ := by
  unfold run; rw [streamTo]

/-- the default branch on a strict prefix: `readNextMessage` fails (`Rv.StreamL.decode_cut`) -/
private theorem default_cut (B : Nat) (hb : 32 ≤ B) (w : Wire) (hwf : WF w = true) (hnb : isBlobLike (hd w) = false)
    (k : Nat) (hk : k < (bytes w).length) (f : Nat) (wr : Wr) :
    Unclean (streamTo B (f + 1) wr ((bytes w).take k)) := by
  cases k with
  | zero => exact streamTo_nil_unclean B _ wr
  | succ k =>
    obtain ⟨e, he⟩ := decode_cut B hb w hwf (k + 1) hk
    obtain ⟨tl, hbytes⟩ := bytes_hd w
    rw [hbytes, List.take_succ_cons] at he ⊢
    rw [streamTo]
    simp only [hnb, Bool.false_eq_true, if_false, defaultCase, he]
    exact ⟨rfl, by simp⟩

/-- For every well-formed wire form `w` — every reply type, any
    nesting, attribute frames, streamed strings and aggregates — and every cut position
    `k < |bytes w|` (inside the header line, inside the payload, inside the trailing CRLF,
    between or inside the chunks of a `$?` string, inside the `;0` marker, anywhere inside a
    `+`/`-`/`:`/`#`/`_`/`,`/`(` line or an aggregate handled by the default branch), `streamTo` on
    the first `k` bytes followed by EOF returns clean = false with a non-nil error — for every
    writer, failing or not. So `WriteTo` closes the wire before giving it back to the pool. -/
theorem strict_prefix_not_clean (B : Nat) (hb : 32 ≤ B) (w : Wire) (hwf : WF w = true) (k : Nat)
    (hk : k < (bytes w).length) (wr : Wr) :
    (run B wr ((bytes w).take k)).clean = false ∧ (run B wr ((bytes w).take k)).err ≠ .none := by
  show Unclean (run B wr ((bytes w).take k))
  unfold run
  generalize 2 * ((bytes w).take k).length + 4 = F
  cases hbl : isBlobLike (hd w) with
  | false =>
    cases F with
    | zero => exact streamTo_zero_unclean B wr _
    | succ f => exact default_cut B hb w hwf hbl k hk f wr
  | true =>
    obtain ⟨t, ht, ⟨s, rfl⟩ | ⟨cs, rfl⟩ | rfl⟩ := hd_blobLike w hwf hbl
    all_goals replace hbl : isBlobLike t = true := hbl
    · simp only [WF, Bool.and_eq_true, lim] at hwf
      have hsh : bytes (.blob t s) = t :: (digits s.length ++ crlf ++ (s ++ crlf)) := by simp [bytes, List.append_assoc]
      rw [hsh] at hk ⊢
      exact streamTo_frame_cut B hb t hbl s (of_decide_eq_true hwf.2) (fun e => absurd e (blobT_like ht).2) k hk F wr
    · have hsh : bytes (.chunked t cs) = t :: ([63] ++ crlf ++ ((cs.map chunkBytes).flatten ++ [59, 48, 13, 10])) := by
        simp [bytes, crlf]
      rw [hsh] at hk ⊢
      rcases take_frame_cases t [63] _ k hk with h | ⟨j, hj, he⟩
      · exact streamTo_hdr_cut B F t hbl [63] _ (by decide) k h wr
      · cases F with
        | zero => exact streamTo_zero_unclean B wr _
        | succ f =>
          rw [he, streamTo]
          have hq : readI B ([63] ++ crlf ++ ((cs.map chunkBytes).flatten ++ [59, 48, 13, 10]).take j) =
              .chunked (((cs.map chunkBytes).flatten ++ [59, 48, 13, 10]).take j) := readI_q B hb _
          simp only [hbl, if_true, hq]
          exact chunkLoop_cut B hb cs (chunks_wf hwf) j hj f 0 wr
    · exact streamTo_hdr_cut B F t hbl [45, 49] [] (by decide) k hk wr

/-- the same, stated with the prefix relation: any proper prefix of the frame's bytes -/
theorem strict_prefix_not_clean' (B : Nat) (hb : 32 ≤ B) (w : Wire) (hwf : WF w = true) (p : List UInt8)
    (hp : p <+: bytes w) (hne : p ≠ bytes w) (wr : Wr) :
    (run B wr p).clean = false ∧ (run B wr p).err ≠ .none := by
  have he : p = (bytes w).take p.length := List.prefix_iff_eq_take.mp hp
  have hlt : p.length < (bytes w).length := by
    rcases Nat.lt_or_ge p.length (bytes w).length with h | h
    · exact h
    · exact absurd (by rw [he, List.take_of_length_le h]) hne
  rw [he]
  exact strict_prefix_not_clean B hb w hwf p.length hlt wr

private theorem msgCase_clean (t0 : UInt8) (m : Msg) (hm : m.typ ≠ 62) (r : List UInt8) (wr : Wr) :
    ∃ n e w', msgCase t0 m r wr = some ⟨n, e, true, r, w'⟩ := by
  rcases msgCase_cases t0 m r wr with ⟨h, _⟩ | ⟨p, e⟩ | ⟨c, e, _⟩
  · exact absurd h hm
  · exact ⟨_, _, _, e⟩
  · exact ⟨_, _, _, e⟩

/-- The complete frame of any well-formed reply that is not a push, followed
    by anything: `streamTo` with a writer that does not fail returns clean = true and leaves
    exactly `rest` — also for null, error, aggregate and attribute-prefixed replies — and for a
    streamable reply `n` is the payload length and the writer received exactly the payload
    (`stream_eq_payload`). Together with `strict_prefix_not_clean`: clean ⇔ the whole frame arrived. -/
theorem full_frame_clean (B : Nat) (hb : 32 ≤ B) (w : Wire) (hwf : WF w = true) (hnp : (value w []).typ ≠ 62)
    (rest : List UInt8) (wr : Wr) (hw : wr.budget = none) :
    (run B wr (bytes w ++ rest)).clean = true ∧ (run B wr (bytes w ++ rest)).rest = rest ∧
    (streamable w = true → (run B wr (bytes w ++ rest)).n = (payload w).length ∧ (run B wr (bytes w ++ rest)).err = .none ∧
      (run B wr (bytes w ++ rest)).w.out = wr.out ++ payload w) := by
  have hp0 : Pushes [] := fun p hp => nomatch hp
  by_cases hs : streamable w = true
  · rw [show run B wr (bytes w ++ rest) = _ from stream_eq_payload B hb [] hp0 w hwf hs rest wr hw]
    exact ⟨rfl, rfl, fun _ => ⟨rfl, rfl, rfl⟩⟩
  · suffices h : ∃ n e w', run B wr (bytes w ++ rest) = ⟨n, e, true, rest, w'⟩ by
      obtain ⟨n, e, w', h⟩ := h
      rw [h]
      exact ⟨rfl, rfl, fun h => absurd h hs⟩
    cases hbl : isBlobLike (hd w) with
    | false =>
      obtain ⟨n, e, w', hm⟩ := msgCase_clean (hd w) (value w []) hnp rest wr
      exact ⟨n, e, w', run_default B hb [] hp0 w hwf hbl rest wr _ hm⟩
    | true =>
      obtain ⟨t, ht, ⟨s, rfl⟩ | ⟨cs, rfl⟩ | rfl⟩ := hd_blobLike w hwf hbl
      · exact absurd (by rcases ht with h | h <;> subst h <;> rfl) hs
      · exact absurd (by rcases ht with h | h <;> subst h <;> rfl) hs
      · exact ⟨_, _, _, null_is_Nil B hb [] hp0 (.nullBlob t) hwf rfl rest wr⟩

/-- The comment in `WriteTo`, "err must not be nil in case of !clean":
    for every input, buffer size and writer, clean = false comes with a non-nil error. -/
theorem unclean_has_error (B : Nat) (wr : Wr) (bs : List UInt8) :
    (run B wr bs).clean = false → (run B wr bs).err ≠ .none :=
  ((all_good B _).1 wr bs).1

/-- For every input (negative, huge and wrapped lengths, garbage, truncated
    frames), buffer size and writer, `streamTo` returns — it never hits a Go runtime panic and
    never allocates from a declared length (uses `Rv.C13.decode_never_panics` for the default
    branch). Assumes the recursion depth of nested `$?` headers fits the goroutine stack. -/
theorem never_panics (B : Nat) (wr : Wr) (bs : List UInt8) :
    (run B wr bs).err ≠ .panic ∧ (run B wr bs).err ≠ .oom :=
  ⟨((all_good B _).1 wr bs).2.1, ((all_good B _).1 wr bs).2.2.1⟩

/-- The reported `n` is exactly the number of bytes the writer accepted
    during the call, and earlier writer contents are untouched. -/
theorem n_counts_written (B : Nat) (wr : Wr) (bs : List UInt8) :
    ∃ d, (run B wr bs).w.out = wr.out ++ d ∧ (run B wr bs).n = d.length := by
  obtain ⟨d, h1, h2⟩ := ((all_good B _).1 wr bs).2.2.2.1
  exact ⟨d, h1, by unfold run; omega⟩

/-! ### writer failures (the repaired code, /repo a376be4) -/

/-- the bytes of a `$n` blob string reply -/
abbrev blobFrame (s : List UInt8) : List UInt8 := 36 :: (digits s.length ++ crlf ++ (s ++ crlf))

/-- Full strength, every writer: for every well-formed
    streamable reply behind any push frames, whatever the writer does (accept everything, fail
    after any `k` bytes with any over-read `over` — inside a blob, inside any chunk of a `$?`
    string, or on the single `Write` of a line / integer reply), `streamTo` either reports
    clean = false (the wire gets closed) or has consumed exactly the reply's frame: the
    connection is never reused with unread bytes of this reply on it, and never with bytes of
    the *next* reply missing. -/
theorem writer_failure_not_clean_or_drained (B : Nat) (hb : 32 ≤ B) (ps : List Wire) (hps : Pushes ps) (w : Wire)
    (hwf : WF w = true) (hs : streamable w = true) (rest : List UInt8) (wr : Wr) :
    (run B wr (bytesL ps ++ (bytes w ++ rest))).clean = false ∨ (run B wr (bytesL ps ++ (bytes w ++ rest))).rest = rest := by
  show Aligned rest (run B wr (bytesL ps ++ (bytes w ++ rest)))
  cases w with
  | blob t s =>
    simp only [streamable, Bool.or_eq_true, beq_iff_eq] at hs
    simp only [WF, Bool.and_eq_true, lim] at hwf
    obtain ⟨f, e⟩ := run_blob B hb ps hps t s rest wr
    obtain ⟨ht, h59⟩ := blobT_like hs
    rw [e]
    rcases streamTo_blob_any B hb f t ht s rest (of_decide_eq_true hwf.2) (fun e => absurd e h59) wr with
      ⟨_, hc, hr, _⟩ | ⟨_, ha⟩
    · exact Or.inr hr
    · exact ha
  | chunked t cs =>
    simp only [streamable, Bool.or_eq_true, beq_iff_eq] at hs
    obtain ⟨f, hf, e⟩ := run_chunked B hb ps hps t cs rest wr
    rw [e, streamTo]
    simp only [(blobT_like hs).1, if_true, readI_q B hb]
    exact chunkLoop_any B hb cs (chunks_wf hwf) f hf 0 wr rest
  | line t s =>
    simp only [streamable, Bool.or_eq_true, beq_iff_eq] at hs
    rw [run_default B hb ps hps _ hwf (by rcases hs with (h | h) | h <;> subst h <;> rfl) rest wr
      (writeOut wr s rest) (by rcases hs with (h | h) | h <;> subst h <;> simp [msgCase, value, Msg.typ, Msg.str])]
    exact Or.inr rfl
  | int v =>
    rw [run_default B hb ps hps _ hwf rfl rest wr (writeOut wr (fmtInt v) rest)
      (by simp [msgCase, value, Msg.typ, Msg.int])]
    exact Or.inr rfl
  | bool b =>
    rw [run_default B hb ps hps _ hwf rfl rest wr (writeOut wr (fmtInt (if b then 1 else 0)) rest)
      (by simp [msgCase, value, Msg.typ, Msg.int])]
    exact Or.inr rfl
  | _ => simp [streamable] at hs

/-- What a376be4 restored: a `$n` reply (`n > 0`) of
    which the bytes `av` are available after the header (then EOF), and any writer that accepts
    `k` bytes and fails while payload is still available (`k < min n |av|`), `io.Copy` having
    over-read any `over` bytes: the call returns `n = k`, the writer's error, the writer holds the
    first `k` payload bytes; the wire is clean **iff** the rest of the frame was available
    (`n + 2 ≤ |av|`), and then the bytes consumed from the reader are *exactly* the frame — what
    is left is `av.drop (n + 2)`, nothing of the next reply is missing and nothing of this
    reply is left. -/
theorem writer_failure_consumes_exact_frame (B : Nat) (hb : 32 ≤ B) (n : Nat) (hn0 : 0 < n)
    (hn : n + 2 < 9223372036854775808) (av : List UInt8) (k over : Nat) (hk : k < min n av.length) (out : List UInt8) :
    run B ⟨some k, over, out⟩ (36 :: (digits n ++ crlf ++ av)) =
      if n + 2 ≤ av.length then ⟨k, .writer, true, av.drop (n + 2), ⟨some 0, over, out ++ av.take k⟩⟩
      else ⟨k, .writer, false, [], ⟨some 0, over, out ++ av.take k⟩⟩ := by
  unfold run
  obtain ⟨f, hf⟩ : ∃ f, 2 * (36 :: (digits n ++ crlf ++ av)).length + 4 = f + 1 := ⟨_, rfl⟩
  rw [hf, streamTo_blobHdr B hb f 36 rfl n (by omega)]
  unfold blobCase
  have h1 : ¬ ((n : Int) = -1) := by omega
  have h2 : (n : Int) ≠ 0 := by omega
  simp only [h1, if_false, h2, ne_eq, not_false_eq_true, if_true]
  rw [copyN_fail k over out n av hk]
  rw [finishBlob_after n (by omega) k true _ av (min (min n av.length) (k + over)) (by omega) (by omega), if_neg (by omega)]
  simp

/-- Exact outcome for a blob string: the writer accepts `k` bytes of
    the payload and fails, `io.Copy` having read any number `over` of further bytes: the writer
    holds the first `k` payload bytes, `n = k`, the writer's error is returned, and the frame is
    drained *exactly* — clean = true with `rest` untouched, so the connection is reused safely
    (this is what TestDoStreamRecycleDestinationFull demands). -/
theorem writer_failure_drained (B : Nat) (hb : 32 ≤ B) (s rest : List UInt8) (hs : s.length + 2 < 9223372036854775808)
    (k over : Nat) (hlt : k < s.length) (out : List UInt8) :
    run B ⟨some k, over, out⟩ (blobFrame s ++ rest) = ⟨k, .writer, true, rest, ⟨some 0, over, out ++ s.take k⟩⟩ := by
  have h := writer_failure_consumes_exact_frame B hb s.length (by omega) hs (s ++ crlf ++ rest) k over
    (by simp only [List.length_append]; omega) out
  have e : blobFrame s ++ rest = 36 :: (digits s.length ++ crlf ++ (s ++ crlf ++ rest)) := by
    simp [blobFrame, List.append_assoc]
  rw [e, h, if_pos (by simp [crlf]), List.append_assoc, List.take_append_of_le_length (by omega),
    ← List.append_assoc, List.drop_left' (by simp [crlf])]

/-- the property's demand for a failing writer in the middle of a blob string -/
def WriterFailureSafe (B : Nat) : Prop :=
  ∀ (s rest : List UInt8) (k over : Nat), s.length + 2 < 9223372036854775808 → k < s.length →
    (run B ⟨some k, over, []⟩ (blobFrame s ++ rest)).clean = false ∨
    (run B ⟨some k, over, []⟩ (blobFrame s ++ rest)).rest = rest

theorem writer_failure_safe (B : Nat) (hb : 32 ≤ B) : WriterFailureSafe B := by
  intro s rest k over hs hlt
  rw [writer_failure_drained B hb s rest hs k over hlt []]
  exact Or.inr rfl

/-- clean ⇔ the rest of the frame was available (corollary) -/
theorem writer_failure_clean_iff (B : Nat) (hb : 32 ≤ B) (n : Nat) (hn0 : 0 < n)
    (hn : n + 2 < 9223372036854775808) (av : List UInt8) (k over : Nat) (hk : k < min n av.length) (out : List UInt8) :
    (run B ⟨some k, over, out⟩ (36 :: (digits n ++ crlf ++ av))).clean = true ↔ n + 2 ≤ av.length := by
  rw [writer_failure_consumes_exact_frame B hb n hn0 hn av k over hk out]
  by_cases h : n + 2 ≤ av.length <;> simp [h]

/-! #### the unrepaired shape (before a376be4), kept as regression witnesses -/

/-- `Discard(int(full - n))` with `full` = declared length + 2 and `n` = bytes *written* -/
def finishBlobUnrepaired (len : Int) (c : CopyRes) : Out :=
  finishBlob (wrap64 (wrap64 (len + 2) - c.written)) c

/-- the chunk loop used to return the last inner outcome unchanged -/
def chunkExitUnrepaired (acc : Nat) (o : Out) : Out := { o with n := acc + o.n }

/-- Witness 1 (over-discard): payload "0123456789", the writer accepts 3 bytes, io.Copy had
    taken all 10 (over = 7), "+NEXT\r\n" and ":77\r\n" follow. The unrepaired Discard count
    eats the 7 bytes of "+NEXT\r\n" and still says clean; the repaired one leaves them.
    Harness key `stream:writer-fail-overdiscard`. -/
theorem unrepaired_overdiscard_witness :
    let pay : List UInt8 := [48, 49, 50, 51, 52, 53, 54, 55, 56, 57]
    let nxt : List UInt8 := [43, 78, 69, 88, 84, 13, 10, 58, 55, 55, 13, 10]
    let c := copyN ⟨some 3, 7, []⟩ 10 (pay ++ 13 :: 10 :: nxt)
    finishBlobUnrepaired 10 c = ⟨3, .writer, true, [58, 55, 55, 13, 10], ⟨some 0, 7, [48, 49, 50]⟩⟩ ∧
    finishBlob (fullAfter c) c = ⟨3, .writer, true, nxt, ⟨some 0, 7, [48, 49, 50]⟩⟩ := by
  decide +kernel

/-- Witness 2 (chunks left): `$?` `;3 abc` `;3 def` `;0` `+N`, the writer accepts 1 byte: the
    failing chunk's outcome is clean (its own frame is drained) with the writer's error; the
    unrepaired loop exit passed that on — clean = true with `;3 def ;0` still unread —, the
    repaired `streamTo` reports clean = false. Harness key `stream:writer-fail-chunks-left`. -/
theorem unrepaired_chunks_left_witness :
    let tail : List UInt8 := [59, 51, 13, 10, 100, 101, 102, 13, 10, 59, 48, 13, 10, 43, 78, 13, 10]
    let o := streamTo 4096 3 ⟨some 1, 2, []⟩ ([59, 51, 13, 10, 97, 98, 99, 13, 10] ++ tail)
    (o.err = .writer ∧ (chunkExitUnrepaired 0 o).clean = true ∧ (chunkExitUnrepaired 0 o).rest = tail) ∧
    (run 4096 ⟨some 1, 2, []⟩ ([36, 63, 13, 10, 59, 51, 13, 10, 97, 98, 99, 13, 10] ++ tail)).clean = false := by
  decide +kernel

/-! ## Part 2: RedisResultStream -/
open Rv.ResultStream

def Open (s : RS) : Prop := s.e = none ∧ 0 < s.n ∧ s.log = []

def Done (Q : List Ev → Prop) (s : RS) : Prop := s.e ≠ none ∧ Q s.log

theorem Open.hasNext {s : RS} (h : Open s) : s.hasNext = true := by simp [RS.hasNext, h.1, h.2.1]

theorem Done.hasNext {Q : List Ev → Prop} {s : RS} (h : Done Q s) : s.hasNext = false := by
  cases hse : s.e with
  | none => exact absurd hse h.1
  | some e => simp [RS.hasNext, hse]

theorem writeTo_inv (Q : List Ev → Prop) (h1 : Q [.release, .store]) (h2 : Q [.release, .close, .store])
    (s : RS) (o : SO) (hs : Open s ∨ Done Q s) (herr : o.clean = false → o.err ≠ .none) :
    Open (writeTo s o).1 ∨ Done Q (writeTo s o).1 := by
  unfold writeTo
  rcases hs with ⟨he, hn, h0⟩ | ⟨he, hl⟩
  · simp only [he, hn, if_true]
    unfold afterStream
    cases hc : o.clean with
    | true =>
      simp only [if_true]
      split
      · right; unfold finish; simpa [Done, he, h0] using h1
      · rename_i hne; left; exact ⟨he, by simp only at hne ⊢; omega, h0⟩
    | false =>
      have hts : toS o.err = some (.stream o.err) := by simp [toS, herr hc]
      simp only [Bool.false_eq_true, if_false, Int.sub_self, if_true]
      right; unfold finish; simpa [Done, hts, h0] using h2
  · cases hse : s.e with
    | none => exact absurd hse he
    | some e => right; exact ⟨by simp [hse], hl⟩

theorem runAll_inv (Q : List Ev → Prop) (h1 : Q [.release, .store]) (h2 : Q [.release, .close, .store]) :
    ∀ (os : List SO) (s : RS), Open s ∨ Done Q s → (∀ o ∈ os, o.clean = false → o.err ≠ .none) →
      Open (runAll s os) ∨ Done Q (runAll s os)
  | [], _, hs, _ => hs
  | o :: os, s, hs, hall =>
    runAll_inv Q h1 h2 os _ (writeTo_inv Q h1 h2 s o hs (hall o (by simp))) (fun x hx => hall x (by simp [hx]))

/-- From any entry of DoStream / DoMultiStream (n >= 1 commands) and
    after any sequence of `WriteTo` calls with any `streamTo` outcomes (that respect
    `unclean_has_error`), the wire has been stored at most once; it has been stored exactly
    once iff the stream is finished (`Error() != nil`: EOF after the last reply, the first
    unclean reply's error, or the entry error), and not yet stored exactly while
    `HasNext()` is true. -/
theorem stored_exactly_once (k : Entry) (ncmd : Nat) (h : 0 < ncmd) (os : List SO)
    (herr : ∀ o ∈ os, o.clean = false → o.err ≠ .none) :
    let s := runAll (start k ncmd) os
    (s.hasNext = true → countStore s.log = 0) ∧ (s.hasNext = false → countStore s.log = 1) ∧ countStore s.log ≤ 1 := by
  have h0 : Open (start k ncmd) ∨ Done (countStore · = 1) (start k ncmd) := by
    cases k
    case ok => exact .inl ⟨rfl, by simp [start]; omega, rfl⟩
    -- the entries that fail start finished, with the wire stored once
    all_goals exact .inr ⟨nofun, rfl⟩
  rcases runAll_inv (countStore · = 1) rfl rfl os _ h0 herr with ho | hd
  · have hl : countStore (runAll (start k ncmd) os).log = 0 := by rw [ho.2.2]; rfl
    exact ⟨fun _ => hl, fun hf => absurd (ho.hasNext.symm.trans hf) nofun, by omega⟩
  · exact ⟨fun hf => absurd (hd.hasNext.symm.trans hf) nofun, fun _ => hd.2, Nat.le_of_eq hd.2⟩

/-- For any number of commands, any sequence of `WriteTo`
    calls and any `streamTo` outcomes — in particular an unclean outcome (connection cut,
    deadline, protocol error) at *any* reply position, first, middle or last —: as soon as
    `HasNext()` is false the recycle step has run exactly once, in one of its two shapes
    `release, store` (every reply consumed cleanly) or `release, close, store` (an unclean reply
    ended the stream: the `s.n = 1` assignment forces the step although commands are
    outstanding); and while `HasNext()` is true it has not run at all. -/
theorem stream_end_recycles_exactly_once (ncmd : Nat) (h : 0 < ncmd) (os : List SO)
    (herr : ∀ o ∈ os, o.clean = false → o.err ≠ .none) :
    let s := runAll (start .ok ncmd) os
    (s.hasNext = false → (s.log = [.release, .store] ∨ s.log = [.release, .close, .store]) ∧ countStore s.log = 1) ∧
    (s.hasNext = true → s.log = []) := by
  have h0 : Open (start .ok ncmd) := ⟨rfl, by simp [start]; omega, rfl⟩
  rcases runAll_inv (fun l => l = [.release, .store] ∨ l = [.release, .close, .store]) (.inl rfl) (.inr rfl)
    os _ (.inl h0) herr with ho | hd
  · exact ⟨fun hf => absurd (ho.hasNext.symm.trans hf) nofun, fun _ => ho.2.2⟩
  · refine ⟨fun _ => ⟨hd.2, ?_⟩, fun hf => absurd (hd.hasNext.symm.trans hf) nofun⟩
    rcases hd.2 with e | e <;> rw [e] <;> rfl

/-- the seeded shape (WriteTo without `s.n = 1`): an unclean outcome on a reply that is not the
    last one ends the stream (`HasNext` false, error sticky) without ever running the recycle step -/
def afterStreamNoForce (s : RS) (o : SO) : RS :=
  let s1 : RS := if o.clean then s else { s with e := toS o.err }
  let s2 : RS := { s1 with n := s1.n - 1, calls := s1.calls + 1 }
  if s2.n = 0 then finish s2 else s2

theorem no_force_leaks_witness :
    let s := afterStreamNoForce (start .ok 2) ⟨0, .rd "io", false⟩
    s.hasNext = false ∧ s.log = [] ∧ (writeTo s ⟨0, .none, true⟩).1.log = [] := by
  decide

theorem writeTo_done (s : RS) (e : SErr) (hse : s.e = some e) (o : SO) : writeTo s o = (s, 0, some e) := by
  simp only [writeTo, hse]

theorem runAll_done (s : RS) (e : SErr) (hse : s.e = some e) : ∀ xs : List SO, runAll s xs = s
  | [] => rfl
  | x :: xs => by rw [runAll, writeTo_done s e hse]; exact runAll_done s e hse xs

/-- all outcomes clean -/
def AllClean (os : List SO) : Prop := ∀ o ∈ os, o.clean = true

private theorem clean_steps (s : RS) (os : List SO) (hc : AllClean os) (he : s.e = none) (hlen : (os.length : Int) < s.n) :
    runAll s os = { s with n := s.n - os.length, calls := s.calls + os.length } := by
  induction os generalizing s with
  | nil => simp [runAll]
  | cons o os ih =>
    have hco : o.clean = true := hc o (by simp)
    have hn : 0 < s.n := by simp at hlen; omega
    have h1 : (writeTo s o).1 = { s with n := s.n - 1, calls := s.calls + 1 } := by
      unfold writeTo
      simp only [he, hn, if_true]
      unfold afterStream
      simp only [hco, if_true]
      have : ¬ (s.n - 1 = 0) := by simp at hlen; omega
      simp only [this, if_false]
      rw [he]
    rw [runAll, h1, ih { s with n := s.n - 1, calls := s.calls + 1 } (fun x hx => hc x (by simp [hx])) he (by simp at hlen ⊢; omega)]
    simp only [List.length_cons]
    congr 1
    · push_cast; omega
    · omega

/-- After a successful DoStream / DoMultiStream of `ncmd` commands whose
    replies are all consumed cleanly: each of the first `ncmd` `WriteTo` calls invokes
    `streamTo` exactly once and returns its (n, err); `HasNext` is true before the `ncmd`-th
    call and false after it; at that moment the sticky error is EOF, the wire has been
    released and stored (not closed); every further `WriteTo` returns (0, EOF) without
    touching the connection. -/
theorem one_writeTo_per_cmd (ncmd : Nat) (os : List SO) (hc : AllClean os) (o : SO) (hco : o.clean = true)
    (hlen : os.length + 1 = ncmd) (extra : List SO) :
    -- before the last call
    (runAll (start .ok ncmd) os).hasNext = true ∧ (runAll (start .ok ncmd) os).calls = os.length ∧
    (runAll (start .ok ncmd) os).log = [] ∧
    -- the last call
    (writeTo (runAll (start .ok ncmd) os) o).2 = (o.n, toS o.err) ∧
    (writeTo (runAll (start .ok ncmd) os) o).1 = ⟨0, some .eof, [.release, .store], ncmd⟩ ∧
    -- afterwards
    runAll (writeTo (runAll (start .ok ncmd) os) o).1 extra = ⟨0, some .eof, [.release, .store], ncmd⟩ ∧
    (∀ x, (writeTo ⟨0, some .eof, [.release, .store], ncmd⟩ x).2 = (0, some .eof)) := by
  have hs : runAll (start .ok ncmd) os = ⟨1, none, [], os.length⟩ := by
    rw [clean_steps (start .ok ncmd) os hc rfl (by simp [start]; omega)]
    simp only [start]
    congr 1
    · omega
    · omega
  have hlast : (writeTo ⟨1, none, [], os.length⟩ o).1 = ⟨0, some .eof, [.release, .store], ncmd⟩ := by
    simp [writeTo, afterStream, hco, finish, hlen]
  rw [hs]
  exact ⟨by simp [RS.hasNext], rfl, rfl, by simp [writeTo], hlast, by rw [hlast]; exact runAll_done _ _ rfl extra,
    fun x => by rw [writeTo_done _ _ rfl]⟩

/-- If the reply of command `j+1` (the first `j` were clean) could not be
    consumed completely (`streamTo` returned clean = false — by `unclean_has_error` with a
    non-nil error `e`), that `WriteTo` returns the error, makes it sticky, *closes* the wire and
    only then stores it — immediately, without waiting for the remaining commands; `HasNext` is
    false and later `WriteTo` calls return (0, e) without touching the connection or the pool. -/
theorem closed_if_unclean (ncmd : Nat) (os : List SO) (hc : AllClean os) (hlen : os.length < ncmd) (o : SO)
    (hu : o.clean = false) (he : o.err ≠ .none) (extra : List SO) :
    let s := (writeTo (runAll (start .ok ncmd) os) o).1
    (writeTo (runAll (start .ok ncmd) os) o).2 = (o.n, some (.stream o.err)) ∧
    s = ⟨0, some (.stream o.err), [.release, .close, .store], os.length + 1⟩ ∧
    s.hasNext = false ∧ runAll s extra = s ∧ (∀ x, (writeTo s x).2 = (0, some (.stream o.err))) := by
  have hs : runAll (start .ok ncmd) os = ⟨(ncmd : Int) - os.length, none, [], os.length⟩ := by
    rw [clean_steps (start .ok ncmd) os hc rfl (by simp [start]; omega)]
    simp [start]
  have hts : toS o.err = some (.stream o.err) := by simp [toS, he]
  have hlast : (writeTo ⟨(ncmd : Int) - os.length, none, [], os.length⟩ o).1 =
      ⟨0, some (.stream o.err), [.release, .close, .store], os.length + 1⟩ := by
    simp [writeTo, hlen, afterStream, hu, finish, hts]
  simp only
  rw [hs, hlast]
  exact ⟨by simp [writeTo, hlen, hts], rfl, by simp [RS.hasNext], runAll_done _ _ rfl extra,
    fun x => by rw [writeTo_done _ _ rfl]⟩

/-- the entries that never produce a readable stream give the wire back at once, exactly
    once (the repaired code: also when the context is already done), and `WriteTo` returns
    the entry error without touching the connection -/
theorem failed_entry_stores_once (k : Entry) (hk : k ≠ .ok) (ncmd : Nat) (os : List SO) :
    countStore (runAll (start k ncmd) os).log = 1 ∧ (runAll (start k ncmd) os) = start k ncmd ∧ (start k ncmd).hasNext = false := by
  cases k with
  | ok => exact absurd rfl hk
  | ctxDone => rw [runAll_done _ .ctx rfl]; exact ⟨rfl, rfl, by simp [start, RS.hasNext]⟩
  | closing => rw [runAll_done _ .pipe rfl]; exact ⟨rfl, rfl, by simp [start, RS.hasNext]⟩
  | flushErr => rw [runAll_done _ .pipe rfl]; exact ⟨rfl, rfl, by simp [start, RS.hasNext]⟩

/-- Pipe level, unreachable through the public clients (which return
    `NewErrorResultStream(io.EOF)` for an empty command list): a `DoMultiStream` with zero
    commands yields a stream that never has a next reply and never stores its wire. -/
theorem zero_cmds_never_stored (os : List SO) :
    (runAll (start .ok 0) os).log = [] ∧ (runAll (start .ok 0) os).hasNext = false := by
  have : ∀ xs : List SO, runAll (start .ok 0) xs = start .ok 0 := by
    intro xs; induction xs with
    | nil => rfl
    | cons x xs ih => rw [runAll]; simpa [writeTo, start] using ih
  rw [this]; exact ⟨rfl, by simp [start, RS.hasNext]⟩

/-! ### non-vacuity -/
example : Pushes [.arr 62 [.blob 36 [109], .int 1], .attr (.map 124 [.line 43 [107], .int 1]) (.stream 62 [.null])] := by
  intro p hp
  simp only [List.mem_cons, List.mem_nil_iff, or_false] at hp
  rcases hp with h | h <;> subst h <;> exact ⟨by decide, by decide⟩
example : WF (.chunked 36 [[97], [98, 13, 10]]) = true ∧ streamable (.chunked 36 [[97], [98, 13, 10]]) = true := by decide
example : aggType (.stream 37 [.line 43 [97], .int 1]) = some 37 := by decide

end Rv.C29
