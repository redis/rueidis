/-
C44 — Redis URLs map to the documented options.
Model: Rv/Model/Url.lean (url.go ParseURL after the `fix:` commit); table: Rv/Gen/UrlParams.lean
(regenerated from url.go's AST on every run).
-/
import Rv.Model.Url
import Rv.Gen.UrlParams
namespace Rv.C44
open Rv.Url

/-- every documented query parameter is handled by exactly one statement of `ParseURL`, which assigns
    exactly its documented option field (and there are no further parameters) — in particular
    `dial_timeout ↦ Dialer.Timeout` and `write_timeout ↦ ConnWriteTimeout` -/
theorem table_documented : Rv.Gen.urlParams.map (fun r => (r.1, r.2.1)) = modelParams := by decide +kernel

/-- no two query parameters write the same option field -/
theorem each_param_own_field :
    ∀ r1 ∈ Rv.Gen.urlParams, ∀ r2 ∈ Rv.Gen.urlParams, r1.2.1 = r2.2.1 → r1.1 = r2.1 := by decide +kernel

/-- the only option fields shared with the non-query part of the URL are the database number
    (`db=` is documented to override the path) and `InitAddress`, to which `addr=` appends -/
theorem table_base_overlap :
    ∀ r ∈ Rv.Gen.urlParams, r.2.1 ∈ Rv.Gen.urlBaseFields → (r.1 = "db" ∨ (r.1 = "addr" ∧ r.2.2.1 = "append")) := by
  decide +kernel

/-- every statement that runs a value parser has an error return -/
theorem table_parsers_reject :
    ∀ r ∈ Rv.Gen.urlParams, r.2.2.1 ∈ ["strconv.Atoi", "time.ParseDuration", "strconv.ParseBool"] → r.2.2.2 ≠ "" := by
  decide +kernel

/-! ### every statement of `ParseURL` as "first error, else one field updated" -/

private theorem ite_bind {c : Prop} [Decidable c] (e : Err) (y : Except Err Opt) (f : Opt → Except Err Opt) :
    ((if c then Except.error e else y) >>= f) = if c then Except.error e else (y >>= f) := by
  split <;> rfl

private theorem ok_bind (x : Opt) (f : Opt → Except Err Opt) : ((Except.ok x : Except Err Opt) >>= f) = f x := rfl

/-- option record after the scheme switch and the host block -/
private def baseOpt (P : Parsers) (u : UrlIn) : Opt :=
  { initAddress := some (if u.scheme = "unix" then [P.trimSpace u.path] else [(parseAddr P u.host u.host).2]),
    tls := if tlsScheme u.scheme then some { serverName := (parseAddr P u.host u.host).1 } else none,
    dialFn := u.scheme = "unix" }

private theorem schemeHost_eq (P : Parsers) (u : UrlIn) :
    (stScheme P u {} >>= stHost P u) =
      if ¬ validScheme u.scheme then Except.error .scheme else .ok (baseOpt P u) := by
  unfold stScheme
  by_cases h1 : u.scheme = "unix"
  · simp [h1, stHost, validScheme, baseOpt, tlsScheme, ok_bind]
  · by_cases h2 : u.scheme = "rediss"
    · simp [h2, stHost, validScheme, baseOpt, tlsScheme, ok_bind]
    · by_cases h3 : u.scheme = "valkeys"
      · simp [h3, stHost, validScheme, baseOpt, tlsScheme, ok_bind]
      · by_cases h4 : u.scheme = "redis"
        · simp [h4, stHost, validScheme, baseOpt, tlsScheme, ok_bind]
        · by_cases h5 : u.scheme = "valkey"
          · simp [h5, stHost, validScheme, baseOpt, tlsScheme, ok_bind]
          · simp [h1, h2, h3, h4, h5, validScheme]
            rfl

private theorem user_eq (u : UrlIn) (o : Opt) :
    stUser u o = .ok { o with
      username := match u.user with | some (n, _) => n | none => o.username,
      password := match u.user with | some (_, some p) => p | some (_, none) => "" | none => o.password } := by
  unfold stUser
  rcases u.user with _ | ⟨n, _ | p⟩ <;> rfl

private def pathDB (P : Parsers) (u : UrlIn) (dflt : Int) : Int :=
  if u.scheme = "unix" then dflt
  else match P.splitSlash u.path with
    | [_, d] => (P.atoi d).getD dflt
    | _ => dflt

private theorem path_eq (P : Parsers) (u : UrlIn) (o : Opt) :
    stPath P u o =
      if u.scheme ≠ "unix" ∧ (P.splitSlash u.path).length = 2 ∧ (P.atoi ((P.splitSlash u.path).getD 1 "")).isNone then .error .dbnum
      else if u.scheme ≠ "unix" ∧ (P.splitSlash u.path).length > 2 then .error .path
      else .ok { o with selectDB := pathDB P u o.selectDB } := by
  unfold stPath pathDB
  by_cases h1 : u.scheme = "unix"
  · simp [h1]
  · rcases hs : P.splitSlash u.path with _ | ⟨a, _ | ⟨b, _ | ⟨c, r⟩⟩⟩
    · simp [h1]
    · simp [h1]
    · cases ha : P.atoi b <;> simp [h1, ha]
    · simp [h1]

private theorem db_eq (P : Parsers) (q : Query) (o : Opt) :
    stDb P q o =
      if has q "db" ∧ (P.atoi (get q "db")).isNone then .error .dbnum
      else .ok { o with selectDB := if has q "db" then (P.atoi (get q "db")).getD 0 else o.selectDB } := by
  unfold stDb
  by_cases h : has q "db" = true
  · cases ha : P.atoi (get q "db") <;> simp [h]
  · simp [h]

private theorem dial_eq (P : Parsers) (q : Query) (o : Opt) :
    stDial P q o =
      if has q "dial_timeout" ∧ (P.duration (get q "dial_timeout")).isNone then .error .dial
      else .ok { o with dialTimeout := if has q "dial_timeout" then (P.duration (get q "dial_timeout")).getD o.dialTimeout else o.dialTimeout } := by
  unfold stDial
  by_cases h : has q "dial_timeout" = true
  · cases ha : P.duration (get q "dial_timeout") <;> simp [h]
  · simp [h]

private theorem write_eq (P : Parsers) (q : Query) (o : Opt) :
    stWrite P q o =
      if has q "write_timeout" ∧ (P.duration (get q "write_timeout")).isNone then .error .write
      else .ok { o with connWriteTimeout := if has q "write_timeout" then (P.duration (get q "write_timeout")).getD o.connWriteTimeout else o.connWriteTimeout } := by
  unfold stWrite
  by_cases h : has q "write_timeout" = true
  · cases ha : P.duration (get q "write_timeout") <;> simp [h]
  · simp [h]

private def skipTls (P : Parsers) (q : Query) (t : Option Tls) : Option Tls :=
  t.map fun t => { t with insecure :=
    (if has q "skip_verify" then decide (get q "skip_verify" = "" ∨ P.bool (get q "skip_verify") = some true)
     else t.insecure) }

private theorem skip_eq (P : Parsers) (q : Query) (o : Opt) :
    stSkip P q o =
      if o.tls.isSome ∧ has q "skip_verify" ∧ get q "skip_verify" ≠ "" ∧ (P.bool (get q "skip_verify")).isNone then .error .skip
      else .ok { o with tls := skipTls P q o.tls } := by
  unfold stSkip skipTls
  rcases ht : o.tls with _ | t
  · simp
    cases o; simp_all
  · by_cases h : has q "skip_verify" = true
    · by_cases he : get q "skip_verify" = ""
      · simp [h, he]
      · cases hb : P.bool (get q "skip_verify") <;> simp [h, he]
    · simp [h]
      cases o; simp_all

/-- a statement that rejects for the reason the specification gives next, and otherwise goes on -/
private theorem first_err {c : Prop} [Decidable c] {e : Err} {x : Except Err Opt} {r : Option Err} {o : Opt}
    (h : x = match r with | some e => .error e | none => .ok o) :
    (if c then .error e else x) = match (if c then some e else r) with | some e => .error e | none => .ok o := by
  split
  · rfl
  · exact h

/-- the assignment-by-assignment model of `ParseURL` computes, for every parsed URL
    and whatever the standard-library parsers answer, exactly the specification in which every option
    is a function of its own URL part — no assignment is overwritten by a later one — and the first
    invalid value (in source order) is reported -/
theorem parse_eq_spec (P : Parsers) (u : UrlIn) : parseURL P u = specURL P u := by
  unfold parseURL
  rw [schemeHost_eq]
  simp only [ite_bind, ok_bind, user_eq, path_eq, db_eq, dial_eq, write_eq, skip_eq, stAddr, stFlags]
  unfold specURL specErr
  refine first_err ?_
  refine first_err ?_
  refine first_err ?_
  refine first_err ?_
  refine first_err ?_
  refine first_err ?_
  have htls : (baseOpt P u).tls.isSome = tlsScheme u.scheme := by
    unfold baseOpt; cases tlsScheme u.scheme <;> rfl
  rw [htls]
  refine first_err ?_
  show Except.ok _ = Except.ok _
  congr 1
  unfold specOpt
  simp only [Opt.mk.injEq]
  refine ⟨?_, ?_, ?_, ?_, ?_, ?_, ?_, ?_⟩
  · simp [baseOpt]
  · unfold skipTls baseOpt
    cases tlsScheme u.scheme <;> cases has u.query "skip_verify" <;> simp
  · simp [baseOpt]
  · rfl
  · rcases u.user with _ | ⟨n, _ | p⟩ <;> rfl
  · unfold specDB pathDB
    cases has u.query "db"
    · simp only [baseOpt]
      rfl
    · simp
  · simp [baseOpt]
  · simp [baseOpt]

private theorem ok_iff {P : Parsers} {u : UrlIn} {o : Opt} :
    parseURL P u = .ok o ↔ specErr P u = none ∧ o = specOpt P u := by
  rw [parse_eq_spec, specURL]
  cases specErr P u <;> simp [eq_comm]

/-- an accepted URL yields exactly the specified option record -/
theorem ok_is_spec (P : Parsers) (u : UrlIn) (o : Opt) (h : parseURL P u = .ok o) : o = specOpt P u :=
  (ok_iff.mp h).2

/-- `write_timeout` sets the connection write timeout -/
theorem write_timeout_maps (P : Parsers) (u : UrlIn) (o : Opt) (d : Int) (h : parseURL P u = .ok o)
    (hh : has u.query "write_timeout" = true) (hd : P.duration (get u.query "write_timeout") = some d) :
    o.connWriteTimeout = d := by
  rw [ok_is_spec P u o h]; simp [specOpt, hh, hd]

/-- `dial_timeout` sets the dial timeout -/
theorem dial_timeout_maps (P : Parsers) (u : UrlIn) (o : Opt) (d : Int) (h : parseURL P u = .ok o)
    (hh : has u.query "dial_timeout" = true) (hd : P.duration (get u.query "dial_timeout") = some d) :
    o.dialTimeout = d := by
  rw [ok_is_spec P u o h]; simp [specOpt, hh, hd]

/-- without `dial_timeout` the dial timeout stays zero whatever `write_timeout` says, and vice versa -/
theorem timeouts_independent (P : Parsers) (u : UrlIn) (o : Opt) (h : parseURL P u = .ok o) :
    (has u.query "dial_timeout" = false → o.dialTimeout = 0) ∧
    (has u.query "write_timeout" = false → o.connWriteTimeout = 0) := by
  rw [ok_is_spec P u o h]
  constructor <;> intro hh <;> simp [specOpt, hh]

private theorem ite_some_eq_none {c : Prop} [Decidable c] {e : Err} {r : Option Err} :
    (if c then some e else r) = none ↔ ¬ c ∧ r = none := by
  split <;> simp [*]

/-- invalid values are rejected: an accepted URL has a supported scheme, a path that is empty or one
    valid database number (non-unix schemes), and every present `db`, `dial_timeout`, `write_timeout`
    and (on TLS schemes, when non-empty) `skip_verify` value is accepted by its standard-library parser -/
theorem invalid_rejected (P : Parsers) (u : UrlIn) (o : Opt) (h : parseURL P u = .ok o) :
    validScheme u.scheme = true ∧
    (u.scheme ≠ "unix" → (P.splitSlash u.path).length ≤ 2 ∧
      ((P.splitSlash u.path).length = 2 → (P.atoi ((P.splitSlash u.path).getD 1 "")).isSome = true)) ∧
    (has u.query "db" = true → (P.atoi (get u.query "db")).isSome = true) ∧
    (has u.query "dial_timeout" = true → (P.duration (get u.query "dial_timeout")).isSome = true) ∧
    (has u.query "write_timeout" = true → (P.duration (get u.query "write_timeout")).isSome = true) ∧
    (tlsScheme u.scheme = true → has u.query "skip_verify" = true → get u.query "skip_verify" ≠ "" →
      (P.bool (get u.query "skip_verify")).isSome = true) := by
  have he := (ok_iff.mp h).1
  simp only [specErr, ite_some_eq_none, Decidable.not_not, and_true, not_and, Option.isNone_iff_eq_none,
    ← ne_eq, Option.ne_none_iff_isSome, gt_iff_lt, Nat.not_lt] at he
  exact ⟨he.1, fun hu => ⟨he.2.2.1 hu, he.2.1 hu⟩, he.2.2.2⟩

/-- conversely a URL without any of these defects is accepted -/
theorem valid_accepted (P : Parsers) (u : UrlIn) (h : specErr P u = none) : parseURL P u = .ok (specOpt P u) :=
  ok_iff.mpr ⟨h, rfl⟩

/-! ### the repaired defect, kept as a witness -/

/-- the query of `redis://?dial_timeout=1s&write_timeout=5s` -/
def witnessQuery : Query := [("dial_timeout", ["1s"]), ("write_timeout", ["5s"])]

private theorem wq_facts :
    has witnessQuery "db" = false ∧ has witnessQuery "dial_timeout" = true ∧ has witnessQuery "write_timeout" = true ∧
    Url.get witnessQuery "dial_timeout" = "1s" ∧ Url.get witnessQuery "write_timeout" = "5s" ∧
    vals witnessQuery "addr" = [] := by decide +kernel

/-- before the `fix:` commit `redis://?dial_timeout=1s&write_timeout=5s` produced a dial timeout of 5s
    and no connection write timeout: `write_timeout` overwrote `dial_timeout`'s option -/
theorem old_write_timeout_overwrites (P : Parsers)
    (h1 : P.duration "1s" = some 1000000000) (h5 : P.duration "5s" = some 5000000000) (hs : P.splitSlash "" = [""]) :
    (parseURLOld P ⟨"redis", "", "", none, witnessQuery⟩).map
      (fun o => (o.dialTimeout, o.connWriteTimeout)) = .ok (5000000000, 0) := by
  obtain ⟨q1, q2, q3, q4, q5, q6⟩ := wq_facts
  simp [parseURLOld, stScheme, stHost, stUser, stPath, stDb, stDial, stWriteOld, stAddr, stSkip, stFlags,
    q1, q2, q3, q4, q5, q6, h1, h5, hs, bind, Except.bind, Except.map]

/-- the repaired code on the same URL -/
theorem new_write_timeout_separate (P : Parsers)
    (h1 : P.duration "1s" = some 1000000000) (h5 : P.duration "5s" = some 5000000000) (hs : P.splitSlash "" = [""]) :
    (parseURL P ⟨"redis", "", "", none, witnessQuery⟩).map
      (fun o => (o.dialTimeout, o.connWriteTimeout)) = .ok (1000000000, 5000000000) := by
  obtain ⟨q1, q2, q3, q4, q5, q6⟩ := wq_facts
  simp [parseURL, stScheme, stHost, stUser, stPath, stDb, stDial, stWrite, stAddr, stSkip, stFlags,
    q1, q2, q3, q4, q5, q6, h1, h5, hs, bind, Except.bind, Except.map]

end Rv.C44
