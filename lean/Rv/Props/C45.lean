/-
C45 — vector and binary helpers round-trip.
Model: Rv/Model/Binary.lean (binary.go on IEEE bit patterns).
-/
import Rv.Model.Binary
namespace Rv.C45
open Rv.Binary

private theorem or_shl (lo hi k : Nat) (h : lo < 2 ^ k) : lo ||| hi <<< k = lo + hi * 2 ^ k := by
  rw [Nat.or_comm, ← Nat.shiftLeft_add_eq_or_of_lt h, Nat.shiftLeft_eq, Nat.add_comm]

/-- little-endian value of a byte string of any length; `fromLE32`/`fromLE64` are the cases 4 and 8 -/
def fromLE : List Nat → Nat
  | [] => 0
  | b :: bs => b ||| fromLE bs <<< 8

/-- the `n` low bytes of `v`, lowest first; `le32`/`le64` are the cases 4 and 8 -/
def toLE : Nat → Nat → List Nat
  | 0, _ => []
  | n + 1, v => v % 256 :: toLE n (v >>> 8)

theorem fromLE_toLE (n v : Nat) : fromLE (toLE n v) = v % 2 ^ (8 * n) := by
  induction n generalizing v with
  | zero => exact (Nat.mod_one v).symm
  | succ n ih =>
    rw [toLE, fromLE, ih, or_shl _ _ 8 (Nat.mod_lt _ (by decide)), Nat.shiftRight_eq_div_pow,
      Nat.mul_succ 8 n, Nat.add_comm (8 * n), Nat.pow_add, Nat.mod_mul, Nat.mul_comm]

theorem toLE_fromLE (bs : List Nat) (h : ∀ b ∈ bs, b < 256) : toLE bs.length (fromLE bs) = bs := by
  induction bs with
  | nil => rfl
  | cons b bs ih =>
    have hb := h b List.mem_cons_self
    rw [List.length_cons, toLE, fromLE, or_shl _ _ 8 hb, Nat.add_mul_mod_self_right, Nat.mod_eq_of_lt hb,
      Nat.shiftRight_eq_div_pow, Nat.add_mul_div_right _ _ (by decide), Nat.div_eq_of_lt hb, Nat.zero_add,
      ih fun x hx => h x (List.mem_cons_of_mem _ hx)]

theorem fromLE_lt (bs : List Nat) (h : ∀ b ∈ bs, b < 256) : fromLE bs < 2 ^ (8 * bs.length) := by
  induction bs with
  | nil => decide
  | cons b bs ih =>
    have hb := h b List.mem_cons_self
    have := ih fun x hx => h x (List.mem_cons_of_mem _ hx)
    rw [fromLE, or_shl _ _ 8 hb, List.length_cons, Nat.mul_succ 8, Nat.pow_add]
    omega

theorem toLE_bytes (n v : Nat) : ∀ b ∈ toLE n v, b < 256 := by
  induction n generalizing v with
  | zero => exact fun _ h => nomatch h
  | succ n ih => exact List.forall_mem_cons.2 ⟨Nat.mod_lt _ (by decide), ih _⟩

theorem fromLE32_eq (b0 b1 b2 b3 : Nat) : fromLE32 b0 b1 b2 b3 = fromLE [b0, b1, b2, b3] := by
  simp only [fromLE32, fromLE, Nat.shiftLeft_or_distrib, ← Nat.shiftLeft_add, Nat.or_assoc,
    Nat.zero_shiftLeft, Nat.or_zero]

theorem le32_eq (v : Nat) : le32 v = toLE 4 v := by
  simp only [le32, toLE, ← Nat.shiftRight_add]

theorem fromLE64_eq (b0 b1 b2 b3 b4 b5 b6 b7 : Nat) :
    fromLE64 b0 b1 b2 b3 b4 b5 b6 b7 = fromLE [b0, b1, b2, b3, b4, b5, b6, b7] := by
  simp only [fromLE64, fromLE, Nat.shiftLeft_or_distrib, ← Nat.shiftLeft_add, Nat.or_assoc,
    Nat.zero_shiftLeft, Nat.or_zero]

theorem le64_eq (v : Nat) : le64 v = toLE 8 v := by
  simp only [le64, toLE, ← Nat.shiftRight_add]

/-- reading back the 4 bytes written for a 32-bit pattern gives the pattern, bit for bit -/
theorem le32_roundtrip (v : Nat) (hv : v < 2 ^ 32) :
    fromLE32 (v % 256) (v / 256 % 256) (v / 65536 % 256) (v / 16777216 % 256) = v := by
  rw [fromLE32_eq]
  simpa only [toLE, Nat.shiftRight_eq_div_pow, Nat.reducePow, Nat.div_div_eq_div_mul, Nat.reduceMul,
    Nat.mod_eq_of_lt hv] using fromLE_toLE 4 v

theorem le64_roundtrip (v : Nat) (hv : v < 2 ^ 64) :
    fromLE64 (v % 256) (v / 256 % 256) (v / 65536 % 256) (v / 16777216 % 256) (v / 4294967296 % 256)
      (v / 1099511627776 % 256) (v / 281474976710656 % 256) (v / 72057594037927936 % 256) = v := by
  rw [fromLE64_eq]
  simpa only [toLE, Nat.shiftRight_eq_div_pow, Nat.reducePow, Nat.div_div_eq_div_mul, Nat.reduceMul,
    Nat.mod_eq_of_lt hv] using fromLE_toLE 8 v

/-- `ToVector32(VectorString32(v)) = v` bit for bit, for every list of 32-bit patterns
    (NaN payloads, signed zeros, infinities, denormals are just patterns) -/
theorem vector32_roundtrip (v : List Nat) (hv : ∀ x ∈ v, x < 2 ^ 32) :
    toVector32 (vectorString32 v) = some v := by
  induction v with
  | nil => rfl
  | cons x xs ih =>
    show Option.map (fromLE32 _ _ _ _ :: ·) (toVector32 (vectorString32 xs)) = _
    simp only [Nat.shiftRight_eq_div_pow, Nat.reducePow, le32_roundtrip x (hv x List.mem_cons_self),
      ih fun y hy => hv y (List.mem_cons_of_mem _ hy)]
    rfl

theorem vector64_roundtrip (v : List Nat) (hv : ∀ x ∈ v, x < 2 ^ 64) :
    toVector64 (vectorString64 v) = some v := by
  induction v with
  | nil => rfl
  | cons x xs ih =>
    show Option.map (fromLE64 _ _ _ _ _ _ _ _ :: ·) (toVector64 (vectorString64 xs)) = _
    simp only [Nat.shiftRight_eq_div_pow, Nat.reducePow, le64_roundtrip x (hv x List.mem_cons_self),
      ih fun y hy => hv y (List.mem_cons_of_mem _ hy)]
    rfl

theorem vectorString32_length (v : List Nat) : (vectorString32 v).length = 4 * v.length := by
  induction v with
  | nil => rfl
  | cons x xs ih =>
    show (le32 x ++ vectorString32 xs).length = 4 * (xs.length + 1)
    rw [List.length_append, ih, Nat.add_comm]; rfl

theorem vectorString64_length (v : List Nat) : (vectorString64 v).length = 8 * v.length := by
  induction v with
  | nil => rfl
  | cons x xs ih =>
    show (le64 x ++ vectorString64 xs).length = 8 * (xs.length + 1)
    rw [List.length_append, ih, Nat.add_comm]; rfl

theorem vectorString32_bytes (v : List Nat) : ∀ b ∈ vectorString32 v, b < 256 := by
  intro b hb
  obtain ⟨x, _, hx⟩ := List.mem_flatMap.1 hb
  exact toLE_bytes 4 x b (le32_eq x ▸ hx)

theorem vectorString64_bytes (v : List Nat) : ∀ b ∈ vectorString64 v, b < 256 := by
  intro b hb
  obtain ⟨x, _, hx⟩ := List.mem_flatMap.1 hb
  exact toLE_bytes 8 x b (le64_eq x ▸ hx)

/-- what `ToVector32` does on an arbitrary string: it succeeds exactly when the length is a multiple
    of 4 (then with `len/4` elements) and panics (slice bounds out of range) otherwise -/
theorem toVector32_defined_iff (s : List Nat) :
    (s.length % 4 = 0 → ∃ v, toVector32 s = some v ∧ v.length = s.length / 4) ∧
    (s.length % 4 ≠ 0 → toVector32 s = none) := by
  fun_induction toVector32 s with
  | case1 => exact ⟨fun _ => ⟨[], rfl, rfl⟩, fun h => absurd rfl h⟩
  | case2 b0 b1 b2 b3 rest ih =>
    rw [show (b0 :: b1 :: b2 :: b3 :: rest).length = rest.length + 4 from rfl, Nat.add_mod_right,
      Nat.add_div_right _ (by decide : 0 < 4)]
    refine ⟨fun h => ?_, fun h => by rw [ih.2 h]; rfl⟩
    obtain ⟨v, hv, hl⟩ := ih.1 h
    exact ⟨_, by rw [hv]; rfl, congrArg (· + 1) hl⟩
  | case3 s h0 h4 =>
    refine ⟨fun h => ?_, fun _ => rfl⟩
    rcases s with _ | ⟨_, _ | ⟨_, _ | ⟨_, _ | ⟨_, _⟩⟩⟩⟩
    · exact (h0 rfl).elim
    iterate 3 exact nomatch h
    · exact (h4 _ _ _ _ _ rfl).elim

theorem toVector64_defined_iff (s : List Nat) :
    (s.length % 8 = 0 → ∃ v, toVector64 s = some v ∧ v.length = s.length / 8) ∧
    (s.length % 8 ≠ 0 → toVector64 s = none) := by
  fun_induction toVector64 s with
  | case1 => exact ⟨fun _ => ⟨[], rfl, rfl⟩, fun h => absurd rfl h⟩
  | case2 b0 b1 b2 b3 b4 b5 b6 b7 rest ih =>
    rw [show (b0 :: b1 :: b2 :: b3 :: b4 :: b5 :: b6 :: b7 :: rest).length = rest.length + 8 from rfl,
      Nat.add_mod_right, Nat.add_div_right _ (by decide : 0 < 8)]
    refine ⟨fun h => ?_, fun h => by rw [ih.2 h]; rfl⟩
    obtain ⟨v, hv, hl⟩ := ih.1 h
    exact ⟨_, by rw [hv]; rfl, congrArg (· + 1) hl⟩
  | case3 s h0 h8 =>
    refine ⟨fun h => ?_, fun _ => rfl⟩
    rcases s with _ | ⟨_, _ | ⟨_, _ | ⟨_, _ | ⟨_, _ | ⟨_, _ | ⟨_, _ | ⟨_, _ | ⟨_, _⟩⟩⟩⟩⟩⟩⟩⟩
    · exact (h0 rfl).elim
    iterate 7 exact nomatch h
    · exact (h8 _ _ _ _ _ _ _ _ _ rfl).elim

/-- the other direction: whatever byte string `ToVector32` accepts is reproduced by `VectorString32`
    (the two functions are inverse bijections between pattern lists and strings of length 4n) -/
theorem vectorString32_toVector32 (s v : List Nat) (hs : ∀ b ∈ s, b < 256) (h : toVector32 s = some v) :
    vectorString32 v = s ∧ ∀ x ∈ v, x < 2 ^ 32 := by
  fun_induction toVector32 s generalizing v with
  | case1 => cases h; exact ⟨rfl, nofun⟩
  | case2 b0 b1 b2 b3 rest ih =>
    obtain ⟨w, hr, rfl⟩ := Option.map_eq_some_iff.1 h
    obtain ⟨e, hw⟩ := ih w (fun b hb => hs b (List.mem_append_right [b0, b1, b2, b3] hb)) hr
    have hb : ∀ b ∈ [b0, b1, b2, b3], b < 256 := fun b hb => hs b (List.mem_append_left rest hb)
    constructor
    · show le32 (fromLE32 b0 b1 b2 b3) ++ vectorString32 w = _
      rw [e, le32_eq, fromLE32_eq]
      exact congrArg (· ++ rest) (toLE_fromLE _ hb)
    · exact List.forall_mem_cons.2 ⟨fromLE32_eq .. ▸ fromLE_lt _ hb, hw⟩
  | case3 s h0 h4 => cases h

/-- `BinaryString(b)` has exactly b's bytes -/
theorem binaryString_bytes (bs : List Nat) : binaryString bs = bs := rfl

/-- `JSON(x)` is the standard encoding whenever `json.Marshal` succeeds, and panics exactly when it fails -/
theorem json_eq_marshal {α ε : Type} (marshal : α → Except ε (List Nat)) (x : α) :
    (∀ bs, marshal x = .ok bs → json marshal x = some bs) ∧
    (∀ e, marshal x = .error e → json marshal x = none) :=
  ⟨fun bs h => by simp [json, h, binaryString], fun e h => by simp [json, h]⟩

/-! ### non-vacuity (1.0f = 0x3f800000, a signalling NaN with payload, -0.0) -/

example : vectorString32 [0x3f800000] = [0, 0, 0x80, 0x3f] := by decide
example : toVector32 (vectorString32 [0x7fa00001, 0x80000000, 0x00000001]) = some [0x7fa00001, 0x80000000, 0x00000001] := by decide
example : toVector32 [1, 2, 3, 4, 5] = none := by decide
example : toVector64 (vectorString64 [0x7ff0000000000001, 0x8000000000000000]) = some [0x7ff0000000000001, 0x8000000000000000] := by decide

end Rv.C45
