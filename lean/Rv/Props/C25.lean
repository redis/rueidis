import Rv.Model.Dedicated
/-!
C25 — dedicated clients are isolated and single-use.
-/
namespace Rv.C25
open Rv.Dedicated

/-- After release/Close every method leaves the wire alone: the checked
    methods answer ErrDedicatedClientRecycled, `release` and `Close` (void) do nothing, `DoMulti()`
    with no commands returns the nil slice before the check.
    (Before `fix:` d3f54a6 `Close` called `wire.Close()` without looking at the mark: Dedicate,
    release, Close closed a connection already back in the pool or acquired by somebody else; the
    harness still reports that under key `dedicated:close-after-release-closes-recycled-wire`.) -/
theorem recycled_rejects_all (st : St) (hm : st.mark = true) (op : Op) :
    (step st op).1 = st ∧ (step st op).2.1 = [] ∧
    ((step st op).2.2 = .recycled ∨ ((op = .release ∨ op = .close) ∧ (step st op).2.2 = .void) ∨
      (op = .doMulti 0 ∧ (step st op).2.2 = .nilEmpty)) := by
  cases op with
  | doMulti n =>
    by_cases hn : n = 0
    · subst hn; simp [step]
    · simp [step, hm, hn]
  | _ => simp [step, release, hm]

/-- over all method sequences: once the mark is set it stays set and no call reaches the wire -/
theorem recycled_stays_recycled (st : St) (hm : st.mark = true) (ops : List Op) :
    stateAfter st ops = st ∧ ∀ r ∈ run st ops, r.1 = [] := by
  induction ops with
  | nil => simp [stateAfter, run]
  | cons op r ih =>
    have h1 := recycled_rejects_all st hm op
    simp only [stateAfter, run, h1.1]
    exact ⟨ih.1, List.forall_mem_cons.2 ⟨h1.2.1, ih.2⟩⟩

/-- a call that starts on a recycled client never reaches the wire, for any retry script -/
theorem recycled_retry_sends_nothing (m : Meth) (st : St) (hm : st.mark = true) (ds : List Between) :
    retryLoop m st ds = (st, [], .recycled) := by
  cases ds <;> simp [retryLoop, hm]

/-- A Do / DoMulti / Receive that is inside its retry loop when
    the client is released or closed (by another goroutine, during a retry delay) makes no further
    call on the wire and returns ErrDedicatedClientRecycled — whatever the remaining passes would
    have been (`rest` is any number of further retry delays with anything happening in them). The
    wire calls are exactly: the passes before the release, the release's own hand-back sequence. -/
theorem released_client_sends_nothing (m : Meth) (st : St) (hm : st.mark = false) (k : Nat) (b : Between)
    (hb : b ≠ .nothing) (rest : List Between) :
    retryLoop m st (List.replicate k .nothing ++ b :: rest) =
      ((between st b).1, List.replicate (k + 1) m.call ++ (between st b).2, .recycled) ∧
    (between st b).1.mark = true := by
  have hmark : (between st b).1.mark = true := by
    cases b with
    | nothing => exact absurd rfl hb
    | release => simp [between, release, hm]
    | close => simp [between, step, hm]
  refine ⟨?_, hmark⟩
  induction k with
  | zero =>
    simp only [List.replicate, List.nil_append, retryLoop, hm, Bool.false_eq_true, if_false]
    rw [recycled_retry_sends_nothing m _ hmark rest]
    simp
  | succ k ih =>
    have hn : between st .nothing = (st, []) := rfl
    simp only [List.replicate_succ, List.cons_append, retryLoop, hm, Bool.false_eq_true, if_false, hn,
      List.nil_append]
    rw [ih]
    simp [List.replicate_succ]

/-- non-vacuity: two LOADING answers, released during the second delay, a third pass never happens -/
example : retryLoop .do_ {} [.nothing, .release, .nothing] =
    ({ mark := true }, [.wDo, .wDo, .wGetHooks, .wSetHooks {}, .wClean, .poolStore], .recycled) := by decide
/-- and an undisturbed loop does retry -/
example : (retryLoop .do_ {} [.nothing, .nothing]).2 = ([.wDo, .wDo, .wDo], .ok) := by decide

/-- A shared-client blocking command that returns early
    with a non-Redis error (its caller's context was cancelled, a deadline, a transport error) has
    its wire closed BEFORE it is stored, and the pool discards it; only a wire whose command was
    answered stays in the pool. So the pool never hands a connection with somebody's command still
    pending to the next Dedicate() — the precondition of `exclusive_wire`. -/
theorem abandoned_blocking_wire_never_reused :
    blockingCalls true = [.wDo, .wClose, .poolStore, .poolDiscard] ∧ blockingKeepsWire true = false ∧
    blockingCalls false = [.wDo, .poolStore] ∧ blockingKeepsWire false = true := by decide

/-- A released or closed cluster dedicated client —
    also one that had already acquired its wire, which it keeps a pointer to — leaves the wire
    alone in every method: Do / DoMulti / Receive / SetPubSubHooks / SetOnInvalidations answer
    ErrDedicatedClientRecycled, Close and the release func do nothing, and the only call that may
    still reach the wire is the read of its hooks by SetOnInvalidations. -/
theorem released_cluster_client_rejects_every_method (st : CSt) (hm : st.mark = true) (op : Op) :
    (cstep st op).1 = st ∧ (∀ c ∈ (cstep st op).2.1, c.mutates = false) ∧
    ((cstep st op).2.2 = .recycled ∨ ((op = .release ∨ op = .close) ∧ (cstep st op).2.2 = .void) ∨
      (op = .doMulti 0 ∧ (cstep st op).2.2 = .nilEmpty)) := by
  cases op with
  | doMulti n =>
    by_cases hn : n = 0
    · subst hn; simp [cstep]
    · simp [cstep, cacquire, hm, hn]
  | setInv on => cases hw : st.hasWire <;> simp [cstep, csetHooks, hm, hw, Call.mutates]
  | _ => simp [cstep, cacquire, crelease, csetHooks, hm]

/-- releasing hands a wire back only if one was acquired, through `mux.Store`'s sequence -/
theorem cluster_release_stores (st : CSt) (hm : st.mark = false) :
    (cstep st .release).2.1 = (if st.hasWire then storeSeq st.hooks else []) ∧ (cstep st .release).1.mark = true := by
  simp [cstep, crelease, hm]

/-- hooks set before the first command are installed when the wire is acquired -/
example : (cstep (cstep {} (.setHooks { msg := true })).1 .do_).2.1 = [.wSetHooks { msg := true }, .wDo] := by decide
/-- the seeded scenario: a used, released handle that calls SetPubSubHooks touches nothing -/
example : (cstep (cstep (cstep {} .do_).1 .release).1 (.setHooks { msg := true })).2 = ([], .recycled) := by decide

/-- release and Close both recycle the client -/
theorem release_marks (st : St) : (step st .release).1.mark = true ∧ (step st .close).1.mark = true := by
  cases hm : st.mark <;> simp [step, release, hm]

/-- Dedicate, release, Close: the second call is a no-op -/
example : (run {} [.release, .close]).map (·.1) = [[.wGetHooks, .wSetHooks {}, .wClean, .poolStore], []] := by decide

/-- The first release (or Close) of a client hands the wire back through exactly
    `mux.Store`'s sequence: hooks reset, then CleanSubscriptions, then CLIENT TRACKING OFF iff an
    invalidation callback was installed, then the pool — and a later release does nothing. -/
theorem store_cleans (st : St) (hm : st.mark = false) :
    (step st .release).2.1 = [.wGetHooks, .wSetHooks {}, .wClean] ++ (if st.hooks.inv then [.wTrackingOff] else []) ++ [.poolStore] ∧
    (step st .close).2.1 = .wClose :: ([.wGetHooks, .wSetHooks {}, .wClean] ++ (if st.hooks.inv then [.wTrackingOff] else []) ++ [.poolStore, .poolDiscard]) ∧
    (step (step st .release).1 .release).2.1 = [] := by
  simp [step, release, hm, storeSeq]

/-- the hooks the wire has at release are the ones the session installed last -/
theorem hooks_tracked (st : St) (hm : st.mark = false) (h : Hooks) (on : Bool) :
    (step st (.setHooks h)).1.hooks = h ∧ (step st (.setInv on)).1.hooks = { st.hooks with inv := on } := by
  simp [step, hm]

theorem clean_subscriptions_by_version (v : Nat) :
    (v ≥ 7 → cleanSubscriptions false 1 v = .cmds ["UNSUBSCRIBE", "PUNSUBSCRIBE", "SUNSUBSCRIBE", "DISCARD"]) ∧
    (v < 7 → cleanSubscriptions false 1 v = .cmds ["UNSUBSCRIBE", "PUNSUBSCRIBE", "DISCARD"]) :=
  ⟨fun h => by simp [cleanSubscriptions, h], fun h => by simp [cleanSubscriptions, Nat.not_le.2 h]⟩

/-- `CleanSubscriptions` as coded: the unsubscribe family + DISCARD on a pipe in background mode
    (SUNSUBSCRIBE from version 7 on), a pipe that ran a blocking command is closed instead, a pipe
    still in synchronous mode gets nothing (observation `dedicated:open-multi-leaks-to-next-user`). -/
theorem clean_subscriptions_cmds :
    cleanSubscriptions false 1 7 = .cmds ["UNSUBSCRIBE", "PUNSUBSCRIBE", "SUNSUBSCRIBE", "DISCARD"] ∧
    cleanSubscriptions false 1 6 = .cmds ["UNSUBSCRIBE", "PUNSUBSCRIBE", "DISCARD"] ∧
    (∀ s v, cleanSubscriptions true s v = .closePipe) ∧
    (∀ v, cleanSubscriptions false 0 v = .nothing) := by
  refine ⟨(clean_subscriptions_by_version 7).1 (Nat.le_refl 7), (clean_subscriptions_by_version 6).2 (Nat.lt_succ_self 6),
    fun _ _ => rfl, fun v => ?_⟩
  simp [cleanSubscriptions]

private theorem holder_keeps (a w : Nat) (post pre : List Ev) (hwf : wf (post ++ .acq a w :: pre))
    (hns : ∀ b, Ev.store b w ∉ post) : holder (post ++ .acq a w :: pre) w = some a := by
  induction post with
  | nil => simp [holder]
  | cons e r ih =>
    have ih' := ih hwf.1 fun b hb => hns b (List.mem_cons_of_mem _ hb)
    cases e with
    | acq b w' =>
      by_cases hww : w' = w
      · subst hww
        exact nomatch ih'.symm.trans hwf.2
      · simp [holder, hww, ih']
    | store b w' =>
      by_cases hww : w' = w
      · exact absurd (hww ▸ List.mem_cons_self) (hns b)
      · simp [holder, hww, ih']
    | cmd b w' => simp [holder, ih']

/-- In every trace in which the pool hands out a wire only when nobody holds it
    (pool exclusivity: C24, a hypothesis here) and callers write only on wires they hold
    (`recycled_rejects_all`): between the acquisition of wire `w` by `a` and its hand-back,
    every command on `w` is `a`'s. (Traces are newest-first.) -/
theorem exclusive_wire (a w : Nat) (post pre : List Ev) (hwf : wf (post ++ .acq a w :: pre))
    (hns : ∀ b, Ev.store b w ∉ post) : ∀ b, Ev.cmd b w ∈ post → b = a := by
  induction post with
  | nil => intro b hb; simp at hb
  | cons e r ih =>
    intro b hb
    have hns' : ∀ b, Ev.store b w ∉ r := fun b hb => hns b (List.mem_cons_of_mem _ hb)
    rcases List.mem_cons.1 hb with rfl | hb
    · exact Option.some.inj ((hwf.2 : holder _ w = some b).symm.trans (holder_keeps a w r pre hwf.1 hns'))
    · exact ih hwf.1 hns' b hb

/-- non-vacuity: a well-formed trace with two sessions on one wire -/
example : wf [.store 2 7, .cmd 2 7, .acq 2 7, .store 1 7, .cmd 1 7, .cmd 1 7, .acq 1 7] := by
  simp [wf, holder]

/-- a command by 1 while 2 holds the wire (what Close-after-release did before fix d3f54a6) is not well-formed -/
example : ¬ wf [.cmd 1 7, .acq 2 7, .store 1 7, .acq 1 7] := by
  simp [wf, holder]

end Rv.C25
