/-
C37 — sliding-window Bloom filters keep items for at least half a window.

Chain to the source: as C35 (script texts regenerated and pinned; hand transcription
`Rv.SBloom`; `sbloom` correspondence suite through the fake server, whose clock the harness
drives). The server clock is a parameter of every operation; no monotonicity is assumed: the
theorem quantifies over all histories whose clock readings stay ≤ t + half.
-/
import Rv.Gen.LuaScripts
import Rv.Model.SlidingBloom
import Rv.Props.C35

namespace Rv.C37
open Rv.SBloom Rv.GroupLoop
open Rv.Bloom (Bits setBit bitVal emptyBits itemIdx allIdx)

theorem sbf_init_script_pinned : Rv.Gen.rueidisprob_slidingBloomFilterInitializeScript =
  "\nlocal filterKey = KEYS[1]\nlocal nextFilterKey = KEYS[2]\nlocal counterKey = KEYS[3]\nlocal nextCounterKey = KEYS[4]\nlocal lastRotationKey = KEYS[5]\nlocal windowHalf = tonumber(ARGV[1])\n\nif redis.call('EXISTS', filterKey, nextFilterKey, counterKey, nextCounterKey, lastRotationKey) == 0 then\n\tlocal time = redis.call('TIME')\n\tlocal current_time = tonumber(time[1]) * 1000 + math.floor(tonumber(time[2]) / 1000)\n\n\tredis.call('MSET', filterKey, \"\", counterKey, 0, nextFilterKey, \"\", nextCounterKey, 0)\n\tredis.call('SET', lastRotationKey, tostring(current_time), 'PX', windowHalf, 'NX')\nend\n\nreturn 1\n" := rfl

theorem sbf_add_script_pinned : Rv.Gen.rueidisprob_slidingBloomFilterAddMultiScript =
  "\nlocal hashIterations = tonumber(ARGV[1])\nlocal windowHalf = tonumber(ARGV[2])\nlocal numElements = tonumber(#ARGV) - 2\n\nlocal filterKey = KEYS[1]\nlocal nextFilterKey = KEYS[2]\nlocal counterKey = KEYS[3]\nlocal nextCounterKey = KEYS[4]\nlocal lastRotationKey = KEYS[5]\n\nlocal time = redis.call('TIME')\nlocal current_time = tonumber(time[1]) * 1000 + math.floor(tonumber(time[2])/1000)\nlocal acquiredLock = redis.call('SET', lastRotationKey, tostring(current_time), 'PX', windowHalf, 'NX')\n\nif acquiredLock then\n\tredis.call('RENAME', nextFilterKey, filterKey)\n\tredis.call('RENAME', nextCounterKey, counterKey)\n\tredis.call('SET', nextFilterKey, \"\")\n\tredis.call('SET', nextCounterKey, 0)\nend\n\nlocal counter = 0\nlocal oneBits = 0\nfor i=1, numElements do\n\tlocal bitset = redis.call('BITFIELD', filterKey, 'SET', 'u1', ARGV[i+2], '1')\n\tredis.call('BITFIELD', nextFilterKey, 'SET', 'u1', ARGV[i+2], '1')\n\n\toneBits = oneBits + bitset[1]\n\tif i % hashIterations == 0 then\n\t\tif oneBits ~= hashIterations then\n\t\t\tcounter = counter + 1\n\t\tend\n\n\t\toneBits = 0\n\tend\nend\n\nredis.call('INCRBY', nextCounterKey, counter)\nreturn redis.call('INCRBY', counterKey, counter)\n" := rfl

theorem sbf_exists_script_pinned : Rv.Gen.rueidisprob_slidingBloomFilterExistsMultiScript =
  "\nlocal hashIterations = tonumber(ARGV[1])\nlocal windowHalf = tonumber(ARGV[2])\nlocal numElements = tonumber(#ARGV) - 2\n\nlocal filterKey = KEYS[1]\nlocal nextFilterKey = KEYS[2]\nlocal counterKey = KEYS[3]\nlocal nextCounterKey = KEYS[4]\nlocal lastRotationKey = KEYS[5]\n\nlocal time = redis.call('TIME')\nlocal current_time = tonumber(time[1]) * 1000 + math.floor(tonumber(time[2])/1000)\nlocal acquiredLock = redis.call('SET', lastRotationKey, tostring(current_time), 'PX', windowHalf, 'NX')\n\nif acquiredLock then\n\tredis.call('RENAME', nextFilterKey, filterKey)\n\tredis.call('RENAME', nextCounterKey, counterKey)\n\tredis.call('SET', nextFilterKey, \"\")\n\tredis.call('SET', nextCounterKey, 0)\nend\n\nlocal result = {}\nlocal oneBits = 0\nfor i=1, numElements do\n\tlocal index = tonumber(ARGV[i+2])\n\tlocal bitset = redis.call('BITFIELD', filterKey, 'GET', 'u1', index)\n\n\toneBits = oneBits + bitset[1]\n\tif i % hashIterations == 0 then\n\t\ttable.insert(result, oneBits == hashIterations)\n\n\t\toneBits = 0\n\tend\nend\n\nreturn result\n" := rfl

theorem sbf_exists_ro_script_pinned : Rv.Gen.rueidisprob_slidingBloomFilterExistsReadOnlyMultiScript =
  "\nlocal hashIterations = tonumber(ARGV[1])\nlocal windowHalf = tonumber(ARGV[2])\nlocal numElements = tonumber(#ARGV) - 2\n\nlocal filterKey = KEYS[1]\nlocal nextFilterKey = KEYS[2]\nlocal counterKey = KEYS[3]\nlocal nextCounterKey = KEYS[4]\nlocal lastRotationKey = KEYS[5]\n\nlocal time = redis.call('TIME')\nlocal current_time = tonumber(time[1]) * 1000 + math.floor(tonumber(time[2])/1000)\nlocal acquiredLock = redis.call('SET', lastRotationKey, tostring(current_time), 'PX', windowHalf, 'NX')\n\nif acquiredLock then\n\tredis.call('RENAME', nextFilterKey, filterKey)\n\tredis.call('RENAME', nextCounterKey, counterKey)\n\tredis.call('SET', nextFilterKey, \"\")\n\tredis.call('SET', nextCounterKey, 0)\nend\n\nlocal result = {}\nlocal oneBits = 0\nfor i=1, numElements do\n\tlocal index = tonumber(ARGV[i+2])\n\tlocal bitset = redis.call('BITFIELD_RO', filterKey, 'GET', 'u1', index)\n\n\toneBits = oneBits + bitset[1]\n\tif i % hashIterations == 0 then\n\t\ttable.insert(result, oneBits == hashIterations)\n\n\t\toneBits = 0\n\tend\nend\n\nreturn result\n" := rfl

theorem sbf_reset_script_pinned : Rv.Gen.rueidisprob_slidingBloomFilterResetScript =
  "\nlocal filterKey = KEYS[1]\nlocal nextFilterKey = KEYS[2]\nlocal counterKey = KEYS[3]\nlocal nextCounterKey = KEYS[4]\n\nredis.call('RENAME', nextFilterKey, filterKey)\nredis.call('RENAME', nextCounterKey, counterKey)\nredis.call('SET', nextFilterKey, \"\")\nredis.call('SET', nextCounterKey, 0)\n" := rfl

/-- the item's bits are in the current filter and the rotation lock is set, expiring at `e`. Either no
rotation happened since `t` — then the lock expires no earlier than `t` and the bits are in the next
filter too, which the coming rotation renames to current — or one did, and the lock outlives `t + half` -/
def Inv (g : List Nat) (t half : Nat) (s : St) : Prop :=
  ∃ e, s.lock = some e ∧ (∀ x ∈ g, bitsOf s.cur x = true) ∧
    ((t ≤ e ∧ s.next.isSome ∧ s.nextC.isSome ∧ ∀ x ∈ g, bitsOf s.next x = true) ∨ t + half < e)

/-- the rotation step of every script keeps the invariant while the clock is ≤ t + half -/
theorem rotate_inv (g : List Nat) (t half u : Nat) (s : St) (hh : 1 ≤ half) (hu : u ≤ t + half)
    (h : Inv g t half s) : ∃ s1, rotate half u s = .ok s1 ∧ Inv g t half s1 := by
  obtain ⟨e, hl, hcur, hph⟩ := h
  have hheld : lockHeld s u = decide (u ≤ e) := by rw [lockHeld, hl]
  rw [rotate, if_neg (Nat.ne_of_gt hh), hheld]
  by_cases hue : u ≤ e
  · rw [if_pos (decide_eq_true hue)]
    exact ⟨s, rfl, e, hl, hcur, hph⟩
  · rw [if_neg (by simpa using hue)]
    rcases hph with ⟨hte, hn, hnc, hnb⟩ | hlt
    · obtain ⟨nb, hn⟩ := Option.isSome_iff_exists.1 hn
      obtain ⟨nc, hnc⟩ := Option.isSome_iff_exists.1 hnc
      rw [hn] at hnb
      rw [hn, hnc]
      exact ⟨_, rfl, u + half, rfl, hnb, Or.inr (by omega)⟩
    · omega

theorem rotate_lock (half now : Nat) (s s1 : St) (h : rotate half now s = .ok s1) :
    ∃ e, s1.lock = some e ∧ now ≤ e := by
  unfold rotate at h
  split at h
  · cases h
  · split at h
    next hheld =>
      cases h
      unfold lockHeld at hheld
      split at hheld
      next e he => exact ⟨e, he, of_decide_eq_true hheld⟩
      · cases hheld
    · split at h
      · cases h
      · split at h <;> cases h
        exact ⟨_, rfl, Nat.le_add_right _ _⟩

/-- the sliding add loop sets the given bits in both filters and clears none -/
theorem addLoop_bits (k : Nat) (idxs : List Nat) (cb nb : Bits) :
    (addLoop k idxs cb nb).1 = (idxs.foldl setBit cb, idxs.foldl setBit nb) :=
  Prod.ext
    (by refine gloop_proj k _ _ _ _ (·.1.1) setBit ?_ ?_ idxs 1 0 ((cb, nb), 0) <;> intros <;> rfl)
    (by refine gloop_proj k _ _ _ _ (·.1.2) setBit ?_ ?_ idxs 1 0 ((cb, nb), 0) <;> intros <;> rfl)

/-- an empty argument list leaves the filter untouched: no BITFIELD creates the key -/
private theorem bits_kept (idxs : List Nat) (o : Option Bits) (x : Nat) (h : bitsOf o x = true) :
    bitsOf (if idxs.isEmpty then o else some (idxs.foldl setBit (bitsOf o))) x = true := by
  split
  · exact h
  · exact Rv.C35.foldl_setBit_mono idxs _ x h

/-- the add script (any arguments) keeps the invariant while the clock is ≤ t + half, and succeeds -/
theorem addScript_inv (g : List Nat) (t half u k : Nat) (idxs : List Nat) (s : St) (hh : 1 ≤ half)
    (hu : u ≤ t + half) (h : Inv g t half s) :
    ∃ s' c, addScript k half u idxs s = .ok (s', c) ∧ Inv g t half s' := by
  obtain ⟨s1, hr, e, hl, hcur, hph⟩ := rotate_inv g t half u s hh hu h
  rw [addScript, hr]
  refine ⟨_, _, rfl, e, hl, ?_, hph.imp_left fun ⟨hte, hn, _, hnb⟩ => ⟨hte, ?_, rfl, ?_⟩⟩
  · intro x hx
    rw [addLoop_bits]
    exact bits_kept idxs s1.cur x (hcur x hx)
  · show (if idxs.isEmpty then s1.next else _).isSome
    split
    · exact hn
    · rfl
  · intro x hx
    rw [addLoop_bits]
    exact bits_kept idxs s1.next x (hnb x hx)

/-- the exists script keeps the invariant while the clock is ≤ t + half, succeeds, and reads a
current filter that contains the item's bits -/
theorem existsScript_inv (g : List Nat) (t half u k : Nat) (idxs : List Nat) (s : St) (hh : 1 ≤ half)
    (hu : u ≤ t + half) (h : Inv g t half s) :
    ∃ s1, existsScript k half u idxs s = .ok (s1, Bloom.existsScript k idxs (bitsOf s1.cur)) ∧
      Inv g t half s1 := by
  obtain ⟨s1, hr, h1⟩ := rotate_inv g t half u s hh hu h
  exact ⟨s1, by rw [existsScript, hr], h1⟩

/-- a successful add script run at server time `t` establishes the invariant for every group of
indexes it was given -/
theorem addScript_establishes (g : List Nat) (t half k : Nat) (idxs : List Nat) (s s' : St) (c : Nat)
    (hsub : ∀ x ∈ g, x ∈ idxs) (hne : idxs ≠ [])
    (hok : addScript k half t idxs s = .ok (s', c)) : Inv g t half s' := by
  unfold addScript at hok
  split at hok
  · cases hok
  next s1 hr =>
    cases hok
    obtain ⟨e, hl, hte⟩ := rotate_lock half t s s1 hr
    have hset : ∀ b : Bits, ∀ x ∈ g, idxs.foldl setBit b x = true :=
      fun b x hx => Rv.C35.foldl_setBit_mem idxs b x (hsub x hx)
    simp only [addLoop_bits, List.isEmpty_eq_false_iff.2 hne, Bool.false_eq_true, if_false]
    exact ⟨e, hl, hset _, Or.inl ⟨hte, rfl, rfl, hset _⟩⟩

/-- timed operations; the time is the server clock reading of the script run -/
inductive Op where
  | add (u : Nat) (keys : List (Nat × Nat))
  | exists_ (u : Nat) (keys : List (Nat × Nat))
  | count

def Op.within (bound : Nat) : Op → Prop
  | .add u _ => u ≤ bound
  | .exists_ u _ => u ≤ bound
  | .count => True

/-- server state after an operation (whatever the script's outcome) -/
def applyOp (c : Cfg) (s : St) : Op → St
  | .add u keys => match addMulti c u keys s with | .ok s' => s' | .error s' => s'
  | .exists_ u keys => match existsMulti c u keys s with | .ok (s', _) => s' | .error s' => s'
  | .count => s

def run (c : Cfg) (s : St) (ops : List Op) : St := ops.foldl (applyOp c) s

private theorem applyOp_inv (c : Cfg) (g : List Nat) (t : Nat) (s : St) (op : Op) (hh : 1 ≤ c.half)
    (hw : op.within (t + c.half)) (h : Inv g t c.half s) : Inv g t c.half (applyOp c s op) := by
  cases op with
  | add u keys =>
    by_cases hemp : keys.isEmpty
    · simpa [applyOp, addMulti, hemp] using h
    · obtain ⟨s', cc, hok, hi⟩ := addScript_inv g t c.half u c.k (idxsOf c keys) s hh hw h
      simpa [applyOp, addMulti, hemp, hok, Except.map] using hi
  | exists_ u keys =>
    by_cases hemp : keys.isEmpty
    · simpa [applyOp, existsMulti, hemp] using h
    · obtain ⟨s1, hok, hi⟩ := existsScript_inv g t c.half u c.k (idxsOf c keys) s hh hw h
      simpa [applyOp, existsMulti, hemp, hok] using hi
  | count => exact h

/-- `present_for_half_window`: for every accepted configuration (`k ≥ 1`; window ≥ 1 s gives
`half ≥ 1`), any hash values, any start state: after an `Add`/`AddMulti` containing `key` succeeded
at server time `t`, through any history of adds and queries (no Reset/Delete) whose clock readings
are all ≤ t + half, `Exists key` asked at any `u ≤ t + half` succeeds and answers `true`. -/
theorem present_for_half_window (c : Cfg) (hk : 1 ≤ c.k) (hh : 1 ≤ c.half) (s s0 : St) (t : Nat)
    (keys : List (Nat × Nat)) (key : Nat × Nat) (hmem : key ∈ keys)
    (hadd : addMulti c t keys s = .ok s0)
    (hist : List Op) (hw : ∀ op ∈ hist, op.within (t + c.half)) (u : Nat) (hu : u ≤ t + c.half) :
    ∃ s', existsMulti c u [key] (run c s0 hist) = .ok (s', some [true]) := by
  have hemp : keys.isEmpty = false := List.isEmpty_eq_false_iff.2 (List.ne_nil_of_mem hmem)
  have hsub : ∀ x ∈ itemIdx c.m c.k key, x ∈ idxsOf c keys := fun x hx =>
    List.mem_flatten.2 ⟨_, List.mem_map.2 ⟨key, hmem, rfl⟩, hx⟩
  have hne : idxsOf c keys ≠ [] := by
    obtain ⟨x, hx⟩ := List.exists_mem_of_length_pos (Rv.C35.itemIdx_length c.m c.k key ▸ hk)
    exact List.ne_nil_of_mem (hsub x hx)
  -- the add established the invariant for the key's indexes
  have h0 : Inv (itemIdx c.m c.k key) t c.half s0 := by
    rw [addMulti, hemp, if_neg Bool.false_ne_true] at hadd
    cases hs : addScript c.k c.half t (idxsOf c keys) s <;> rw [hs] at hadd <;> cases hadd
    exact addScript_establishes _ t c.half c.k _ s _ _ hsub hne hs
  have h1 : Inv _ t c.half (run c s0 hist) :=
    foldl_preserves (Inv _ t c.half) (applyOp c) hist s0 (fun s op hop => applyOp_inv c _ t s op hh (hw op hop)) h0
  obtain ⟨s1, hok, _, _, hcur, _⟩ := existsScript_inv _ t c.half u c.k (idxsOf c [key]) _ hh hu h1
  have hgrp : Bloom.existsScript c.k (idxsOf c [key]) (bitsOf s1.cur) = [true] := by
    rw [idxsOf, Rv.C35.existsScript_keys c.m c.k hk, List.map_singleton, List.all_eq_true.2 hcur]
  simp [existsMulti, hok, hgrp]

/-- the statement for every configuration `NewSlidingBloomFilter` accepts: it rejects windows
below one second (`windowMs ≥ 1000`, `half = windowMs / 2`), and the number of hash functions is
the clamped `max(raw, 1)` shared with the plain filter. -/
theorem present_for_half_window_accepted (m hashRaw windowMs : Nat) (hwin : 1000 ≤ windowMs)
    (s s0 : SBloom.St) (t : Nat) (keys : List (Nat × Nat)) (key : Nat × Nat) (hmem : key ∈ keys)
    (hadd : addMulti ⟨m, Rv.Bloom.hashFunctions hashRaw, windowMs / 2⟩ t keys s = .ok s0)
    (hist : List Op) (hw : ∀ op ∈ hist, op.within (t + windowMs / 2)) (u : Nat) (hu : u ≤ t + windowMs / 2) :
    ∃ s', existsMulti ⟨m, Rv.Bloom.hashFunctions hashRaw, windowMs / 2⟩ u [key]
      (run ⟨m, Rv.Bloom.hashFunctions hashRaw, windowMs / 2⟩ s0 hist) = .ok (s', some [true]) :=
  present_for_half_window ⟨m, Rv.Bloom.hashFunctions hashRaw, windowMs / 2⟩
    (Rv.C35.hashFunctions_ge_one hashRaw) (by show 1 ≤ windowMs / 2; omega) s s0 t keys key hmem hadd hist hw u hu

/-- the bound is tight in the model: an item added at t = 1000 (half = 500) is gone at t = 2002
after two rotations (1501 and 2002) -/
theorem lost_after_two_rotations :
    let c : Cfg := ⟨7, 2, 500⟩
    let s0 := match initScript 500 1000 SBloom.St.init with | .ok s => s | .error s => s
    let s1 := applyOp c s0 (.add 1000 [(5, 3)])
    let s2 := applyOp c s1 (.exists_ 1501 [(5, 3)])
    (match existsMulti c 2002 [(5, 3)] s2 with | .ok (_, r) => r | .error _ => none) = some [false] := by
  decide

/-- non-vacuity: a concrete timed history inside the half window, and the model run on it -/
example : ∀ op ∈ [Op.add 1200 [(9, 4)], Op.exists_ 1499 [(5, 3)], Op.count], op.within (1000 + 500) := by
  intro op h
  simp at h
  rcases h with h | h | h <;> subst h <;> simp [Op.within]

end Rv.C37
