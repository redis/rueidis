/-
C17 — cache serialization round-trips.
Model: Rv/Model/CacheMarshal.lean (cachesize/serialize/unmarshalView, CacheSize/CacheMarshal/
CacheUnmarshalView, setExpireAt/getExpireAt of /repo/message.go).
-/
import Rv.Lemmas.CodecMarshal
namespace Rv.C17
open Rv Rv.CacheMarshal Rv.CodecL

/-- `CacheMarshal` writes exactly `CacheSize` bytes (every message, every 7-byte ttl) -/
theorem marshal_length (ttl : List UInt8) (m : Msg) (ht : ttl.length = 7) :
    (marshal ttl m).length = cacheSize m := by
  simp [marshal, cacheSize, serialize_length, ht]; omega

/-- **Round trip.** For every message tree whose sizes fit (`Fits`: integers are int64, strings
    shorter than 2^62 bytes, element slices fit in one allocation of `L ≤ maxAlloc` bytes) and every
    7-byte expiry, `CacheUnmarshalView (CacheMarshal m)` — even when followed by further bytes —
    succeeds with `norm m` (same tree shape, type bytes, string bytes, integers; attributes
    dropped) and the same 7 expiry bytes. No panic, no out-of-memory.
    (`hlen`: the buffer itself is shorter than 2^62 = 4611686018427387904 bytes.) -/
theorem unmarshal_marshal (L : Nat) (hL : L ≤ maxAlloc) (ttl : List UInt8) (m : Msg) (ht : ttl.length = 7)
    (hf : Fits L m) (junk : List UInt8) (hlen : (marshal ttl m ++ junk).length < 4611686018427387904) :
    unmarshal L (marshal ttl m ++ junk) = .ok (norm m, ttl) := by
  have hd := depth_le m
  unfold unmarshal
  have h7 : ¬ (marshal ttl m ++ junk).length < 7 := by simp [marshal, ht]
  have hdrop : (marshal ttl m ++ junk).drop 7 = serialize m ++ junk := by
    simp only [marshal, List.append_assoc]
    rw [List.drop_append_of_le_length (by omega), List.drop_of_length_le (by omega)]; rfl
  have htake : (marshal ttl m ++ junk).take 7 = ttl := by
    simp only [marshal, List.append_assoc]
    rw [List.take_append_of_le_length (by omega), List.take_of_length_le (by omega)]
  rw [if_neg h7, hdrop, htake]
  rw [((all_ok L hL m) hf).1 _ _ junk hlen (by simp [marshal] at *; omega)]

/-- **Truncation.** Every proper prefix of a marshalled buffer (all `k = 0 … length-1`, i.e. inside
    the ttl, inside a header, inside a string, between elements at any depth) is rejected with
    `ErrCacheUnmarshal` — never a panic, never an out-of-memory. -/
theorem truncation_is_error (L : Nat) (hL : L ≤ maxAlloc) (ttl : List UInt8) (m : Msg) (ht : ttl.length = 7)
    (hf : Fits L m) (hlen : (marshal ttl m).length < 4611686018427387904)
    (k : Nat) (hk : k < (marshal ttl m).length) :
    unmarshal L ((marshal ttl m).take k) = .err errUnmarshal := by
  unfold unmarshal
  have hl : ((marshal ttl m).take k).length = k := by simp; omega
  rw [hl]
  by_cases h7 : k < 7
  · rw [if_pos h7]
  · rw [if_neg h7]
    have hdrop : ((marshal ttl m).take k).drop 7 = (serialize m).take (k - 7) := by
      simp only [marshal]
      rw [List.take_append, List.take_of_length_le (by omega), List.drop_append_of_le_length (by omega),
        List.drop_of_length_le (by omega), ht]; rfl
    have hk' : k - 7 < (serialize m).length := by simp [marshal] at hk; omega
    rw [hdrop, ((all_ok L hL m) hf).2 k (k + 1) (k - 7) (by omega) hk' (by omega)]

mutual
/-- the message without attributes (at any depth) -/
def strip : Msg → Msg
  | .mk t s i xs _ => .mk t s i (stripL xs) []
def stripL : List Msg → List Msg
  | [] => []
  | x :: xs => strip x :: stripL xs
end

/-- the shape of messages the RESP reader produces for cacheable replies: integer-like types carry
    only an integer, aggregates (`*` `%` `~`) carry `intlen = len(values)` elements, every other type
    carries `intlen = len(string)` bytes -/
def CanonNode (k : Kind) (s : List UInt8) (i : Int) (xs : List Msg) : Prop :=
  match k with
  | .int => s = [] ∧ xs = []
  | .agg => s = [] ∧ i = xs.length
  | .str => i = s.length ∧ xs = []

mutual
def Canon : Msg → Prop
  | .mk t s i xs _ => CanonNode (kindOf t) s i xs ∧ CanonL xs
def CanonL : List Msg → Prop
  | [] => True
  | x :: xs => Canon x ∧ CanonL xs
end

/-- on reader-shaped messages the round trip is the identity up to attributes: tree, types,
    strings, integers and lengths all survive -/
theorem norm_canon : ∀ m : Msg, Canon m → norm m = strip m := by
  intro m
  refine Msg.rec (motive_1 := fun m => Canon m → norm m = strip m)
    (motive_2 := fun xs => CanonL xs → normL xs = stripL xs) ?_ ?_ ?_ m
  · intro t s i xs ats ih _ hc
    obtain ⟨hn, hl⟩ := hc
    simp only [norm, strip]
    cases hk : kindOf t <;> simp only [hk, CanonNode] at hn ⊢
    all_goals obtain ⟨h1, h2⟩ := hn; subst h1; subst h2
    · rfl
    · rw [ih hl]
    · rfl
  · intro _; rfl
  · intro x xs ihx ihxs hc
    simp only [normL, stripL, ihx hc.1, ihxs hc.2]

/-- the type byte always survives, also for messages that are not reader-shaped -/
theorem norm_typ (m : Msg) : (norm m).typ = m.typ := by
  cases m with
  | mk t s i xs a => simp only [norm]; cases kindOf t <;> rfl

/-- the default branch treats unknown types as strings: a push (`>`) or attribute (`|`) message
    with elements is NOT preserved (its elements are dropped) — such messages are never cached -/
example : norm (.mk 62 [] 1 [Msg.leafInt 58 7] []) = .mk 62 [] 0 [] [] := by
  simp [norm, kindOf]

theorem packTTL_length (v : Int) : (packTTL v).length = 7 := rfl

/-- `getExpireAt ∘ setExpireAt` is the identity on 0 … 2^56-1 (and reduces mod 2^56 otherwise) -/
theorem ttl_roundtrip (v : Int) : (unpackTTL (packTTL v) : Int) = v % 72057594037927936 := by
  rw [packTTL_eq, unpackTTL_leBytes, Nat.div_one]
  unfold u64; omega

/-- the expiry survives marshalling: the 7 bytes `setExpireAt v` stores come back unchanged -/
theorem expiry_preserved (L : Nat) (hL : L ≤ maxAlloc) (v : Int) (m : Msg) (hf : Fits L m)
    (hlen : (marshal (packTTL v) m).length < 4611686018427387904) :
    unmarshal L (marshal (packTTL v) m) = .ok (norm m, packTTL v) := by
  have := unmarshal_marshal L hL (packTTL v) m rfl hf [] (by simpa using hlen)
  simpa using this

/-! ### outside the property: arbitrary (corrupted) buffers can panic `unmarshalView` -/

/-- a string header with length field 0xFFFFFFFFFFFFFFFF (= -1): `buf[c : c-1]` panics -/
theorem corrupt_buffer_can_panic :
    unmarshal maxAlloc ([0,0,0,0,0,0,0] ++ [36, 255,255,255,255,255,255,255,255]) = .panic := by
  simp [unmarshal, unView, hdr, kindOf, rd8, i64, strCase]

/-- an array header with a negative element count: `make([]RedisMessage, -1)` panics -/
theorem corrupt_count_can_panic :
    unmarshal maxAlloc ([0,0,0,0,0,0,0] ++ [42, 255,255,255,255,255,255,255,255]) = .panic := by
  simp [unmarshal, unView, hdr, kindOf, rd8, i64, aggCase, allocMsgs]

/-! non-vacuity -/
example : Fits maxAlloc (.mk 42 [] 2 [Msg.leafStr 36 [1, 2], Msg.leafInt 58 (-5)] []) := by
  simp [Fits, FitsL, FitsNode, kindOf, Msg.leafStr, Msg.leafInt, msgBytes, maxAlloc]
example : Canon (.mk 42 [] 2 [Msg.leafStr 36 [1, 2], Msg.leafInt 58 (-5)] []) := by
  simp [Canon, CanonL, CanonNode, kindOf, Msg.leafStr, Msg.leafInt]

end Rv.C17
