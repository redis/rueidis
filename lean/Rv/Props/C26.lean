import Rv.Model.Subs
import Rv.Lemmas.GroupLoop
/-!
C26 — Pub/Sub delivers exactly the subscribed messages in order.
All theorems are for every op sequence on the subscription table (every history of
Subscribe / Publish / Confirm / Unsubscribe / cancel / Close).
-/
namespace Rv.C26
open Rv.Subs

/-- messages one op must put into a live subscription with channel list `chans` -/
def deliver1 (chans : List String) : Op → List Msg
  | .publish ch m => if chans.contains ch then [m] else []
  | _ => []

/-- does the op end the subscription (id, chans) -/
def ends (id : Nat) (chans : List String) : Op → Bool
  | .unsubscribe n => chans.contains n.channel
  | .cancel i => i == id
  | .close => true
  | _ => false

/-- everything a subscription must receive from the ops that follow its creation: every
    message published under one of its channels, once, in order, until it ends -/
def expect (id : Nat) (chans : List String) : List Op → List Msg
  | [] => []
  | op :: r => deliver1 chans op ++ (if ends id chans op then [] else expect id chans r)

structure Inv (t : Table) : Prop where
  live : ∀ s ∈ t.subs, s.active = true → t.live = true ∧ t.cnt ≠ 0
  closes : ∀ s ∈ t.subs, (s.active = true → s.closes = 0) ∧ s.closes ≤ 1

private theorem inv_empty : Inv {} := ⟨by simp, by simp⟩

/-- what `op` does to one entry of the table, the guards of `step` aside -/
def onSub : Op → Sub → Sub
  | .subscribe .., s => s
  | .publish ch m, s => if s.active && s.chans.contains ch then { s with buf := s.buf ++ [m] } else s
  | .confirm n, s =>
    if s.active && s.chans.contains n.channel && s.hasFn then { s with notes := s.notes ++ [n] } else s
  | .unsubscribe n, s =>
    if s.active && s.chans.contains n.channel then
      (if s.hasFn then { s with notes := s.notes ++ [n] } else s).remove
    else s
  | .cancel id, s => if s.active && s.id == id then s.remove else s
  | .close, s => if s.active then s.remove else s

theorem step_shape (t : Table) (op : Op) :
    (∃ c f, op = .subscribe c f) ∨ op = .close ∨
      (step t op = t ∧ ¬(t.live = true ∧ t.cnt ≠ 0)) ∨ step t op = upd t (onSub op) := by
  cases op with
  | subscribe c f => exact .inl ⟨c, f, rfl⟩
  | close => exact .inr (.inl rfl)
  | cancel id =>
    exact .inr (.inr (if hl : t.live then .inr (if_pos hl) else .inl ⟨if_neg hl, fun h => hl h.1⟩))
  | _ =>
    exact .inr (.inr (if h0 : (t.cnt != 0) = true then .inr (if_pos h0)
      else .inl ⟨if_neg h0, fun h => h0 (bne_iff_ne.2 h.2)⟩))

theorem onSub_inactive (op : Op) (s : Sub) (ha : s.active = false) : onSub op s = s := by
  cases op <;> simp [onSub, ha]

theorem onSub_spec (op : Op) (s : Sub) :
    (onSub op s).id = s.id ∧ (onSub op s).chans = s.chans ∧
      (onSub op s).buf = s.buf ++ (if s.active then deliver1 s.chans op else []) ∧
      (onSub op s).active = (s.active && !ends s.id s.chans op) := by
  cases ha : s.active
  · simp [onSub_inactive op s ha, ha]
  · cases op with
    | subscribe c f => simp [onSub, deliver1, ends, ha]
    | publish ch m => by_cases hc : ch ∈ s.chans <;> simp [onSub, deliver1, ends, ha, hc]
    | confirm n => simp only [onSub]; split <;> simp [deliver1, ends, ha]
    | unsubscribe n =>
      by_cases hc : n.channel ∈ s.chans
      · cases hf : s.hasFn <;> simp [onSub, Sub.remove, deliver1, ends, ha, hc, hf]
      · simp [onSub, deliver1, ends, ha, hc]
    | cancel id =>
      by_cases hi : id = s.id
      · simp [onSub, Sub.remove, deliver1, ends, ha, hi]
      · simp [onSub, deliver1, ends, ha, hi, Ne.symm hi]
    | close => simp [onSub, Sub.remove, deliver1, ends, ha]

theorem onSub_closes (op : Op) (s : Sub) (hc : (s.active = true → s.closes = 0) ∧ s.closes ≤ 1) :
    ((onSub op s).active = true → s.active = true) ∧
      ((onSub op s).active = true → (onSub op s).closes = 0) ∧ (onSub op s).closes ≤ 1 := by
  cases ha : s.active
  · simp [onSub_inactive op s ha, ha, hc.2]
  · have h0 := hc.1 ha
    cases op <;> simp only [onSub, ha] <;> (repeat' split) <;> simp [Sub.remove, h0]

private theorem inv_upd (t : Table) (h : Inv t) (op : Op) : Inv (upd t (onSub op)) where
  live s' hs' ha := by
    obtain ⟨s, hs, rfl⟩ := List.mem_map.1 hs'
    exact h.live s hs ((onSub_closes op s (h.closes s hs)).1 ha)
  closes s' hs' := by
    obtain ⟨s, hs, rfl⟩ := List.mem_map.1 hs'
    exact (onSub_closes op s (h.closes s hs)).2

private theorem inv_step (t : Table) (h : Inv t) (op : Op) : Inv (step t op) := by
  rcases step_shape t op with ⟨chans, fn, rfl⟩ | rfl | ⟨e, -⟩ | e
  · simp only [step]
    split
    · rename_i hlive
      refine ⟨fun s hs _ => ⟨hlive, Nat.succ_ne_zero _⟩, fun s hs => ?_⟩
      rcases List.mem_append.1 hs with hs | hs
      · exact h.closes s hs
      · cases List.mem_singleton.1 hs; exact ⟨fun _ => rfl, Nat.zero_le _⟩
    · exact ⟨fun s hs ha => ⟨(h.live s hs ha).1, Nat.succ_ne_zero _⟩, h.closes⟩
  · refine ⟨fun s' hs' ha => ?_, (inv_upd t h .close).closes⟩
    obtain ⟨s, hs, rfl⟩ := List.mem_map.1 hs'
    cases hs0 : s.active <;> simp [Sub.remove, hs0] at ha
  · rw [e]; exact h
  · rw [e]; exact inv_upd t h op

private theorem inv_run (t : Table) (h : Inv t) (ops : List Op) : Inv (run t ops) :=
  GroupLoop.foldl_preserves Inv step ops t (fun t op _ h => inv_step t h op) h

/-- the entry at position `i` goes through `onSub op`, provided a failing guard of `step` makes
    no difference to it: the op leaves it alone anyway, or (the invariant) it is not live then -/
private theorem step_get (t : Table) (op : Op) (i : Nat) (s : Sub) (hs : t.subs[i]? = some s)
    (hg : onSub op s = s ∨ (s.active = true → t.live = true ∧ t.cnt ≠ 0)) :
    (step t op).subs[i]? = some (onSub op s) := by
  rcases step_shape t op with ⟨chans, fn, rfl⟩ | rfl | ⟨e, hoff⟩ | e
  · have hlt : i < t.subs.length := (List.getElem?_eq_some_iff.1 hs).1
    show _ = some s
    simp only [step]
    split
    · simpa [List.getElem?_append_left hlt] using hs
    · exact hs
  · simp [step, upd, hs, onSub]
  · have e' : onSub op s = s := hg.elim id fun hl => by
      cases ha : s.active
      · exact onSub_inactive op s ha
      · exact absurd (hl ha) hoff
    rw [e, e']; exact hs
  · simp [e, upd, hs]

/-- For every table reached from the empty one, every subscription in it
    and every continuation `ops`: what ends up in the subscription's channel is what was there plus
    exactly the messages published under one of its channels until it ends (`expect`): each once,
    in publish order; a subscription that already ended receives nothing more. -/
theorem exactly_once_in_order (t : Table) (h : Inv t) (ops : List Op) (i : Nat) (s : Sub) (hs : t.subs[i]? = some s) :
    ∃ s', (run t ops).subs[i]? = some s' ∧ s'.id = s.id ∧ s'.chans = s.chans ∧
      s'.buf = s.buf ++ (if s.active then expect s.id s.chans ops else []) := by
  induction ops generalizing t s with
  | nil => exact ⟨s, hs, rfl, rfl, by simp [expect]⟩
  | cons op r ih =>
    obtain ⟨hid, hch, hbuf, hact⟩ := onSub_spec op s
    obtain ⟨s2, h2, hid2, hch2, hbuf2⟩ := ih (step t op) (inv_step t h op) _ (step_get t op i s hs (.inr (h.live s (List.mem_of_getElem? hs))))
    refine ⟨s2, h2, hid2.trans hid, hch2.trans hch, ?_⟩
    rw [hbuf2, hbuf, hact, hid, hch]
    cases ha : s.active <;> cases he : ends s.id s.chans op <;> simp [expect, he]

theorem reachable_inv (ops : List Op) : Inv (run {} ops) := inv_run {} inv_empty ops

/-- a new subscription (made while the table is alive) starts empty and then receives exactly
    `expect` of what follows -/
theorem new_subscription_receives (pre ops : List Op) (chans : List String) (fn : Bool)
    (hlive : (run {} pre).live = true) :
    let t := run {} pre
    ∃ s', (run (step t (.subscribe chans fn)) ops).subs[t.subs.length]? = some s' ∧
      s'.chans = chans ∧ s'.buf = expect (t.cnt + 1) chans ops := by
  intro t
  have hinv := inv_step t (reachable_inv pre) (.subscribe chans fn)
  have hget : (step t (.subscribe chans fn)).subs[t.subs.length]? =
      some { id := t.cnt + 1, chans := chans, hasFn := fn } := by
    simp [step, hlive, t]
  obtain ⟨s', h1, _, h3, h4⟩ := exactly_once_in_order _ hinv ops _ _ hget
  exact ⟨s', h1, h3, by simpa using h4⟩

structure IdInv (t : Table) : Prop where
  distinct : t.subs.Pairwise (fun a b => a.id ≠ b.id)
  bound : ∀ s ∈ t.subs, s.id ≤ t.cnt

private theorem idinv_upd (t : Table) (h : IdInv t) (f : Sub → Sub) (hf : ∀ s, (f s).id = s.id) :
    IdInv (upd t f) where
  distinct := List.pairwise_map.2 (h.distinct.imp fun hab => by rwa [hf, hf])
  bound s hs := by
    obtain ⟨s0, hs0, rfl⟩ := List.mem_map.1 hs
    exact hf s0 ▸ h.bound s0 hs0

private theorem idinv_step (t : Table) (h : IdInv t) (op : Op) : IdInv (step t op) := by
  have hu : ∀ op, IdInv (upd t (onSub op)) := fun op => idinv_upd t h _ fun s => (onSub_spec op s).1
  rcases step_shape t op with ⟨chans, fn, rfl⟩ | rfl | ⟨e, -⟩ | e
  · simp only [step]
    split
    · constructor
      · simp only [List.pairwise_append, List.pairwise_cons, List.Pairwise.nil, List.mem_singleton]
        refine ⟨h.distinct, ⟨nofun, trivial⟩, ?_⟩
        intro a ha b hb
        subst hb
        exact Nat.ne_of_lt (Nat.lt_succ_of_le (h.bound a ha))
      · intro s hs
        rcases List.mem_append.1 hs with hs | hs
        · exact Nat.le_succ_of_le (h.bound s hs)
        · cases List.mem_singleton.1 hs; exact Nat.le_refl _
    · exact ⟨h.distinct, fun s hs => Nat.le_succ_of_le (h.bound s hs)⟩
  · exact ⟨(hu .close).distinct, (hu .close).bound⟩
  · rw [e]; exact h
  · rw [e]; exact hu op

/-- For every op sequence, the ids `Subscribe` handed out are pairwise
    distinct (among live subscriptions, and even among all subscriptions ever made): the counter
    that generates them is never moved back, whatever ends in between. -/
theorem live_ids_distinct (ops : List Op) : (run {} ops).subs.Pairwise (fun a b => a.id ≠ b.id) :=
  (GroupLoop.foldl_preserves IdInv step ops {} (fun t op _ h => idinv_step t h op) ⟨by simp, by simp⟩).distinct

/-- Ending one subscription through its cancel func
    changes that subscription only: every other entry of the table (other id) is left exactly as it
    was — same channels, same buffer, still open if it was. -/
theorem remove_only_affects_own_subscription (t : Table) (id i : Nat) (s : Sub) (hs : t.subs[i]? = some s)
    (hne : s.id ≠ id) : (step t (.cancel id)).subs[i]? = some s := by
  have e : onSub (.cancel id) s = s := by simp [onSub, hne]
  exact e ▸ step_get t (.cancel id) i s hs (.inl e)

/-- and an unsubscribe notification ends exactly the live subscriptions that list its channel -/
theorem unsubscribe_only_affects_listed (t : Table) (n : Note) (i : Nat) (s : Sub) (hs : t.subs[i]? = some s)
    (hne : n.channel ∉ s.chans) : (step t (.unsubscribe n)).subs[i]? = some s := by
  have e : onSub (.unsubscribe n) s = s := by simp [onSub, hne]
  exact e ▸ step_get t (.unsubscribe n) i s hs (.inl e)

/-- Everything a subscription receives was published under one of its
    own channels (patterns / shard channels). -/
theorem no_foreign_messages (id : Nat) (chans : List String) (ops : List Op) (m : Msg) (hm : m ∈ expect id chans ops) :
    ∃ ch, Op.publish ch m ∈ ops ∧ chans.contains ch = true := by
  induction ops with
  | nil => simp [expect] at hm
  | cons op r ih =>
    simp only [expect, List.mem_append] at hm
    rcases hm with hm | hm
    · cases op with
      | publish ch m' =>
        simp only [deliver1] at hm
        split at hm
        · simp at hm; subst hm; exact ⟨ch, by simp, by assumption⟩
        · simp at hm
      | _ => simp [deliver1] at hm
    · split at hm
      · simp at hm
      · obtain ⟨ch, h1, h2⟩ := ih hm
        exact ⟨ch, List.mem_cons_of_mem _ h1, h2⟩

/-- no channel of a subscription is ever closed twice (a second close would be a Go panic), and
    an active subscription's channel is open -/
theorem closed_at_most_once (ops : List Op) (s : Sub) (hs : s ∈ (run {} ops).subs) :
    s.closes ≤ 1 ∧ (s.active = true → s.closes = 0) :=
  ((reachable_inv ops).closes s hs).symm

/-- An unsubscribe notification for one of the subscription's channels
    closes its channel (so Receive's loop ends after draining what was delivered), and with a
    healthy pipe Receive then returns nil. -/
theorem unsubscribe_returns_nil (t : Table) (h : Inv t) (n : Note) (i : Nat) (s : Sub) (hs : t.subs[i]? = some s)
    (ha : s.active = true) (hc0 : s.chans.contains n.channel = true) :
    (∃ s', (step t (.unsubscribe n)).subs[i]? = some s' ∧ s'.active = false ∧ s'.closes = 1 ∧ s'.buf = s.buf) ∧
    receiveResult .chClosed none = .nil := by
  have h0 := (h.closes s (List.mem_of_getElem? hs)).1 ha
  refine ⟨⟨_, step_get t _ i s hs (.inr (h.live s (List.mem_of_getElem? hs))), ?_⟩, rfl⟩
  have hc : n.channel ∈ s.chans := by simpa using hc0
  cases hf : s.hasFn <;> simp [onSub, Sub.remove, ha, hc, hf, h0]

/-- Close (and the cleanup after a disconnect) closes the channel of
    every live subscription exactly once; Receive then returns the pipe's error: ErrClosing after
    Close, the transport error after a disconnect. A cancelled context gives the context's error. -/
theorem close_returns_errclosing (t : Table) (h : Inv t) (i : Nat) (s : Sub) (hs : t.subs[i]? = some s) (ha : s.active = true) :
    (∃ s', (step t .close).subs[i]? = some s' ∧ s'.active = false ∧ s'.closes = 1) ∧
    (∀ e, receiveResult .chClosed (some e) = .pipe e) ∧ (∀ pe, receiveResult .ctxDone pe = .ctx) := by
  have h0 := (h.closes s (List.mem_of_getElem? hs)).1 ha
  exact ⟨⟨_, step_get t .close i s hs (.inr (h.live s (List.mem_of_getElem? hs))), by simp [onSub, Sub.remove, ha, h0]⟩, fun _ => rfl, fun _ => rfl⟩

/-- Whatever way a Receive call ends — the SUBSCRIBE command failed
    (error reply, cancelled context), the channel was closed, the context ended — and whatever
    happened on the connection meanwhile, no subscription registered by that call is left active in
    the table afterwards. So nothing can be sent into a channel nobody reads any more
    (`exactly_once_in_order`: an inactive subscription receives nothing), the reader cannot block
    on it, and its OnSubscription hook is not called again. -/
theorem receive_exit_unregisters (t : Table) (h : Inv t) (chans : List String) (fn : Bool) (during : List Op) (e : End) :
    ∀ s ∈ (receiveCall t chans fn during e).subs, s.id = t.cnt + 1 → s.active = false := by
  intro s hs hid
  have hinv : Inv (run (step t (.subscribe chans fn)) during) := inv_run _ (inv_step t h _) during
  unfold receiveCall at hs
  generalize run (step t (.subscribe chans fn)) during = t2 at hs hinv
  simp only [step] at hs
  split at hs
  · simp only [upd, List.mem_map] at hs
    obtain ⟨s0, hs0, rfl⟩ := hs
    by_cases ha : s0.active = true
    · have hid0 : s0.id = t.cnt + 1 := by
        split at hid <;> simpa [Sub.remove] using hid
      simp [ha, hid0, Sub.remove]
    · simp [ha] at hid ⊢
  · rename_i hlive
    cases ha : s.active
    · rfl
    · exact absurd (hinv.live s hs ha).1 hlive

structure HookInv (s : HookSt) : Prop where
  done : ∀ c ∈ s.done, c.closes = 1 ∧ c.errs.length ≤ 1 ∧ c.sendAfterClose = false
  cur : ∀ c, s.cur = some c → c = {}

private theorem hook_inv_step (s : HookSt) (h : HookInv s) (op : HookOp) : HookInv (hookStep s op) := by
  -- the channel that leaves the slot was fresh: finishing it closes it once, with at most one error
  have fin : ∀ c e, s.cur = some c → ∀ d ∈ s.done ++ [c.finish e],
      d.closes = 1 ∧ d.errs.length ≤ 1 ∧ d.sendAfterClose = false := by
    intro c e hc d hd
    rcases List.mem_append.1 hd with hd | hd
    · exact h.done d hd
    · rw [List.mem_singleton.1 hd, h.cur c hc]; cases e <;> simp [HookCh.finish]
  cases op with
  | swapNew =>
    refine ⟨?_, fun c hc => (Option.some.inj hc).symm⟩
    show ∀ d ∈ s.done ++ (s.cur.map (·.finish none)).toList, _
    cases hcur : s.cur with
    | none => simpa using h.done
    | some c => exact fin c none hcur
  | swapEmpty e =>
    cases hcur : s.cur with
    | none => simpa only [hookStep, hcur] using h
    | some c => simp only [hookStep, hcur]; exact ⟨fin c e hcur, nofun⟩

/-- For every sequence of SetPubSubHooks calls
    (non-zero / zero hooks) and disconnect clean-ups, taken at the granularity of the atomic swaps:
    every channel that left the slot was closed exactly once, carries at most one error, and the
    error was sent before the close; the channel in the slot is open and empty. -/
theorem hook_channels_closed_once_at_most_one_error (ops : List HookOp) :
    let s := ops.foldl hookStep {}
    (∀ c ∈ s.done, c.closes = 1 ∧ c.errs.length ≤ 1 ∧ c.sendAfterClose = false) ∧
    (∀ c, s.cur = some c → c.closes = 0 ∧ c.errs = []) := by
  have h := GroupLoop.foldl_preserves HookInv hookStep ops {} (fun s op _ h => hook_inv_step s h op) ⟨by simp, by simp⟩
  exact ⟨h.done, fun c hc => by rw [h.cur c hc]; exact ⟨rfl, rfl⟩⟩

/-- SetPubSubHooks on a connection that already failed (`p.Error() != nil`) is the two swaps
    `swapNew; swapEmpty (some err)`: the freshly handed-out channel gets the error, is closed, and is
    taken OUT of the slot again — the slot is empty afterwards, so a later call (or the clean-up of
    `_background`) finds nothing it could close or send to a second time. -/
theorem sethooks_on_failed_pipe_empties_slot (s : HookSt) (e : String) :
    let s' := hookStep (hookStep s .swapNew) (.swapEmpty (some e))
    s'.cur = none ∧ s'.done.getLast? = some { errs := [e], closes := 1, sendAfterClose := false } := by
  simp [hookStep, HookCh.finish]

example : ((run {} [.subscribe ["a"] false, .subscribe ["a", "b"] false, .publish "a" ⟨"", "a", "1"⟩, .publish "b" ⟨"", "b", "2"⟩,
    .unsubscribe ⟨"unsubscribe", "a", 0⟩, .publish "b" ⟨"", "b", "3"⟩]).subs.map (·.buf.map (·.message))) = [["1"], ["1", "2"]] := by decide
example : expect 1 ["a"] [.publish "a" ⟨"", "a", "1"⟩, .publish "z" ⟨"", "z", "2"⟩, .close, .publish "a" ⟨"", "a", "3"⟩] = [⟨"", "a", "1"⟩] := by decide

end Rv.C26
