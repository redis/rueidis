/-
C06 — cached replies are never served after their invalidation.
Store level: Rv/Model/Lru.lean (lru.go) and Rv/Model/Adapter.lean (NewSimpleCacheAdapter) refine the
specification Rv/Spec/Cache.lean. Connection level: Rv/Model/CachePipe.lean (DoCache, the reader loop,
invalidation pushes in wire order, the server's versions). Tracking modes and the real pipe's scheduling
are covered by other suites of this property.
-/
import Rv.Lemmas.LruFlights
import Rv.Lemmas.AdapterRefine
import Rv.Lemmas.CachePipe
namespace Rv.C06
open Rv.Lru
open Rv.Spec.Cache (Spec lookup)

/-- **Refinement.** Run any history on a fresh lru model and, in lockstep, the specification (which sees the
    arguments of the calls and which lookups were answered "send"). Then every hit a `Flight` returns afterwards is
    the specification's current, unexpired value for exactly that (key, cmd). The lru may miss where the
    specification still holds a value (eviction), it never hits wrongly. -/
theorem lru_refines_spec (mx base : Int) (ops : List Op) (k c : Bytes) (ttl now : Int) (v : Nat) (exp : Int)
    (h : (flight (runBoth (Lru.init mx base) Spec.Cache.empty ops).1 k c ttl now).2 = .hit v exp) :
    lookup (runBoth (Lru.init mx base) Spec.Cache.empty ops).2 (k, c) (unixMilli now) = some (v, exp) :=
  hit_of_outcome (R_runBoth (R_init mx base) (inv_init mx base) ops).1 (flight_cases _ k c ttl now) h

/-- **Refinement, batched lookups.** The same for `Flights` (DoMultiCache): whatever it puts into `results[j]`
    — from the read-locked first loop or the write-locked second one — is the specification's current unexpired
    value of the j-th command of the batch. -/
theorem flights_hits_refine (mx base : Int) (ops : List Op) (now : Int) (multi : List (Bytes × Bytes × Int))
    (j : Nat) (v : Nat) (exp : Int)
    (h : (flights (runBoth (Lru.init mx base) Spec.Cache.empty ops).1 now multi).2.1[j]? = some (some (.hit v exp))) :
    ∃ k c ttl, multi[j]? = some (k, c, ttl) ∧
      lookup (runBoth (Lru.init mx base) Spec.Cache.empty ops).2 (k, c) (unixMilli now) = some (v, exp) :=
  have hr := R_runBoth (R_init mx base) (inv_init mx base) ops
  flights_hits hr.1 hr.2 now multi j v exp h

theorem lockstep_is_run (mx base : Int) (ops : List Op) :
    (runBoth (Lru.init mx base) Spec.Cache.empty ops).1 = run (Lru.init mx base) ops := runBoth_fst _ _ _

private theorem runBoth_append (s : State) (sp : Spec) (a b : List Op) :
    runBoth s sp (a ++ b) = runBoth (runBoth s sp a).1 (runBoth s sp a).2 b := by
  induction a generalizing s sp with
  | nil => rfl
  | cons x xs ih => exact ih _ _

private theorem vals_none_step (sp : Spec) (kc : Spec.Cache.KC) (h : sp.vals kc = none) (op : Op) (r : Res)
    (hop : ∀ v vsz raw, op ≠ .update kc.1 kc.2 v vsz raw) : (specStep sp op r).vals kc = none := by
  cases op with
  | flight k c ttl now =>
    cases r with
    | fl r => cases r <;> simp [specStep, sent_vals, h]
    | _ => exact h
  | flights now multi =>
    cases r with
    | fls rs missed => rw [specStep, specSends_vals]; exact h
    | _ => exact h
  | update k c v vsz raw =>
    simp only [specStep, Spec.Cache.update]
    split
    · exact h
    · split
      · have hne : kc ≠ (k, c) := by
          intro heq; exact hop v vsz raw (by rw [heq])
        simp only [hne, if_false]; exact h
      · exact h
  | cancel k c err => simp only [specStep, Spec.Cache.cancel]; split <;> exact h
  | delete keys =>
    cases keys with
    | none => simp [specStep, Spec.Cache.flush]
    | some ks => simp only [specStep, Spec.Cache.delete]; split <;> simp [h]
  | close err => simp [specStep, Spec.Cache.close]
  | sethits k n => simpa [specStep] using h

private theorem vals_none_run (s : State) (sp : Spec) (kc : Spec.Cache.KC) (h : sp.vals kc = none) (ops : List Op)
    (hop : ∀ op ∈ ops, ∀ v vsz raw, op ≠ .update kc.1 kc.2 v vsz raw) : (runBoth s sp ops).2.vals kc = none := by
  induction ops generalizing s sp with
  | nil => exact h
  | cons op rest ih =>
    exact ih _ _ (vals_none_step sp kc h op _ (hop op List.mem_cons_self)) (fun o ho => hop o (List.mem_cons_of_mem _ ho))

/-- once an operation has emptied the specification's slot of (k, c), no `Flight` of (k, c) is a hit until the
    next `Update` of (k, c) -/
private theorem no_hit_after (mx base : Int) (ops0 : List Op) (op : Op) (k c : Bytes)
    (hnone : ∀ (sp : Spec) (r : Res), (specStep sp op r).vals (k, c) = none)
    (ops : List Op) (hop : ∀ op ∈ ops, ∀ v vsz raw, op ≠ .update k c v vsz raw) (ttl now : Int) (v : Nat) (exp : Int) :
    (flight (run (Lru.init mx base) (ops0 ++ [op] ++ ops)) k c ttl now).2 ≠ .hit v exp := by
  intro hhit
  rw [← lockstep_is_run] at hhit
  have href := lru_refines_spec mx base _ k c ttl now v exp hhit
  rw [runBoth_append, runBoth_append] at href
  generalize runBoth (Lru.init mx base) Spec.Cache.empty ops0 = p at href
  have : (runBoth (runBoth p.1 p.2 [op]).1 (runBoth p.1 p.2 [op]).2 ops).2.vals (k, c) = none :=
    vals_none_run _ _ (k, c) (hnone p.2 (step p.1 op).2) ops hop
  simp [lookup, this] at href

/-- **No hit after invalidation.** After `Delete(keys)` with `k ∈ keys` — at any point of any history — no `Flight`
    of (k, c) is a hit until an `Update` of (k, c) has been made (i.e. until a reply that arrived after the
    invalidation is committed); in particular nothing committed before the invalidation is ever served again. -/
theorem no_hit_after_delete (mx base : Int) (ops0 : List Op) (keys : List Bytes) (k c : Bytes) (hk : k ∈ keys)
    (ops : List Op) (hop : ∀ op ∈ ops, ∀ v vsz raw, op ≠ .update k c v vsz raw) (ttl now : Int) (v : Nat) (exp : Int) :
    (flight (run (Lru.init mx base) (ops0 ++ [.delete (some keys)] ++ ops)) k c ttl now).2 ≠ .hit v exp :=
  no_hit_after mx base ops0 _ k c (fun _ _ => by simp [specStep, Spec.Cache.delete, hk]) ops hop ttl now v exp

/-- the same after a flush (`Delete(nil)`), for every key -/
theorem no_hit_after_flush (mx base : Int) (ops0 : List Op) (k c : Bytes)
    (ops : List Op) (hop : ∀ op ∈ ops, ∀ v vsz raw, op ≠ .update k c v vsz raw) (ttl now : Int) (v : Nat) (exp : Int) :
    (flight (run (Lru.init mx base) (ops0 ++ [.delete none] ++ ops)) k c ttl now).2 ≠ .hit v exp :=
  no_hit_after mx base ops0 _ k c (fun _ _ => by simp [specStep, Spec.Cache.flush]) ops hop ttl now v exp

/-- **Pending entries survive invalidation.** `Delete` (of any keys, or flush) leaves every pending entry in place … -/
theorem pending_survives_delete {s : State} (hi : Inv s) {e : Entry} (he : e ∈ s.list) (hp : e.pend = true)
    (keys : Option (List Bytes)) : e ∈ (delete s keys).list :=
  pending_persists hi he hp (.delete keys) rfl

/-- … so the `Update` that arrives after the invalidation still fills it: the waiters and the cache receive that
    reply (it was produced by the server after the invalidated write; wire order is the pipe-level part), with the
    client expiry fixed when the request was started. -/
theorem update_after_delete_commits {s : State} (hi : Inv s) {e : Entry} (he : e ∈ s.list) (hp : e.pend = true)
    (keys : Option (List Bytes)) (v : Nat) (vsz raw : Int) :
    (update (delete s keys) e.key e.cmd v vsz raw).2 = chooseExp e.exp (pack raw) ∧
    (update (delete s keys) e.key e.cmd v vsz raw).1.done =
      (delete s keys).done ++ [(e.id, .val v (chooseExp e.exp (pack raw)))] := by
  have hi' : Inv (delete s keys) := inv_delete hi keys
  have hmem := pending_survives_delete hi he hp keys
  exact update_of_pending (hi'.open_of_mem hmem) (find?_of_mem hi'.nodup hmem) hp v vsz raw

/-- **Close clears.** After `Close` the list is empty and stays empty, whatever is called afterwards, so nothing
    is ever served again (see also `C09.closed_store_only_sends`). -/
theorem close_clears (s : State) (err : Nat) (ops : List Op) :
    (run (close s err) ops).list = [] ∧ (run (close s err) ops).closed = true := by
  have hc := run_closed (s := close s err) rfl ops
  exact ⟨(inv_run (inv_close s err) ops).closedNil hc, hc⟩

open Rv.Adapter in
/-- **Adapter refinement.** Let `P` be a set of (key, cmd) names on which the adapter's address `key ++ cmd` is
    injective. For every history of adapter calls that uses only names of `P`, whose `Flight` clocks do not step
    backwards and whose client expiries fit the 7-byte field (`AdmAll`), run in lockstep with the specification:
    every hit returned by a later `Flight` (name in `P`, clock not before the last one) is the specification's
    current unexpired value for exactly that (key, cmd). -/
theorem adapter_refines_spec (P : KC → Prop) (hinj : Inj P) (T0 : Int) (ops : List Adapter.Op) (hadm : AdmAll P T0 ops)
    (k c : Bytes) (ttl now : Int) (hP : P (k, c))
    (hT : (runA Adapter.init Spec.Cache.empty T0 ops).2.2 ≤ unixMilli now) (v : Nat) (exp : Int)
    (h : (Adapter.flight (runA Adapter.init Spec.Cache.empty T0 ops).1 k c ttl now).2 = .hit v exp) :
    lookup (runA Adapter.init Spec.Cache.empty T0 ops).2.1 (k, c) (unixMilli now) = some (v, exp) :=
  hit_of_RA (RA_runA hinj ops (RA_init P T0) hadm) k c ttl now hP hT v exp h

open Rv.Adapter in
/-- **Without injectivity the refinement fails** (the adapter part of the known `CacheKey` concatenation
    finding recorded under C08): key "x" with cmd "HGETGET" and key "xHGET" with cmd "GET" share the address
    "xHGETGET". After the first is fetched and committed, a `Flight` of the second is answered with a HIT carrying
    the first command's reply, although the specification holds nothing for it. -/
theorem adapter_collision_breaks_refinement :
    let x : Bytes := [120]; let hgetget : Bytes := [72, 71, 69, 84, 71, 69, 84]
    let xhget : Bytes := [120, 72, 71, 69, 84]; let get : Bytes := [71, 69, 84]
    let r := runA Adapter.init Spec.Cache.empty 0 [.flight x hgetget 10000000000 0, .update x hgetget 1 0]
    x ++ hgetget = xhget ++ get ∧
    (Adapter.flight r.1 xhget get 10000000000 1000000).2 = .hit 1 10000 ∧
    lookup r.2.1 (xhget, get) (unixMilli 1000000) = none := by decide

open Rv.Adapter in
/-- **Without a monotone clock the refinement fails as well**: an expired value stays in the user store while a
    new request for it is pending (its nil marker is shadowed by the pending entry, so `Delete` skips it); if a
    later `Flight` is given an earlier `now`, the value from before the invalidation is served. The lru removes
    expired entries physically and has no such case. (Needs `now` to step back across the value's expiry.) -/
theorem adapter_clock_stepping_back_serves_stale :
    let k : Bytes := [107]; let c : Bytes := [71]
    let r := runA Adapter.init Spec.Cache.empty 0
      [.flight k c 50000000 0, .update k c 1 0,     -- committed, expires at 50 ms
       .flight k c 50000000 100000000,              -- at 100 ms: expired, a new request is pending
       .delete (some [k])]                          -- invalidation: skipped because the slot is pending
    (Adapter.flight r.1 k c 50000000 10000000).2 = .hit 1 50 ∧        -- a lookup "at 10 ms" hits the old value
    lookup r.2.1 (k, c) (unixMilli 10000000) = none := by decide

/-! ### one connection: DoCache, the reader loop, invalidation pushes and the server (`Rv.CachePipe`)

Every theorem below is about `run (init mx base) evs` for an ARBITRARY event list: events that are not enabled are
no-ops, the queues are FIFO, so this is every interleaving of DoCache calls, server executions, writes by other
clients, flushes, deliveries to the reader loop and disconnects that respects wire order. Values are the server's
per-key write counters ("versions"); `floor k` is the largest write version of `k` whose invalidation the reader
loop has processed; an invalidation message carries (ghost) the version of the write that caused it. -/

private theorem run_append (st : CachePipe.St) (a b : List CachePipe.Ev) :
    CachePipe.run st (a ++ b) = CachePipe.run (CachePipe.run st a) b := by
  induction a generalizing st with
  | nil => rfl
  | cons x xs ih => exact ih _

open Rv.CachePipe in
/-- **No stale hit, general form.** Whatever happened on the connection, a DoCache hit for a command on key `k`
    returns a version that is not older than any invalidation of `k` processed so far (`floor k`), and that the
    server really had (`≤ ver k`). -/
theorem hit_not_older_than_processed_invalidation (mx base : Int) (evs : List Ev) (k c : Bytes) (ttl now : Int)
    (v : Nat) (exp : Int) (h : lookupRes (CachePipe.run (CachePipe.init mx base) evs) k c ttl now = .hit v exp) :
    (CachePipe.run (CachePipe.init mx base) evs).floor k ≤ v ∧ v ≤ (CachePipe.run (CachePipe.init mx base) evs).ver k := by
  have hinv := pinv_run (pinv_init mx base) evs
  obtain ⟨e, he, hk, hc, hp, hv⟩ := flight_hit_entry _ k c ttl now v exp h
  have := hinv.entries e he hp
  unfold EOk at this
  rw [hk, hv] at this
  exact ⟨this.1, this.2.1⟩

open Rv.CachePipe in
/-- once the reader loop has handled the message `m` at the head of the queue, every hit is at least as new as the
    write `m` stands for (`pushVer m k`: 0 unless `m` invalidates `k`) -/
private theorem hit_ge_pushVer (mx base : Int) (evs1 evs2 : List Ev) (t : Int) (m : Msg) (rest : List Msg)
    (hq : (CachePipe.run (CachePipe.init mx base) evs1).respQ = m :: rest)
    (k c : Bytes) (ttl now : Int) (v : Nat) (exp : Int)
    (h : lookupRes (CachePipe.run (CachePipe.init mx base) (evs1 ++ .deliver t :: evs2)) k c ttl now = .hit v exp) :
    pushVer m k ≤ v := by
  have h1 := (hit_not_older_than_processed_invalidation mx base _ k c ttl now v exp h).1
  rw [run_append] at h1
  generalize CachePipe.run (CachePipe.init mx base) evs1 = st1 at hq h1
  have hfl : pushVer m k ≤ (CachePipe.step st1 (.deliver t)).floor k := by
    simp only [CachePipe.step, hq]
    rw [handle_floor]; exact Nat.le_max_right _ _
  exact Nat.le_trans hfl (Nat.le_trans (floor_mono_run _ evs2 k) h1)

open Rv.CachePipe in
/-- **No stale hit.** Take any history `evs1` after which the invalidation of `k` caused by write number `n` is the
    next message the reader loop will handle; let it be handled (`deliver`) and let anything (`evs2`) happen
    afterwards. Every DoCache hit on `k` from then on returns a version `≥ n`: the reply it came from was executed by
    the server after that write. In particular a reply of an older fetch that reached the store before the push was
    deleted by it (`push_deletes_key`), and a reply still queued behind the push is newer
    (`reply_after_push_is_newer`). -/
theorem no_stale_hit (mx base : Int) (evs1 evs2 : List Ev) (t : Int) (k : Bytes) (n : Nat) (rest : List Msg)
    (hq : (CachePipe.run (CachePipe.init mx base) evs1).respQ = .push k n :: rest)
    (c : Bytes) (ttl now : Int) (v : Nat) (exp : Int)
    (h : lookupRes (CachePipe.run (CachePipe.init mx base) (evs1 ++ .deliver t :: evs2)) k c ttl now = .hit v exp) :
    n ≤ v := by
  simpa [pushVer] using hit_ge_pushVer mx base evs1 evs2 t _ rest hq k c ttl now v exp h

open Rv.CachePipe in
/-- the same after a flush push (`Delete(nil)`): every later hit is at least as new as the flush, for every key -/
theorem no_stale_hit_after_flush (mx base : Int) (evs1 evs2 : List Ev) (t : Int) (g : Bytes → Nat) (rest : List Msg)
    (hq : (CachePipe.run (CachePipe.init mx base) evs1).respQ = .pushAll g :: rest)
    (k c : Bytes) (ttl now : Int) (v : Nat) (exp : Int)
    (h : lookupRes (CachePipe.run (CachePipe.init mx base) (evs1 ++ .deliver t :: evs2)) k c ttl now = .hit v exp) :
    g k ≤ v :=
  hit_ge_pushVer mx base evs1 evs2 t _ rest hq k c ttl now v exp h

open Rv.CachePipe in
/-- **Every hit is the reply the server sent for exactly that command**: the returned version was handed to
    `Update` as the EXEC reply of a fetch of that same (key, cmd) (`log` records exactly the replies delivered). -/
theorem hit_is_reply_of_same_command (mx base : Int) (evs : List Ev) (k c : Bytes) (ttl now : Int)
    (v : Nat) (exp : Int) (h : lookupRes (CachePipe.run (CachePipe.init mx base) evs) k c ttl now = .hit v exp) :
    ((k, c), v) ∈ (CachePipe.run (CachePipe.init mx base) evs).log := by
  have hinv := pinv_run (pinv_init mx base) evs
  obtain ⟨e, he, hk, hc, hp, hv⟩ := flight_hit_entry _ k c ttl now v exp h
  have := (hinv.entries e he hp).2.2.2.2
  rw [hk, hc, hv] at this; exact this

open Rv.CachePipe in
/-- **Pending entries survive invalidation**: handling an invalidation push (of any key, or a flush) leaves every
    in-flight entry in the store; its reply, which is behind the push on the wire, will fill it. -/
theorem pending_survives_invalidation (mx base : Int) (evs : List Ev) (t : Int) (m : Msg) (rest : List Msg)
    (hq : (CachePipe.run (CachePipe.init mx base) evs).respQ = m :: rest)
    (hm : (∃ k n, m = .push k n) ∨ ∃ g, m = .pushAll g)
    (e : Entry) (he : e ∈ (CachePipe.run (CachePipe.init mx base) evs).store.list) (hp : e.pend = true) :
    e ∈ (CachePipe.step (CachePipe.run (CachePipe.init mx base) evs) (.deliver t)).store.list := by
  have hinv := pinv_run (pinv_init mx base) evs
  generalize CachePipe.run (CachePipe.init mx base) evs = st at hq he hinv
  rcases hm with ⟨k, n, rfl⟩ | ⟨g, rfl⟩ <;> simp only [CachePipe.step, hq, handle] <;>
    exact pending_survives_delete hinv.store he hp _

open Rv.CachePipe in
/-- a reply that reached the store BEFORE the push of its key is deleted by that push -/
theorem push_deletes_key (st : St) (t : Int) (k : Bytes) (n : Nat) (rest : List Msg) (hq : st.respQ = .push k n :: rest) :
    ∀ e ∈ (CachePipe.step st (.deliver t)).store.list, e.key = k → e.pend = true := by
  intro e he hk
  simp only [CachePipe.step, hq, handle] at he
  have := (mem_foldl_purge [k] he).2
  cases hp : e.pend
  · exact absurd (by simp [hk]) (this hp)
  · rfl

open Rv.CachePipe in
/-- a reply queued BEHIND an invalidation of its key was executed after the invalidating write -/
theorem reply_after_push_is_newer (mx base : Int) (evs : List Ev) (pre post : List Msg) (m : Msg)
    (hq : (CachePipe.run (CachePipe.init mx base) evs).respQ = pre ++ m :: post)
    (k c : Bytes) (v : Nat) (vsz raw : Int) (hr : Msg.reply k c v vsz raw ∈ post) : pushVer m k ≤ v := by
  have hinv := pinv_run (pinv_init mx base) evs
  have := hinv.queue
  rw [hq] at this
  exact QOk_replies_ge (QOk_suffix pre _ this) k c v vsz raw hr

open Rv.CachePipe in
/-- **Coherence.** At every moment every completed entry of the store, and every reply still on the wire, is
    either the server's current version of its key or is followed — in the store's case: somewhere on the wire, in
    the reply's case: behind it — by an invalidation that covers it. Nothing stale can stay cached without its
    invalidation already being on the way. -/
theorem cached_value_current_or_invalidation_in_flight (mx base : Int) (evs : List Ev) :
    let st := CachePipe.run (CachePipe.init mx base) evs
    (∀ e ∈ st.store.list, e.pend = false →
        e.val = st.ver e.key ∨ ∃ m ∈ st.respQ, e.val < pushVer m e.key) ∧
    (∀ pre post k c v vsz raw, st.respQ = pre ++ .reply k c v vsz raw :: post →
        v = st.ver k ∨ ∃ m ∈ post, v < pushVer m k) := by
  intro st
  have hinv := pinv_run (pinv_init mx base) evs
  constructor
  · intro e he hp
    obtain ⟨_, b, c', _, _⟩ := hinv.entries e he hp
    rcases Nat.lt_or_ge e.val (st.ver e.key) with hlt | hge
    · exact Or.inr (c' hlt)
    · exact Or.inl (Nat.le_antisymm b hge)
  · intro pre post k c v vsz raw hq
    have := hinv.queue
    rw [show (CachePipe.run (CachePipe.init mx base) evs).respQ = pre ++ .reply k c v vsz raw :: post from hq] at this
    obtain ⟨_, b, c', _⟩ := (QOk_suffix pre _ this).1.1 k c v vsz raw rfl
    rcases Nat.lt_or_ge v (st.ver k) with hlt | hge
    · exact Or.inr (c' hlt)
    · exact Or.inl (Nat.le_antisymm b hge)

open Rv.CachePipe in
/-- non-vacuity: a fetch, a write by another client, then the reply and the push arrive in wire order — the value
    is served between the two deliveries and no longer afterwards (336 is `entryBaseSize` of lru.go on a 64-bit
    platform) -/
theorem pipe_scenario :
    let k : Bytes := [107]; let c : Bytes := [71]
    let evs : List Ev := [.start k c 1000000000000 0, .exec 50 (-1), .write k, .deliver 500000]
    let st := CachePipe.run (CachePipe.init 10000 336) evs
    lookupRes st k c 1000000000000 1000000 = .hit 0 1000000 ∧
    st.ver k = 1 ∧
    lookupRes (CachePipe.step st (.deliver 600000)) k c 1000000000000 1000000 = .send := by decide

end Rv.C06
