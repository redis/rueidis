/-
C04 — broken connections and Close never leave calls hanging.
Uses the teardown model of C03 (`Rv.C03.drain_assigns`): every pending batch is completed
exactly once with a non-nil error; plus admission after the latch and wire replacement.
-/
import Rv.Props.C03
import Rv.Model.Lifecycle
namespace Rv.C04
open Rv.Teardown Rv.Lifecycle

/-- After a connection failure or Close, whatever is pending in the queue —
    written or not, any number of batches — is completed exactly once, in queue order, each with
    a non-nil error, and the drain leaves nothing behind. -/
theorem drain_completes (d : Drain) (ws us : List Entry) (h : Rv.C03.Inv d ws us) (ho : d.out = []) :
    ∃ res : List (Nat × Res),
      res.map Prod.fst = (ws ++ us).map Entry.id ∧ (∀ p ∈ res, p.2 ≠ .reply) := by
  obtain ⟨_, d2, _, _, hout, _⟩ := Rv.C03.drain_assigns d ws us h ho
  refine ⟨Rv.C03.expected d.why ws us, ?_, Rv.C03.drained_get_errors d.why ws us⟩
  simp [Rv.C03.expected, List.map_append, Function.comp_def]

/-- the number of drain iterations that complete a batch equals the number of pending batches:
    the loop's variant (`waits`) strictly decreases on each such iteration -/
theorem drain_variant (why : Why) (ws us : List Entry) :
    (Rv.C03.expected why ws us).length = ws.length + us.length := by
  simp [Rv.C03.expected]

/-- after the error latch (`state ≥ 2`) a new call whose context is live is rejected with the
    latched error without touching the wire; after Close that error is ErrClosing -/
theorem after_latch_rejects (state waits : Nat) (h : 2 ≤ state) :
    admission state waits false = some .reject := by
  unfold admission
  have h1 : ¬ state = 1 := by omega
  have h0 : ¬ state = 0 := by omega
  simp [h1, h0]

/-- a wire that reported an error is replaced: the next call after a broken result never uses it,
    it dials a fresh connection -/
theorem fresh_wire_after_break (m : Mux) (id : Nat) (hs : m.slot = .live id) (hn : id < m.next) :
    let m1 := m.fail id
    let (m2, used) := m1.pick
    let m3 := m2.afterCall used true
    (m3.pick).2 = .live m.next ∧ (m3.pick).2 ≠ .broken id ∧ (m3.pick).2 ≠ .live id := by
  simp only [Mux.fail, hs, if_true, Mux.pick, Mux.afterCall, Bool.true_and, decide_true]
  refine ⟨trivial, by simp, ?_⟩
  intro h; injection h with h; omega

/-- (`after_close_errclosing` of the design) Once the mux is closed, no completion of a dial that was in flight
    (any number of them, in any order, mixed with failures and call results — a call on the dead
    wire fails with ErrClosing, which `isBroken` excludes) brings a live wire back:
    every later call gets the dead wire, i.e. ErrClosing. -/
theorem closed_stays_closed (m : Mux) (evs : List (Nat ⊕ (Nat ⊕ Unit))) :
    ((evs.foldl (fun (m : Mux) e => match e with
        | .inl id => (m.install id).1
        | .inr (.inl id) => m.fail id
        | .inr (.inr _) => m.afterCall m.slot (decide (m.slot ≠ .dead))) m.close).pick).2 = .dead := by
  -- every event keeps a dead slot dead: CAS-install needs `init`, `fail` a live wire, `afterCall` a broken call
  have hd : m.close.slot = .dead := rfl
  generalize m.close = m' at hd ⊢
  induction evs generalizing m' with
  | nil => unfold Mux.pick; rw [List.foldl_nil, hd]
  | cons e es ih =>
    apply ih
    cases e with
    | inl id => simp [Mux.install, hd]
    | inr e' => cases e' with
      | inl id => simp [Mux.fail, hd]
      | inr _ => simp [Mux.afterCall, hd]

/-- the unrepaired `Store(w)` resurrected a closed mux (witness of the repaired defect) -/
theorem unconditional_store_resurrects :
    ({ ({} : Mux).close with slot := .live 7 } : Mux).slot ≠ .dead := by decide

theorem healthy_wire_kept (m : Mux) (id : Nat) (hs : m.slot = .live id) :
    (m.pick).2 = .live id ∧ ((m.pick).1.afterCall (.live id) false).slot = .live id := by
  simp [Mux.pick, hs, Mux.afterCall]

/-- facts re-extracted from pipe.go / mux.go on every run: the drain loop runs while callers wait and
    closes cache flights and subscriptions; a wire is replaced exactly when `isBroken` -/
theorem teardown_shape_pinned :
    Rv.Gen.PipeShape.drainLoopsOnWaits = true ∧ Rv.Gen.PipeShape.drainClosesCacheAndSubs = true ∧
    Rv.Gen.PipeShape.rejectsByState_Do = true ∧ Rv.Gen.PipeShape.rejectsByState_DoMulti = true ∧
    Rv.Gen.PipeShape.muxInstallsWithCAS = true ∧ Rv.Gen.PipeShape.muxCloseSwapsDead = true ∧
    Rv.Gen.PipeShape.isBroken = "{ return err != nil && err != ErrClosing && w.Error() != nil }" := by
  refine ⟨rfl, rfl, rfl, rfl, rfl, rfl, rfl⟩

private def exD : Drain :=
  { why := Why.broken, rcnt := 0, wcnt := 1, closed := false, pending := [⟨7, true⟩, ⟨8, false⟩], out := [] }
example : Rv.C03.Inv exD [⟨7, true⟩] [⟨8, false⟩] := by
  refine ⟨rfl, by simp, by simp, fun _ => rfl, by simp⟩

end Rv.C04
