import Rv.Model.Invalidation
import Rv.Model.Dedicated
/-!
C27 — invalidation callbacks observe exactly the server's invalidations.
All theorems are for every event sequence (any interleaving of pushes, replies, hook changes).
-/
namespace Rv.C27
open Rv.Push Rv.Inval

def isDisconnect : Ev → Bool
  | .disconnect _ => true
  | _ => false

private theorem optLog_append (a b : List Call) : optLog (a ++ b) = optLog a ++ optLog b := by
  simp [optLog, List.filterMap_append]

private theorem hookLog_append (a b : List Call) : hookLog (a ++ b) = hookLog a ++ hookLog b := by
  simp [hookLog, List.filterMap_append]

private theorem logs_pushCalls (cfg : Cfg) (st : St) (l : List (List PV)) :
    optLog (l.flatMap (pushCalls cfg st)) = (if cfg.optCb then l.filterMap invArg else []) ∧
    hookLog (l.flatMap (pushCalls cfg st)) = (if st.hookInv then l.filterMap invArg else []) := by
  induction l with
  | nil => simp [optLog, hookLog]
  | cons vs r ih =>
    simp only [List.flatMap_cons, optLog_append, hookLog_append, ih, List.filterMap_cons]
    cases h : invArg vs <;> cases ho : cfg.optCb <;> cases hh : st.hookInv <;>
      simp [pushCalls, h, ho, hh, optLog, hookLog]

private theorem optLog_pushCalls (cfg : Cfg) (st : St) (hopt : cfg.optCb = true) (l : List (List PV)) :
    optLog (l.flatMap (pushCalls cfg st)) = l.filterMap invArg := by
  simpa [hopt] using (logs_pushCalls cfg st l).1

/-- nothing is delivered after the final nil: once the connection is lost no callback runs -/
theorem nothing_after_disconnect (cfg : Cfg) (st : St) (hdead : st.alive = false) (evs : List Ev) :
    run cfg st evs = [] := by
  induction evs generalizing st with
  | nil => rfl
  | cons e es ih =>
    have h1 : (step cfg st e).2 = [] ∧ (step cfg st e).1.alive = false := by
      cases e <;> simp [step, hdead]
    simp [run, h1.1, ih _ h1.2]

private theorem callback_log_from (cfg : Cfg) (hopt : cfg.optCb = true) (st : St) (hal : st.alive = true)
    (evs : List Ev) (hnd : ∀ e ∈ evs, isDisconnect e = false) (why : Exit) (after : List Ev) :
    optLog (run cfg st (evs ++ .disconnect why :: after)) = pushLog cfg evs ++ [none] := by
  induction evs generalizing st with
  | nil =>
    have := nothing_after_disconnect cfg { hookInv := false, alive := false } rfl after
    simp only [List.nil_append, run, step, hal, if_true, this]
    cases hh : st.hookInv <;> simp [optLog, hopt, pushLog]
  | cons e es ih =>
    have hne := hnd e List.mem_cons_self
    have hal' : (step cfg st e).1.alive = true := by
      cases e with
      | disconnect why => simp [isDisconnect] at hne
      | _ => simp [step, hal]
    have := ih _ hal' fun e' he' => hnd e' (List.mem_cons_of_mem _ he')
    simp only [List.cons_append, run, optLog_append, this, pushLog, List.flatMap_cons, List.append_assoc]
    congr 1
    cases e with
    | frame f => simp [step, hal, optLog_pushCalls cfg st hopt]
    | setHook inv => simp [step, hal, optLog]
    | clearHook => simp [step, optLog]
    | disconnect why => simp [isDisconnect] at hne

/-- With `OnInvalidations` configured, for every sequence of
    frames (invalidation pushes per key / multi-key / flush, other pushes, replies, and on Redis 6
    pushes nested in replies) and hook changes, followed by the loss of the connection, the
    callback is called with exactly the argument of every invalidation push the server wrote, in
    wire order (nil for a flush), and with nil once more at the end. -/
theorem callback_log (cfg : Cfg) (hopt : cfg.optCb = true) (evs : List Ev) (hnd : ∀ e ∈ evs, isDisconnect e = false)
    (why : Exit) (after : List Ev) :
    optLog (run cfg {} (evs ++ [.disconnect why] ++ after)) = pushLog cfg evs ++ [none] := by
  simpa using callback_log_from cfg hopt {} rfl evs hnd why after

/-- the hook installed by `SetOnInvalidations` sees a push iff it is installed when the push
    arrives (same argument as the option-level callback), and gets the final nil iff it is
    installed when the connection is lost -/
theorem hook_sees_while_installed (cfg : Cfg) (st : St) (hal : st.alive = true) (vs : List PV) :
    hookLog (step cfg st (.frame (.push vs))).2 =
      (if st.hookInv then (invArg vs).toList else []) ∧
    ∀ why, hookLog (step cfg st (.disconnect why)).2 = (if st.hookInv then [none] else []) := by
  constructor
  · simp only [step, hal, if_true, frameInvs, (logs_pushCalls cfg st [vs]).2]
    cases h : invArg vs <;> simp [h]
  · intro why
    cases hh : st.hookInv <;> cases ho : cfg.optCb <;> simp [step, hal, hh, ho, hookLog]

theorem embedded_pushes_dispatched (cfg : Cfg) (h6 : cfg.ver6 = true) (hopt : cfg.optCb = true) (st : St)
    (hal : st.alive = true) (nested : List (List PV)) :
    optLog (step cfg st (.frame (.reply nested))).2 = nested.filterMap invArg := by
  simp only [step, hal, if_true, frameInvs, h6]
  exact optLog_pushCalls cfg st hopt nested

/-- On a Redis 6 connection (`p.version == 6`) a reply that
    carries invalidation pushes embedded between its elements — any number of them — hands EVERY one
    of them to the callback, in order, like top-level pushes. -/
theorem redis6_every_embedded_push_dispatched (st : St) (hal : st.alive = true) (nested : List (List PV)) :
    optLog (step ⟨true, true⟩ st (.frame (.reply nested))).2 = nested.filterMap invArg :=
  embedded_pushes_dispatched ⟨true, true⟩ rfl rfl st hal nested

/-- On a wire that carries BOTH the client-wide OnInvalidations
    callback and a dedicated client's SetOnInvalidations hook (pool wires inherit the option), every
    invalidation push reaches both, with the same argument, option-level callback first; and over a
    whole frame sequence during which the hook stays installed both logs equal the server's push log. -/
theorem both_callbacks_see_every_push (cfg : Cfg) (hopt : cfg.optCb = true) (st : St) (hal : st.alive = true)
    (hh : st.hookInv = true) :
    (∀ vs, (step cfg st (.frame (.push vs))).2 = match invArg vs with | some a => [.opt a, .hook a] | none => []) ∧
    (∀ fs : List Frame, optLog (run cfg st (fs.map .frame)) = pushLog cfg (fs.map .frame) ∧
      hookLog (run cfg st (fs.map .frame)) = pushLog cfg (fs.map .frame)) := by
  constructor
  · intro vs
    cases h : invArg vs <;> simp [step, hal, frameInvs, pushCalls, h, hopt, hh]
  · intro fs
    induction fs with
    | nil => exact ⟨rfl, rfl⟩
    | cons f r ih =>
      have h1 := logs_pushCalls cfg st (frameInvs cfg f)
      simp only [hopt, hh, if_true] at h1
      simp only [List.map_cons, run, step, hal, if_true, pushLog, List.flatMap_cons, optLog_append,
        hookLog_append, h1]
      exact ⟨congrArg _ ih.1, congrArg _ ih.2⟩

/-- Whatever ended the pipe — the server killed the
    connection, the client closed it, a write failed, or ConnLifetime retired it — the clean-up makes
    the same calls: one `nil` to the OnInvalidations callback (if configured) and one `nil` to the
    SetOnInvalidations hook (if installed), exactly once, and the pipe is dead afterwards. -/
theorem teardown_notifies_for_every_exit_reason (cfg : Cfg) (st : St) (hal : st.alive = true) (why : Exit) :
    (step cfg st (.disconnect why)).2 =
      (if cfg.optCb then [.opt none] else []) ++ (if st.hookInv then [.hook none] else []) ∧
    (step cfg st (.disconnect why)).1.alive = false ∧
    (∀ why' evs, run cfg (step cfg st (.disconnect why)).1 (.disconnect why' :: evs) = []) := by
  refine ⟨by simp [step, hal], by simp [step, hal], fun why' evs => ?_⟩
  exact nothing_after_disconnect cfg _ (by simp [step, hal]) _

/-- keys are passed through unchanged: a per-key push, a multi-key push and a flush -/
example : invArg [.str "invalidate", .arr ["k"]] = some (some ["k"]) := by decide
example : invArg [.str "invalidate", .arr ["a", "b"]] = some (some ["a", "b"]) := by decide
example : invArg [.str "invalidate", .null] = some none := by decide
example : invArg [.str "invalidate"] = none := by decide
example : optLog (run ⟨false, true⟩ {} [.frame (.push [.str "invalidate", .arr ["k"]]), .frame (.reply []),
    .frame (.push [.str "invalidate", .null]), .disconnect .lifetime]) = [some ["k"], none, none] := by decide

/-- Releasing a dedicated client whose wire has an invalidation
    callback sends CLIENT TRACKING OFF after the hooks were reset and the subscriptions cleaned,
    and before the wire is handed back to the pool (shared with C25 `store_cleans`). -/
theorem tracking_off_before_reuse (h : Dedicated.Hooks) (hinv : h.inv = true) :
    Dedicated.storeSeq h = [.wGetHooks, .wSetHooks {}, .wClean, .wTrackingOff, .poolStore] := by
  simp [Dedicated.storeSeq, hinv]

theorem no_tracking_off_without_callback (h : Dedicated.Hooks) (hinv : h.inv = false) :
    Dedicated.storeSeq h = [.wGetHooks, .wSetHooks {}, .wClean, .poolStore] := by
  simp [Dedicated.storeSeq, hinv]

end Rv.C27
