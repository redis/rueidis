import Rv.Model.Pool
/-!
# C24 — Blocking pool bounds, isolates and releases connections
(with the pool part of C05: waiters whose context is done return)

Theorems over `Rv.Pool` (the pool's data and who holds what; every transition is one
locked region of pool.go) and `Rv.PoolWait` (the wait protocol of `Acquire` against the
most general environment). All statements are for every reachable state, i.e. for all
interleavings of acquisitions (live / done / cancelled contexts), returns, failed
dials, expired fresh wires, idle cleanup and Close.
-/

namespace Rv.C24
open Rv.Pool

/-- The wires the pool made and still answers for. -/
def held (s : St) : List Nat := s.list ++ s.fresh ++ s.out

/-- The wires made so far (`< n`) are the distinct wires `H` and some of the closed ones `C`. -/
structure Wires (H C : List Nat) (n : Nat) : Prop where
  nodup : H.Nodup
  lt : ∀ w ∈ H, w < n
  cons : ∀ w, w < n → w ∈ H ∨ w ∈ C

theorem Wires.shrink {H H' G C C' : List Nat} {n : Nat} (h : Wires H C n)
    (hp : H.Perm (G ++ H')) (hc : ∀ w, w ∈ G ∨ w ∈ C → w ∈ C') : Wires H' C' n where
  nodup := (List.nodup_append.1 (hp.nodup_iff.1 h.nodup)).2.1
  lt w hw := h.lt w (hp.mem_iff.2 (List.mem_append_right G hw))
  cons w hw := by
    rcases h.cons w hw with hH | hC
    · rcases List.mem_append.1 (hp.mem_iff.1 hH) with hG | hH'
      · exact .inr (hc w (.inl hG))
      · exact .inl hH'
    · exact .inr (hc w (.inr hC))

theorem Wires.perm {H H' C : List Nat} {n : Nat} (h : Wires H C n) (hp : H.Perm H') : Wires H' C n :=
  h.shrink (G := []) hp fun _ hw => hw.resolve_left List.not_mem_nil

theorem Wires.closed_mono {H C C' : List Nat} {n : Nat} (h : Wires H C n) (hc : C ⊆ C') :
    Wires H C' n :=
  h.shrink (G := []) .rfl fun _ hw => hc (hw.resolve_left List.not_mem_nil)

/-- `makeFn` returns the wire with the next id. -/
theorem Wires.make {H C : List Nat} {n : Nat} (h : Wires H C n) : Wires (n :: H) C (n + 1) where
  nodup := List.nodup_cons.2 ⟨fun hm => Nat.lt_irrefl n (h.lt n hm), h.nodup⟩
  lt w hw := by
    rcases List.mem_cons.1 hw with rfl | hw
    · exact Nat.lt_succ_self _
    · exact Nat.lt_succ_of_lt (h.lt w hw)
  cons w hw := by
    rcases Nat.lt_succ_iff_lt_or_eq.1 hw with hlt | rfl
    · exact (h.cons w hlt).imp (List.mem_cons_of_mem _) id
    · exact .inl List.mem_cons_self

theorem perm_last {A B : List Nat} {w : Nat} (hw : w ∈ B) : (A ++ B).Perm (w :: (A ++ B.erase w)) :=
  ((List.perm_cons_erase hw).append_left A).trans List.perm_middle

theorem append_subset_append_left {C B : List Nat} (G : List Nat) (h : C ⊆ B) : G ++ C ⊆ G ++ B :=
  fun _ hx => List.mem_append.2 ((List.mem_append.1 hx).imp id (@h _))

theorem idle_closed_append {L C G : List Nat} {d : Prop} (h : ∀ x ∈ L, (x ∈ C ↔ d))
    (hG : ∀ x ∈ L, x ∉ G) : ∀ x ∈ L, (x ∈ G ++ C ↔ d) :=
  fun x hx => (List.mem_append.trans (or_iff_right (hG x hx))).trans (h x hx)

structure Inv (c : Cfg) (s : St) : Prop where
  count : s.size + s.over = (inUse s + idle s : Nat) ∧ inUse s + idle s ≤ c.cap
  up : s.down = false → s.over = 0 ∧ s.outDeadU = 0
  wires : Wires (held s) s.closed s.next
  closedBad : s.closed ⊆ s.bad
  idleClosed : ∀ w ∈ s.list, (w ∈ s.closed ↔ s.down = true)

section
variable {c : Cfg} {s : St} (h : Inv c s)
include h

theorem Inv.nodup_list : s.list.Nodup :=
  (List.nodup_append.1 (List.nodup_append.1 h.wires.nodup).1).1

theorem Inv.nodup_out : s.out.Nodup :=
  (List.nodup_append.1 h.wires.nodup).2.1

theorem Inv.list_fresh {w : Nat} (hl : w ∈ s.list) (hf : w ∈ s.fresh) : False :=
  (List.nodup_append.1 (List.nodup_append.1 h.wires.nodup).1).2.2 w hl w hf rfl

theorem Inv.list_out {w : Nat} (hl : w ∈ s.list) (ho : w ∈ s.out) : False :=
  (List.nodup_append.1 h.wires.nodup).2.2 w (List.mem_append_left _ hl) w ho rfl

theorem Inv.fresh_out {w : Nat} (hf : w ∈ s.fresh) (ho : w ∈ s.out) : False :=
  (List.nodup_append.1 h.wires.nodup).2.2 w (List.mem_append_right _ hf) w ho rfl

theorem Inv.regroup {l f o : List Nat} (hp : (held s).Perm (l ++ f ++ o)) (hl : ∀ x ∈ l, (x ∈ s.closed ↔ s.down = true)) :
    Inv c { s with list := l, fresh := f, out := o } :=
  { h with
    count := by
      have := hp.length_eq; have := h.count
      simp only [held, inUse, idle, List.length_append] at *
      omega
    wires := h.wires.perm hp
    idleClosed := hl }

/-- Wires `G` leave the pool's hands and are closed in the same locked region: `Store`'s else-branch
    (`G = [w]`, see `Pool.discard`) and `removeIdleConns`. -/
theorem Inv.close_out {l f o G : List Nat} {n : Nat}
    (hp : (held s).Perm (G ++ (l ++ f ++ o))) (hl : l ⊆ s.list) (hn : G.length = n) :
    Inv c { s with list := l, fresh := f, out := o, size := s.size - n,
                   closed := G ++ s.closed, bad := G ++ s.bad } where
  count := by
    have := hp.length_eq; have := h.count
    simp only [held, inUse, idle, List.length_append] at *
    omega
  up := h.up
  wires := h.wires.shrink hp fun _ => List.mem_append.2
  closedBad := append_subset_append_left G h.closedBad
  idleClosed := idle_closed_append (fun x hx => h.idleClosed x (hl hx)) fun x hx hxG =>
    (List.nodup_append.1 (hp.nodup_iff.1 h.wires.nodup)).2.2 x hxG x
      (List.mem_append_left _ (List.mem_append_left _ hx)) rfl

end

theorem step_acqPop {c : Cfg} {s s' : St} {ok : Bool} (hs : step c s (.acqPop ok) = some s') :
    s.down = false ∧ ∃ w rest, s.list = w :: rest ∧
      ((ok = true ∧ w ∉ s.bad ∧ s' = { s with list := rest, out := w :: s.out }) ∨
        s' = Pool.discard { s with list := rest } w) := by
  simp only [step, Option.ite_none_left_eq_some, Bool.not_eq_true] at hs
  obtain ⟨hd, hs⟩ := hs
  refine ⟨hd, ?_⟩
  split at hs
  · cases hs
  · rename_i w rest hl
    refine ⟨w, rest, hl, ?_⟩
    split at hs <;> cases hs
    · rename_i hg
      simp only [Bool.and_eq_true, Bool.not_eq_true', List.contains_eq_mem, decide_eq_false_iff_not] at hg
      exact .inl ⟨hg.1, hg.2, rfl⟩
    · exact .inr rfl

/-- Each case names the fields of the invariant the transition touches; the others carry over. -/
theorem inv_step {c : Cfg} {s s' : St} {op : Op} (hc : c.skipUncounted = true) (h : Inv c s)
    (hs : step c s op = some s') : Inv c s' := by
  have h1 := h.count
  simp only [inUse, idle] at h1
  cases op
  case acqPop ok =>
    obtain ⟨-, w, rest, hl, hs'⟩ := step_acqPop hs
    rcases hs' with ⟨-, -, rfl⟩ | rfl
    · exact h.regroup (by rw [held, hl]; exact List.perm_middle.symm)
        fun x hx => h.idleClosed x (hl ▸ List.mem_cons_of_mem _ hx)
    · exact h.close_out (G := [w]) (by rw [held, hl]; exact .rfl) (hl ▸ List.subset_cons_self ..) rfl
  all_goals simp only [step, hc, if_true, Option.ite_none_left_eq_some,
    Option.ite_none_right_eq_some, List.contains_eq_mem, decide_eq_true_eq, Option.some.injEq] at hs
  case acqCtxDead => subst hs; exact { h with }
  case acqDown =>
    obtain ⟨hd, rfl⟩ := hs
    exact { h with up := fun hu => by simp [hd] at hu }
  case acqNew =>
    simp only [Bool.and_eq_true, Bool.not_eq_true', bne_iff_ne, ne_eq] at hs
    obtain ⟨⟨⟨hd, -⟩, hne⟩, rfl⟩ := hs
    have := h.up hd
    exact { h with count := by simp only [inUse, idle]; omega }
  case makeRet alive ok =>
    obtain ⟨hm, hs⟩ := hs
    have hb : s.closed ⊆ if alive then s.bad else s.next :: s.bad := by
      split
      · exact h.closedBad
      · exact List.subset_cons_of_subset _ h.closedBad
    split at hs <;> cases hs
    · exact { h with
        count := by simp only [inUse, idle, List.length_cons]; omega
        wires := h.wires.make.perm List.perm_middle.symm
        closedBad := hb }
    · exact { h with
        count := by simp only [inUse, idle, List.length_cons]; omega
        wires := h.wires.make.perm (List.perm_middle.symm.append_right s.out)
        closedBad := hb }
  case makeDead =>
    obtain ⟨hm, rfl⟩ := hs
    exact { h with count := by simp only [inUse, idle]; omega }
  case dropFresh w =>
    obtain ⟨hw, rfl⟩ := hs
    exact h.close_out (G := [w]) ((perm_last hw).append_right s.out) (List.Subset.refl _) rfl
  case store w =>
    obtain ⟨hw, hs⟩ := hs
    split at hs <;> cases hs
    · rename_i hg
      simp only [Bool.and_eq_true, Bool.not_eq_true', decide_eq_false_iff_not] at hg
      exact h.regroup (perm_last hw) (List.forall_mem_cons.2
        ⟨iff_of_false (fun hx => hg.2 (h.closedBad hx)) (by simp [hg.1]), h.idleClosed⟩)
    · exact h.close_out (G := [w]) (perm_last hw) (List.Subset.refl _) rfl
  case storeDead =>
    obtain ⟨hm, rfl⟩ := hs
    exact { h with count := by simp only [inUse, idle]; omega }
  case storeDeadU =>
    obtain ⟨hm, rfl⟩ := hs
    exact { h with
      count := by simp only [inUse, idle]; omega
      up := fun hd => absurd (h.up hd).2 hm }
  case storeCtx => obtain ⟨-, rfl⟩ := hs; exact { h with }
  case close =>
    subst hs
    exact { h with
      up := nofun
      wires := h.wires.closed_mono (List.subset_append_right ..)
      closedBad := append_subset_append_left s.list h.closedBad
      idleClosed := fun x hx => iff_of_true (List.mem_append_left _ hx) rfl }
  case removeIdle =>
    subst hs
    exact h.close_out (by simp only [held, ← List.append_assoc, List.take_append_drop]; rfl)
      (fun _ => List.mem_of_mem_drop) (by rw [List.length_take]; omega)
  case breakWire w =>
    obtain ⟨-, rfl⟩ := hs
    exact { h with closedBad := List.subset_cons_of_subset w h.closedBad }
  case closeWire w =>
    obtain ⟨hw, rfl⟩ := hs
    exact { h with
      wires := h.wires.closed_mono (List.subset_cons_self ..)
      closedBad := List.cons_subset_cons w h.closedBad
      idleClosed := idle_closed_append (G := [w]) h.idleClosed
        fun _ hx hxw => h.list_out (List.mem_singleton.1 hxw ▸ hx) hw }

theorem inv_init (c : Cfg) : Inv c {} where
  count := ⟨rfl, Nat.zero_le _⟩
  up _ := ⟨rfl, rfl⟩
  wires := ⟨.nil, nofun, nofun⟩
  closedBad := List.Subset.refl _
  idleClosed := nofun

theorem inv_reach {c : Cfg} {s : St} (hc : c.skipUncounted = true) (h : Reach c s) : Inv c s := by
  induction h with
  | init => exact inv_init c
  | step op _ hs ih => exact inv_step hc ih hs

theorem reach_run {c : Cfg} (ops : List Op) {s s' : St} (h : Reach c s) (hs : run c s ops = some s') :
    Reach c s' := by
  induction ops generalizing s with
  | nil => cases hs; exact h
  | cons op ops ih =>
    simp only [run] at hs
    split at hs
    · rename_i s1 h1; exact ih (Reach.step _ h h1) hs
    · cases hs

/-- **size accounting**: while the pool is up, `size` is exactly the number of wires handed
    out or being dialled plus the idle ones (the placeholder given for a done context is
    neither counted nor subtracted). -/
theorem size_accounting {c : Cfg} {s : St} (hc : c.skipUncounted = true) (h : Reach c s)
    (hup : s.down = false) : s.size = (inUse s + idle s : Nat) := by
  have hi := inv_reach hc h
  have := hi.count.1; have := (hi.up hup).1
  omega

/-- **bounded**: at all times (before and after Close) the connections in use, being
    dialled and idle — even together with the counted dead hand-outs — never exceed `cap`. -/
theorem bounded {c : Cfg} {s : St} (hc : c.skipUncounted = true) (h : Reach c s) :
    live s ≤ c.cap ∧ inUse s + idle s ≤ c.cap := by
  have hi := (inv_reach hc h).count.2
  simp only [live, inUse, idle] at hi ⊢; omega

/-- while the pool is up, `size ≤ cap` (so the `size == cap` test of the wait loop means "full"). -/
theorem size_le_cap {c : Cfg} {s : St} (hc : c.skipUncounted = true) (h : Reach c s)
    (hup : s.down = false) : s.size ≤ c.cap := by
  have := size_accounting hc h hup; have := (bounded hc h).2; omega

/-- Only the return of a dial started before `Close` gives a wire to a holder of a pool that is down. -/
theorem down_step {c : Cfg} {s s' : St} {op : Op} (hs : step c s op = some s') (hd : s.down = true) :
    s'.down = true ∧ ((∀ a ok, op ≠ .makeRet a ok) → ∀ w, w ∈ s'.out → w ∈ s.out) := by
  cases op <;> simp only [step, Pool.discard, hd, ↓reduceIte] at hs <;> (repeat' (split at hs)) <;>
    cases hs <;> refine ⟨rfl, fun hne w hw => ?_⟩ <;>
    first | exact hw | exact List.mem_of_mem_erase hw | exact absurd rfl (hne _ _)

/-- `down` is never reset. -/
theorem down_stable {c : Cfg} {s s' : St} {op : Op} (hs : step c s op = some s') (hd : s.down = true) :
    s'.down = true :=
  (down_step hs hd).1

/-- after an own `p.size--` under the mutex the pool is not exhausted: the `goto retry`
    paths of `Acquire` never enter `cond.Wait` (why `retryPop` and `dialRetry` of `Rv.PoolWait.step` set
    `exhausted := false`). -/
theorem retry_not_exhausted {c : Cfg} {s s' : St} (hc : c.skipUncounted = true) (h : Reach c s) :
    (∀ w, step c s (.dropFresh w) = some s' → exhausted c s' = false) ∧
    (∀ ok, step c s (.acqPop ok) = some s' → s'.size < s.size → exhausted c s' = false) := by
  have below : s.down = false → s'.size < s.size → exhausted c s' = false := fun hup hlt => by
    have := size_le_cap hc h hup
    have : s'.size ≠ (c.cap : Int) := by omega
    simp [exhausted, this]
  constructor
  · intro w hs
    cases hd : s.down
    · refine below hd ?_
      simp only [step, Option.ite_none_right_eq_some, Option.some.injEq] at hs
      obtain ⟨-, rfl⟩ := hs
      exact Int.sub_one_lt_of_le (Int.le_refl _)
    · simp [exhausted, down_stable hs hd]
  · exact fun ok hs => below (step_acqPop hs).1

/-- **exclusive**: no wire is handed to two holders at the same time, and a wire that is
    held is neither idle in the pool (from where it could be handed out again) nor pending. -/
theorem exclusive {c : Cfg} {s : St} (hc : c.skipUncounted = true) (h : Reach c s) :
    s.out.Nodup ∧ s.list.Nodup ∧ (∀ w, w ∈ s.out → w ∉ s.list ∧ w ∉ s.fresh) := by
  have hi := inv_reach hc h
  exact ⟨hi.nodup_out, hi.nodup_list, fun w hw => ⟨fun hl => hi.list_out hl hw, fun hf => hi.fresh_out hf hw⟩⟩

/-- every hand-out of an idle wire goes to a new holder: it was held by nobody, and it
    reports no error and was never closed. -/
theorem handout_is_exclusive_and_healthy {c : Cfg} {s s' : St} {ok : Bool}
    (hc : c.skipUncounted = true) (h : Reach c s) (hs : step c s (.acqPop ok) = some s')
    {w : Nat} (hw : w ∈ s'.out) (hnew : w ∉ s.out) :
    w ∉ s.fresh ∧ w ∉ s.bad ∧ w ∉ s.closed ∧ w ∉ s'.list := by
  have hi := inv_reach hc h
  obtain ⟨-, w0, rest, hl, ⟨-, hb, rfl⟩ | rfl⟩ := step_acqPop hs
  · rcases List.mem_cons.1 hw with rfl | hw
    · have hn := hi.nodup_list
      rw [hl] at hn
      exact ⟨hi.list_fresh (hl ▸ List.mem_cons_self), hb, fun hc' => hb (hi.closedBad hc'),
        (List.nodup_cons.1 hn).1⟩
    · exact absurd hw hnew
  · exact absurd hw hnew

/-- **returned or closed (no wire is lost)**: every wire the pool ever made is, at all
    times, held by somebody who will store it, pending in its acquirer's retry, idle in
    the pool, or closed. -/
theorem returned_or_closed {c : Cfg} {s : St} (hc : c.skipUncounted = true) (h : Reach c s) :
    ∀ w, w < s.next → w ∈ s.out ∨ w ∈ s.fresh ∨ w ∈ s.list ∨ w ∈ s.closed := by
  intro w hw
  rcases (inv_reach hc h).wires.cons w hw with hh | hc
  · rcases List.mem_append.1 hh with hh | ho
    · exact (List.mem_append.1 hh).elim (.inr ∘ .inr ∘ .inl) (.inr ∘ .inl)
    · exact .inl ho
  · exact .inr (.inr (.inr hc))

/-- `Store` of a held wire always succeeds and puts it back into the list or closes it;
    a wire with an error and any wire stored after Close is closed. -/
theorem store_returns {c : Cfg} {s : St} {w : Nat} (hc : c.skipUncounted = true) (h : Reach c s)
    (hw : w ∈ s.out) :
    ∃ s', step c s (.store w) = some s' ∧ w ∉ s'.out ∧ (w ∈ s'.list ∨ w ∈ s'.closed) ∧
      ((s.down = true ∨ w ∈ s.bad) → w ∈ s'.closed) ∧ s'.out.length + 1 = s.out.length := by
  have hi := inv_reach hc h
  have hne : w ∉ s.out.erase w := fun hm => ((List.Nodup.mem_erase_iff hi.nodup_out).1 hm).1 rfl
  have hlen : (s.out.erase w).length + 1 = s.out.length := by
    have := List.length_erase_of_mem hw; have := List.length_pos_of_mem hw; omega
  simp only [step, List.contains_eq_mem, hw, decide_true, if_true]
  split
  · rename_i hg
    refine ⟨_, rfl, hne, Or.inl (by simp), ?_, hlen⟩
    simp only [Bool.and_eq_true, Bool.not_eq_true', decide_eq_false_iff_not] at hg
    intro hx; rcases hx with hx | hx
    · simp [hg.1] at hx
    · exact absurd hx hg.2
  · refine ⟨_, rfl, hne, Or.inr (by simp [Rv.Pool.discard]), fun _ => by simp [Rv.Pool.discard], hlen⟩

/-- the acquirer of an expired fresh wire closes it. -/
theorem fresh_is_closed {c : Cfg} {s s' : St} {w : Nat} (hs : step c s (.dropFresh w) = some s') :
    w ∈ s'.closed := by
  simp only [step, Rv.Pool.discard] at hs
  split at hs <;> simp at hs
  subst hs; simp

/-- caller discipline (`mux.blocking`, `blockingMulti`, `DoStream`/`WriteTo`,
    `Dedicated`+`release`): use the wire, close it if the command failed, store it. The
    wire ends up idle or closed — closed whenever the command failed. -/
theorem caller_returns {c : Cfg} {s : St} {w : Nat} (fail : Bool) (hc : c.skipUncounted = true)
    (h : Reach c s) (hw : w ∈ s.out) :
    ∃ s', run c s (useAndStore w fail) = some s' ∧ Reach c s' ∧ w ∉ s'.out ∧
      (w ∈ s'.list ∨ w ∈ s'.closed) ∧ (fail = true → w ∈ s'.closed) ∧
      s'.out.length + 1 = s.out.length := by
  cases fail
  · obtain ⟨s', h1, h2, h3, _, h5⟩ := store_returns hc h hw
    exact ⟨s', by simp [useAndStore, run, h1], Reach.step _ h h1, h2, h3, by simp, h5⟩
  · have hcw : step c s (.closeWire w) = some { s with closed := w :: s.closed, bad := w :: s.bad } := by
      simp [step, hw]
    have hr := Reach.step _ h hcw
    obtain ⟨s', h1, h2, h3, h4, h5⟩ := store_returns (w := w) hc hr (by simpa using hw)
    refine ⟨s', by simp [useAndStore, run, hcw, h1], Reach.step _ hr h1, h2, h3, fun _ => h4 (Or.inr (by simp)), ?_⟩
    simpa using h5

/-- when nobody holds or dials anything the pool is settled: `size` is the number of idle
    wires and every wire ever made is idle or closed (what the `callers` suite observes
    after each complete call). -/
theorem settled {c : Cfg} {s : St} (hc : c.skipUncounted = true) (h : Reach c s) (hup : s.down = false)
    (h0 : s.out = [] ∧ s.fresh = [] ∧ s.making = 0 ∧ s.outDead = 0) :
    s.size = s.list.length ∧ ∀ w, w < s.next → w ∈ s.list ∨ w ∈ s.closed := by
  obtain ⟨ho, hf, hm, hd⟩ := h0
  refine ⟨?_, fun w hw => ?_⟩
  · have := size_accounting hc h hup; simp [inUse, idle, ho, hf, hm, hd] at this; exact this
  · have := returned_or_closed hc h w hw; simpa [ho, hf] using this

/-- while the pool is up, no idle wire has been closed: whatever the pool closes (idle
    cleanup, broken wires, `Store` of a bad wire) has left the list in the same locked region,
    so a wire stored meanwhile can never be the one that gets closed (what `!race-cleanup`
    observes on the real pool). -/
theorem idle_not_closed {c : Cfg} {s : St} (hc : c.skipUncounted = true) (h : Reach c s)
    (hup : s.down = false) : ∀ w, w ∈ s.list → w ∉ s.closed :=
  fun w hw hc' => by simpa [hup] using ((inv_reach hc h).idleClosed w hw).1 hc'

/-- **after Close only dead wires are handed out**: once `down` is set, the only enabled
    decisions of `Acquire` are the two that hand out a dead wire (`ctx` done / pool down);
    no idle wire is handed out and nothing is dialled. (An acquirer that was already inside
    `makeFn` when Close ran still gets the wire it dialled — `makeRet` — and `Store` then
    closes it, see `store_returns`.) -/
theorem down_hands_only_dead {c : Cfg} {s : St} (hd : s.down = true) :
    step c s .acqNew = none ∧ (∀ ok, step c s (.acqPop ok) = none) ∧
    (∀ op s', step c s op = some s' → (∀ a ok, op ≠ .makeRet a ok) → ∀ w, w ∈ s'.out → w ∈ s.out) :=
  ⟨by simp [step, hd], fun ok => by simp [step, hd], fun op s' hs => (down_step hs hd).2⟩

/-- after Close every idle wire is closed, and every wire still held is closed by its `Store`. -/
theorem down_closes_idle {c : Cfg} {s : St} (hc : c.skipUncounted = true) (h : Reach c s)
    (hd : s.down = true) : ∀ w, w ∈ s.list → w ∈ s.closed :=
  fun w hw => ((inv_reach hc h).idleClosed w hw).2 hd

/-- wires the pool made and nobody closed yet (what the `pool` suite counts as live) -/
def unclosed (s : St) : List Nat := (List.range s.next).filter (fun w => !s.closed.contains w)

/-- **bounded, as observed from outside**: the connections that were dialled and not closed,
    plus the dials in progress, never exceed `cap`. -/
theorem unclosed_bounded {c : Cfg} {s : St} (hc : c.skipUncounted = true) (h : Reach c s) :
    (unclosed s).length + s.making ≤ c.cap := by
  have hi := inv_reach hc h
  have hnd : (unclosed s).Nodup := List.Nodup.sublist List.filter_sublist List.nodup_range
  have hsub : unclosed s ⊆ held s := by
    intro x hx
    simp only [unclosed, List.mem_filter, List.mem_range, List.contains_eq_mem, Bool.not_eq_true',
      decide_eq_false_iff_not] at hx
    exact (hi.wires.cons x hx.1).resolve_right hx.2
  have := hnd.length_le_of_subset hsub
  have := hi.count.2
  simp only [held, inUse, idle, List.length_append] at *
  omega

/-- the code before the repair of `Store` -/
def asIs (cap : Nat) : Cfg := { cap := cap, minSize := 0, skipUncounted := false }

/-- witness: `Acquire` with a done context, then `Store` of what it returned: `size = -1`. -/
theorem asis_size_negative :
    (run (asIs 1) {} [.acqCtxDead, .storeCtx]).map (·.size) = some (-1) := by decide

/-- … after which a pool of capacity 1 dials two connections and hands both out:
    `bounded` and `size_accounting` are false for the code as it was. -/
theorem asis_exceeds_cap :
    ∃ s, Reach (asIs 1) s ∧ s.down = false ∧ live s = 2 ∧ s.size ≠ (inUse s + idle s : Nat) := by
  refine ⟨{ size := 1, out := [1, 0], next := 2, over := 1 }, ?_, rfl, by decide, by decide⟩
  exact reach_run [.acqCtxDead, .storeCtx, .acqNew, .makeRet true true, .acqNew, .makeRet true true]
    Reach.init (by decide)

/-- the same schedule on the repaired code is stopped by the wait condition. -/
theorem repaired_blocks_witness :
    run { cap := 1, minSize := 0 } {} [.acqCtxDead, .storeCtx, .acqNew, .makeRet true true, .acqNew] = none := by
  decide

end Rv.C24

/-! ## The wait protocol: waiters whose context is done return (C24, pool part of C05) -/
namespace Rv.C24
open Rv.PoolWait

/-- the repaired code: Broadcast under the mutex -/
abbrev fixedW : Cfg := repaired
/-- the code as it was: Broadcast without the mutex -/
def asIsW : Cfg := { lockedBroadcast := false }

/-- Invariant of the wait protocol (repaired code). The watcher changes only at `enter` (armed iff
    the acquirer is about to wait on a cancellable context) and at `watcherFire`, which needs the
    mutex free: so it cannot fire between the condition check and `Wait` (`preWait` holds the mutex),
    and when it fires on a sleeping acquirer it wakes it in the same step. Every other op moves the
    program counter along the loop with the watcher as it is, and resets `exhausted` where it
    re-enters the loop after its own `p.size--`. -/
def WInv (s : St) : Prop :=
  (s.lock = .me ↔ (s.pc = .atLoop ∨ s.pc = .preWait ∨ s.pc = .post)) ∧
  (s.ctxDone = true → s.cancellable = true) ∧
  (s.watcher = .fired → s.ctxDone = true) ∧
  (s.pc = .atLoop → s.exhausted = true → s.ctxDone = false → s.cancellable = true → s.watcher = .armed) ∧
  ((s.pc = .preWait ∨ s.pc = .waiting) → s.cancellable = true → s.watcher = .armed) ∧
  (s.pc = .woken → s.cancellable = true → s.watcher = .armed ∨ s.watcher = .fired)

private theorem winv_step {s s' : St} {op : Op} (h : WInv s) (hs : step fixedW s op = some s') : WInv s' := by
  -- per op the reason is the one given at `WInv`; what is left is the guard and the six conjuncts
  cases op <;> grind [step, repaired, WInv]

private theorem winv_init {s : St} (h : initial s) : WInv s := by
  obtain ⟨h1, h2, h3, h4⟩ := h
  simpa [WInv, h1, h2, h3] using h4

theorem winv_reach {s0 s : St} (h0 : initial s0) (h : Reach fixedW s0 s) : WInv s := by
  induction h with
  | init => exact winv_init h0
  | step op _ hs ih => exact winv_step ih hs

/-- a path of steps that need nobody's help -/
def HelpfulPath (c : Cfg) (s : St) (ops : List Op) (s' : St) : Prop :=
  (∀ op, op ∈ ops → helpful op = true) ∧ run c s ops = some s'

private theorem path_of_run {c : Cfg} {s : St} {n : Nat} (ops : List Op)
    (hr : (run c s ops).map (·.pc) = some .exited := by simp [run, step, repaired])
    (hh : ∀ op, op ∈ ops → helpful op = true := by decide) (hl : ops.length ≤ n := by decide) :
    ∃ ops s', HelpfulPath c s ops s' ∧ s'.pc = .exited ∧ ops.length ≤ n := by
  cases hrun : run c s ops with
  | none => simp [hrun] at hr
  | some s' => simp [hrun] at hr; exact ⟨ops, s', ⟨hh, hrun⟩, hr, hl⟩

/-- **no lost wake-up** (repaired code): whenever the acquirer sleeps in `cond.Wait` with a
    done context, its cancellation goroutine has not broadcast yet — the wake-up is still
    to come, it cannot have fallen between the condition check and the `Wait`. -/
theorem no_lost_wakeup {s0 s : St} (h0 : initial s0) (h : Reach fixedW s0 s)
    (hw : s.pc = .waiting) (hd : s.ctxDone = true) : s.watcher = .armed ∧ s.lock ≠ .me := by
  obtain ⟨h1, h2, h3, h4, h5, h6⟩ := winv_reach h0 h
  refine ⟨h5 (Or.inr hw) (h2 hd), fun hl => ?_⟩
  have := h1.1 hl; simp [hw] at this

/-- **done context ⇒ enabled exit** (C24 "waiters whose context is done return promptly",
    pool part of C05; repaired code). In every reachable state — whatever the interleaving
    of the cancellation with the wait loop, the broadcast, stores, Close and other
    acquirers — an acquirer whose context is done and that has not returned yet can reach
    the return of `Acquire` by steps that need nobody's help: its own steps, its
    cancellation goroutine's broadcast, and the current owner of the mutex releasing it.
    (From `making` the assumption is that `makeFn`, which is given the context, returns.) -/
theorem done_ctx_returns {s0 s : St} (h0 : initial s0) (h : Reach fixedW s0 s)
    (hd : s.ctxDone = true) (hne : s.pc ≠ .exited) :
    ∃ ops s', HelpfulPath fixedW s ops s' ∧ s'.pc = .exited ∧ ops.length ≤ 6 := by
  have hi := winv_reach h0 h
  obtain ⟨pc, lock, ex, cd, cc, wa⟩ := s
  simp only [WInv] at hi
  simp only at hd hne
  subst hd
  obtain ⟨h1, h2, h3, h4, h5, h6⟩ := hi
  obtain rfl : cc = true := h2 rfl
  cases pc
  case exited => exact absurd rfl hne
  case start =>
    cases lock
    case me => simp at h1
    case free => exact path_of_run [.enter, .evalLoop, .finish]
    case env => exact path_of_run [.envUnlock, .enter, .evalLoop, .finish]
  case atLoop => exact path_of_run [.evalLoop, .finish]
  case preWait =>
    obtain rfl : wa = .armed := h5 (.inl rfl) rfl
    exact path_of_run [.wait, .watcherFire, .relock, .evalLoop, .finish]
  case waiting =>
    obtain rfl : wa = .armed := h5 (.inr rfl) rfl
    cases lock
    case me => simp at h1
    case free => exact path_of_run [.watcherFire, .relock, .evalLoop, .finish]
    case env => exact path_of_run [.envUnlock, .watcherFire, .relock, .evalLoop, .finish]
  case woken =>
    cases lock
    case me => simp at h1
    case free => exact path_of_run [.relock, .evalLoop, .finish]
    case env => exact path_of_run [.envUnlock, .relock, .evalLoop, .finish]
  case post => exact path_of_run [.finish]
  case making => exact path_of_run [.dialOk]

theorem reachW_run {c : Cfg} {s0 : St} (ops : List Op) {s s' : St} (h : Reach c s0 s)
    (hs : run c s ops = some s') : Reach c s0 s' := by
  induction ops generalizing s with
  | nil => cases hs; exact h
  | cons op ops ih =>
    simp only [run] at hs
    split at hs
    · rename_i s1 h1; exact ih (Reach.step _ h h1) hs
    · cases hs

/-- the lost wake-up state: asleep in `cond.Wait`, context done, the broadcast already spent -/
def lostState : St :=
  { pc := .waiting, lock := .free, exhausted := true, ctxDone := true, cancellable := true, watcher := .fired }

/-- **witness**: with the Broadcast issued without the mutex (the code as it was) the
    schedule `enter; evalLoop` (condition true) `; cancel; watcherFire` (nobody waits yet)
    `; wait` reaches a state in which the acquirer sleeps although its context is done,
    and no step that needs nobody's help is enabled: only somebody else's Store/Close (or
    another cancellation) would ever wake it. -/
theorem lost_wakeup_asis :
    Reach asIsW { exhausted := true, cancellable := true } lostState ∧
    initial { exhausted := true, cancellable := true } ∧
    lostState.ctxDone = true ∧ lostState.pc = .waiting ∧
    ∀ op, helpful op = true → step asIsW lostState op = none := by
  refine ⟨?_, by simp [initial], rfl, rfl, ?_⟩
  · exact reachW_run [.enter, .evalLoop, .cancel, .watcherFire, .wait] Reach.init (by decide)
  · intro op hop
    cases op <;> simp [helpful] at hop <;> simp [step, lostState, asIsW]

/-- the same schedule is not executable on the repaired code: the cancellation goroutine
    cannot broadcast while the acquirer holds the mutex between its check and its `Wait`. -/
theorem lost_wakeup_schedule_blocked :
    run fixedW { exhausted := true, cancellable := true } [.enter, .evalLoop, .cancel, .watcherFire] = none := by
  decide

/-- … and `lostState` is unreachable for the repaired code. -/
theorem lost_state_unreachable {s0 : St} (h0 : initial s0) : ¬ Reach fixedW s0 lostState := by
  intro h
  have := (no_lost_wakeup h0 h rfl rfl).1
  simp [lostState] at this

/-- non-vacuity: a waiter with a done context is reachable in the repaired code
    (cancel while asleep), and `done_ctx_returns` gives its exit. -/
example : Reach fixedW { exhausted := true, cancellable := true }
    { pc := .waiting, lock := .free, exhausted := true, ctxDone := true, cancellable := true, watcher := .armed } :=
  reachW_run [.enter, .evalLoop, .wait, .cancel] Reach.init (by decide)

end Rv.C24
