/-
C38 — the rate limiter never admits more than the limit per window.

Chain to the source: `rateLimitScript` text regenerated from /repo on every run and pinned
below; `Rv.Limiter.scriptF` is its hand transcription (trusted), `scriptS` the abstraction
without server-side key expiry (`faithful_refines_simple`), `decide_` the Go admission rule;
tied by the `limiter` suite (fake server vs script model, real Check/Allow/AllowN end-to-end
incl. concurrent callers, '!result' lines judged from observed results only).

A history is the list of script executions in the order the server ran them (a script is
atomic, so every interleaving of concurrent callers is such a list). Each call carries its own
caller clock `cur` — no monotonicity is assumed — its `next = cur + window`, its `n ≥ 0` and
its own `limit` (options may differ per call). Hypothesis made explicit: `cur ≤ next`
(window ≥ 0; `NewRateLimiter` enforces window > 0, `WithCustomRateLimit` validates nothing).
-/
import Rv.Gen.LuaScripts
import Rv.Model.Limiter

namespace Rv.C38
open Rv.Limiter

theorem rate_limit_script_pinned : Rv.Gen.rueidislimiter_rateLimitScript =
  "\nlocal rate_limit_key = KEYS[1]\nlocal increment_amount = tonumber(ARGV[1])\nlocal next_expires_at = tonumber(ARGV[2])\nlocal current_time = tonumber(ARGV[3])\nlocal expires_at_key = KEYS[2]\nlocal expires_at = tonumber(redis.call(\"get\", expires_at_key))\nif not expires_at or expires_at < current_time then\n  redis.call(\"set\", rate_limit_key, 0, \"pxat\", next_expires_at + 1000)\n  redis.call(\"set\", expires_at_key, next_expires_at, \"pxat\", next_expires_at + 1000)\n  expires_at = next_expires_at\nend\nlocal current = redis.call(\"incrby\", rate_limit_key, increment_amount)\nreturn { current, expires_at }\n" := rfl

structure Call where
  n : Int
  limit : Int
  next : Int
  cur : Int

/-- what a caller gets back: its own `n`/`limit` and the script reply -/
structure Entry where
  n : Int
  limit : Int
  current : Int
  resetAt : Int

def Entry.result (e : Entry) : Result := decide_ e.n e.limit e.current e.resetAt
def Entry.allowed (e : Entry) : Bool := e.result.allowed

def step (s : Option SSt) (c : Call) : SSt := scriptS c.n c.next c.cur s

/-- run the calls in server order; the log is newest-first -/
def runAcc : Option SSt → List Entry → List Call → List Entry
  | _, log, [] => log
  | s, log, c :: cs =>
    runAcc (some (step s c)) (⟨c.n, c.limit, (step s c).count, (step s c).expiresAt⟩ :: log) cs

def run (cs : List Call) : List Entry := runAcc none [] cs

/-- everything requested so far in the window identified by `E` -/
def reqSum (E : Int) : List Entry → Int
  | [] => 0
  | e :: rest => (if e.resetAt = E then e.n else 0) + reqSum E rest

/-- units admitted (calls with n > 0 that report Allowed) in the window identified by `E` -/
def admSum (E : Int) : List Entry → Int
  | [] => 0
  | e :: rest => (if e.resetAt = E ∧ e.allowed = true ∧ e.n > 0 then e.n else 0) + admSum E rest

/-- every reply's `current` is the sum of everything requested in its window up to and including it -/
def Good : List Entry → Prop
  | [] => True
  | e :: rest => e.current = reqSum e.resetAt (e :: rest) ∧ Good rest

/-- invariant linking the script state with the log so far -/
def Inv (s : Option SSt) (log : List Entry) : Prop :=
  match s with
  | none => log = []
  | some st => (∀ e ∈ log, e.resetAt ≤ st.expiresAt) ∧ st.count = reqSum st.expiresAt log

private theorem reqSum_zero_of_lt (E : Int) : ∀ (log : List Entry), (∀ e ∈ log, e.resetAt < E) → reqSum E log = 0 := by
  intro log
  induction log with
  | nil => intro _; rfl
  | cons e rest ih =>
    intro h
    have he := h e (by simp)
    have : ¬ e.resetAt = E := by omega
    simp [reqSum, this, ih (fun x hx => h x (by simp [hx]))]

private theorem step_inv (s : Option SSt) (log : List Entry) (c : Call) (hI : Inv s log) (hw : c.cur ≤ c.next) :
    Inv (some (step s c)) (⟨c.n, c.limit, (step s c).count, (step s c).expiresAt⟩ :: log) := by
  cases s with
  | none =>
    rw [show log = [] from hI]
    exact ⟨List.forall_mem_cons.2 ⟨Int.le_refl _, nofun⟩, by simp [step, scriptS, reqSum]⟩
  | some st =>
    obtain ⟨hle, hcnt⟩ := hI
    rw [step, scriptS]
    split
    next hx =>
      have hlt : ∀ e ∈ log, e.resetAt < c.next := fun e he => by have := hle e he; omega
      exact ⟨List.forall_mem_cons.2 ⟨Int.le_refl _, fun e he => Int.le_of_lt (hlt e he)⟩,
        by simp [reqSum, reqSum_zero_of_lt _ _ hlt]⟩
    next hx => exact ⟨List.forall_mem_cons.2 ⟨Int.le_refl _, hle⟩, by simp [reqSum, hcnt, Int.add_comm]⟩

/-- `ResetAtMs` identifies the window the call was counted in: that window has not ended at the
caller's own clock reading — for `Check` (n = 0) as for any other call, whatever the state. -/
theorem reset_at_not_in_past (s : Option SSt) (c : Call) (hw : c.cur ≤ c.next) :
    c.cur ≤ (step s c).expiresAt := by
  cases s with
  | none => simpa [step, scriptS] using hw
  | some st =>
    simp only [step, scriptS]
    split
    · exact hw
    · simp only; omega

/-- … and a call that finds no live window (none, or one that ended before `cur`) is counted in a
fresh one: its counter is exactly its own `n` (for `Check`: 0, so Remaining = limit). -/
theorem fresh_window_counts_from_zero (s : Option SSt) (c : Call)
    (hs : ∀ st, s = some st → st.expiresAt < c.cur) :
    (step s c).count = c.n ∧ (step s c).expiresAt = c.next := by
  cases s with
  | none => simp [step, scriptS]
  | some st => simp [step, scriptS, hs st rfl]

private theorem runAcc_good : ∀ (cs : List Call) (s : Option SSt) (log : List Entry),
    Inv s log → Good log → (∀ c ∈ cs, c.cur ≤ c.next) → Good (runAcc s log cs) := by
  intro cs
  induction cs with
  | nil => intro s log _ hg _; exact hg
  | cons c cs ih =>
    intro s log hI hg hw
    have h := step_inv s log c hI (hw c (by simp))
    exact ih _ _ h ⟨h.2, hg⟩ (fun x hx => hw x (by simp [hx]))

/-- For every history (any interleaving, any caller clocks, any n, any per-call limits) with
`cur ≤ next`: every reply's counter equals the sum of all `n` requested so far in the window
its `ResetAtMs` identifies — so `ResetAtMs` does identify the window the call was counted in. -/
theorem run_good (cs : List Call) (hw : ∀ c ∈ cs, c.cur ≤ c.next) : Good (run cs) :=
  runAcc_good cs none [] rfl trivial hw

private theorem runAcc_n_nonneg : ∀ (cs : List Call) (s : Option SSt) (log : List Entry),
    (∀ e ∈ log, 0 ≤ e.n) → (∀ c ∈ cs, 0 ≤ c.n) → ∀ e ∈ runAcc s log cs, 0 ≤ e.n := by
  intro cs
  induction cs with
  | nil => intro s log h _; exact h
  | cons c cs ih =>
    intro s log h hn
    exact ih _ _ (List.forall_mem_cons.2 ⟨hn c List.mem_cons_self, h⟩) fun x hx => hn x (List.mem_cons_of_mem _ hx)

/-- `remaining_formula`: `Remaining` = limit − everything requested so far in the window
(this call included), floored at 0 — for every reply of every history. -/
theorem remaining_formula (e : Entry) (rest : List Entry) (hg : Good (e :: rest)) :
    e.result.remaining = max (e.limit - reqSum e.resetAt (e :: rest)) 0 := by
  simp only [Entry.result, decide_]
  rw [← hg.1]

private theorem admSum_le_reqSum (E : Int) : ∀ (log : List Entry), (∀ e ∈ log, 0 ≤ e.n) → admSum E log ≤ reqSum E log
  | [], _ => Int.le_refl _
  | e :: rest, h => by
    refine Int.add_le_add ?_ (admSum_le_reqSum E rest fun x hx => h x (List.mem_cons_of_mem _ hx))
    split
    next hc => rw [if_pos hc.1]; exact Int.le_refl _
    next =>
      split
      · exact h e List.mem_cons_self
      · exact Int.le_refl _

/-- `admitted_sum_le_limit`: in every window (identified by `ResetAtMs = E`) the units admitted
across all callers add up to at most `L`, for any bound `L ≥ 0` on the limits used by the
admitted calls of that window (with one limit for everybody: at most the limit). -/
theorem admitted_sum_le_limit (E L : Int) (hL : 0 ≤ L) : ∀ (log : List Entry), Good log → (∀ e ∈ log, 0 ≤ e.n) →
    (∀ e ∈ log, e.resetAt = E → e.allowed = true → e.limit ≤ L) → admSum E log ≤ L := by
  intro log
  induction log with
  | nil => intro _ _ _; exact hL
  | cons e rest ih =>
    intro hg hn hl
    have hn' := fun x hx => hn x (List.mem_cons_of_mem e hx)
    have hrest := ih hg.2 hn' fun x hx => hl x (List.mem_cons_of_mem e hx)
    by_cases hc : e.resetAt = E ∧ e.allowed = true ∧ e.n > 0
    · have h1 := admSum_le_reqSum E rest hn'
      have hcur : e.current ≤ e.limit := by
        have := hc.2.1
        simp only [Entry.allowed, Entry.result, decide_, Bool.and_eq_true, decide_eq_true_eq] at this
        exact this.1
      have hlim := hl e (by simp) hc.1 hc.2.1
      have hgood := hg.1
      simp only [reqSum, if_true] at hgood
      rw [hc.1] at hgood
      simp only [admSum, hc, and_self, if_true]
      omega
    · simp only [admSum, hc, if_false]
      omega

/-- the statement for whole histories -/
theorem admitted_sum_le_limit_run (cs : List Call) (hw : ∀ c ∈ cs, c.cur ≤ c.next) (hn : ∀ c ∈ cs, 0 ≤ c.n)
    (E L : Int) (hL : 0 ≤ L) (hl : ∀ e ∈ run cs, e.resetAt = E → e.allowed = true → e.limit ≤ L) :
    admSum E (run cs) ≤ L :=
  admitted_sum_le_limit E L hL (run cs) (run_good cs hw)
    (runAcc_n_nonneg cs none [] (by simp) hn) hl

/-- `check_consumes_nothing` (state): `Check` (n = 0) leaves the count of the window it is counted
in unchanged — 0 when it opens a fresh window. -/
theorem check_consumes_nothing (s : Option SSt) (c : Call) (h0 : c.n = 0) :
    (step s c).count = match s with
      | some st => if st.expiresAt < c.cur then 0 else st.count
      | none => 0 := by
  cases s with
  | none => simp [step, scriptS, h0]
  | some st =>
    simp only [step, scriptS, h0]
    split <;> simp

/-- `check_consumes_nothing` (log): a `Check` adds nothing to any window's requested or admitted
units, and it reports Allowed exactly when the window is still below the limit. -/
theorem check_adds_nothing (e : Entry) (rest : List Entry) (E : Int) (h0 : e.n = 0) :
    reqSum E (e :: rest) = reqSum E rest ∧ admSum E (e :: rest) = admSum E rest ∧
    (e.allowed = true ↔ e.current < e.limit) := by
  refine ⟨by simp [reqSum, h0], by simp [admSum, h0], ?_⟩
  simp only [Entry.allowed, Entry.result, decide_, h0, Bool.and_eq_true, decide_eq_true_eq, Bool.or_eq_true]
  omega

/-- the window hypothesis cannot be dropped: with a negative window the same `ResetAtMs` is
handed out twice with the count reset in between (limit 1, two admitted units). -/
theorem negative_window_counterexample :
    admSum 100 (run [⟨1, 1, 100, 150⟩, ⟨1, 1, 100, 150⟩]) = 2 := by decide

/-- non-vacuity: a history with non-monotone caller clocks satisfying the hypotheses -/
example : ∀ c ∈ [(⟨1, 2, 1010, 1000⟩ : Call), ⟨2, 2, 1005, 995⟩, ⟨0, 2, 1020, 1020⟩], c.cur ≤ c.next ∧ 0 ≤ c.n := by
  decide

/-- what the abstract script sees of the faithful state -/
def abs (f : FSt) : Option SSt :=
  match f.ex, f.cnt with
  | some ex, some cnt => some ⟨cnt.val, ex.val⟩
  | _, _ => none

/-- both keys absent, or both present with the expiry `expires_at + 1000` the script gives them -/
def Shape (f : FSt) : Prop :=
  (f.ex = none ∧ f.cnt = none) ∨
  ∃ c E, f.ex = some ⟨E, some (E + 1000)⟩ ∧ f.cnt = some ⟨c, some (E + 1000)⟩

/-- If the caller's clock is at most 1000 ms behind the server clock (`srv ≤ cur + 1000`), the
window is non-negative, timestamps are positive and the counter does not overflow, one run of
the faithful script (keys expiring server-side at `expires_at + 1000`) replies exactly what the
abstract script computes, and the state shape is preserved. -/
theorem faithful_refines_simple (f : FSt) (inc next cur srv : Int) (hS : Shape f)
    (hw : cur ≤ next) (hskew : srv ≤ cur + 1000) (hpos : 0 < next + 1000)
    (hov : ∀ st, abs f = some st → st.count + inc ≤ int64Max) (hinc : inc ≤ int64Max) :
    Shape (scriptF inc next cur srv f).1 ∧
    (scriptF inc next cur srv f).2 = .ok (scriptS inc next cur (abs f)).count (scriptS inc next cur (abs f)).expiresAt ∧
    abs (scriptF inc next cur srv f).1 = some (scriptS inc next cur (abs f)) := by
  have hn : ¬ (next + 1000 ≤ 0) := by omega
  have hl : ¬ (srv > next + 1000) := by omega
  have ho : ¬ (int64Max < inc) := by omega
  rcases hS with ⟨hex, hcnt⟩ | ⟨c, E, hex, hcnt⟩
  · simp [scriptF, scriptS, abs, Shape, live, needReset, hex, hcnt, hn, hl, ho]
  · have hov' : c + inc ≤ int64Max := hov ⟨c, E⟩ (by simp [abs, hex, hcnt])
    by_cases hlt : E < cur
    · by_cases hexp : srv > E + 1000 <;>
        simp [scriptF, scriptS, abs, Shape, live, needReset, hex, hcnt, hexp, hn, hl, ho, hlt]
    · have hexp : ¬ srv > E + 1000 := by omega
      have ho' : ¬ (int64Max < c + inc) := by omega
      simp [scriptF, scriptS, abs, Shape, live, needReset, hex, hcnt, hexp, ho', hlt]

/-- the glue's arguments satisfy the window hypothesis: `next = ⌊(now+window)/10^6⌋ ≥ ⌊now/10^6⌋ = cur`
for every window ≥ 0 (in nanoseconds, as `time.Duration`) -/
theorem args_window (nowNs windowNs : Int) (hw : 0 ≤ windowNs) :
    (argsOf nowNs windowNs).2 ≤ (argsOf nowNs windowNs).1 := by
  simp only [argsOf]
  omega

end Rv.C38
