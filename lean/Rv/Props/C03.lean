/-
C03 — non-retryable commands are executed at most once per call.
(a) the teardown never reports `errConnExpired` for a batch that reached the writer;
(b) hence the client loops re-send a non-retryable batch only while it is provably unwritten.
MOVED/ASK/REDIRECT re-sends are decided under C19/C28.
-/
import Rv.Model.Teardown
import Rv.Gen.PipeShape
import Rv.Model.WriterLoop
namespace Rv.C03
open Rv.Teardown

/-- the in-flight batch of the reader (written, possibly executed) is never reported expired -/
theorem inflight_not_expired (w : Why) : inflightRes w ≠ .expired := by
  cases w <;> decide

theorem sent_ne_expired (w : Why) : sentRes w ≠ .expired := by cases w <;> decide

/-- counters agree with the FIFO: `ws` written entries (prefix), `us` unwritten (suffix) -/
def Inv (d : Drain) (ws us : List Entry) : Prop :=
  d.pending = ws ++ us ∧ (∀ e ∈ ws, e.written = true) ∧ (∀ e ∈ us, e.written = false) ∧
  (ws ≠ [] → d.rcnt + ws.length = d.wcnt) ∧ (ws = [] → d.wcnt ≤ d.rcnt)

/-- fetching a written head: it gets the transport-class result, never `expired` -/
theorem fetch_written (d : Drain) (w : Entry) (ws us : List Entry) (h : Inv d (w :: ws) us) :
    ∃ d', d.fetch = some d' ∧ d'.out = d.out ++ [(w.id, sentRes d.why)] ∧ Inv d' ws us ∧ d'.why = d.why := by
  obtain ⟨hp, hw, hu, hc, _⟩ := h
  have hcnt : d.rcnt + (ws.length + 1) = d.wcnt := hc (List.cons_ne_nil _ _)
  refine ⟨{ d with rcnt := d.rcnt + 1, pending := ws ++ us, out := d.out ++ [(w.id, sentRes d.why)] }, ?_, rfl,
    ⟨rfl, fun e he => hw e (List.mem_cons_of_mem _ he), hu, fun _ => ?_, fun he => ?_⟩, rfl⟩
  · have hlt : d.rcnt < d.wcnt := hcnt ▸ Nat.lt_add_of_pos_right (Nat.succ_pos _)
    simp only [Drain.fetch, hp, List.cons_append, hw w List.mem_cons_self, hlt, Bool.not_true, Bool.false_and, Bool.false_eq_true,
      if_false, decide_true, Bool.or_true, if_true]
  · show d.rcnt + 1 + ws.length = d.wcnt
    rw [← hcnt, Nat.add_assoc, Nat.add_comm 1]
  · subst he
    exact Nat.le_of_eq hcnt.symm

/-- fetching an unwritten head (possible only after the writer exited): it gets the latched error -/
theorem fetch_unwritten (d : Drain) (u : Entry) (us : List Entry) (h : Inv d [] (u :: us)) (hc : d.closed = true) :
    ∃ d', d.fetch = some d' ∧ d'.out = d.out ++ [(u.id, latched d.why)] ∧ Inv d' [] us ∧ d'.closed = true ∧
      d'.why = d.why := by
  obtain ⟨hp, _, hu, _, hle⟩ := h
  have hur : u.written = false := hu u (by simp)
  have hge := hle rfl
  refine ⟨{ d with rcnt := d.rcnt + 1, pending := us, out := d.out ++ [(u.id, latched d.why)] }, ?_, rfl, ?_, hc, rfl⟩
  · have hnlt : ¬ d.rcnt < d.wcnt := Nat.not_lt.2 hge
    simp only [Drain.fetch, hp, List.nil_append, hur, hc, hnlt, Bool.not_false, Bool.not_true, Bool.and_false, Bool.false_eq_true, if_false,
      decide_false, Bool.or_false]
  · refine ⟨rfl, by simp, fun e he => hu e (by simp [he]), by simp, ?_⟩
    exact fun _ => Nat.le_succ_of_le hge

/-- an unwritten head is not fetchable before the writer has exited -/
theorem unwritten_waits_for_close (d : Drain) (u : Entry) (us : List Entry) (h : Inv d [] (u :: us))
    (hc : d.closed = false) : d.fetch = none := by
  obtain ⟨hp, _, hu, _, _⟩ := h
  have hur : u.written = false := hu u (by simp)
  unfold Drain.fetch; rw [hp]; simp [hur, hc]

/-- the whole drain: written entries first (any time), then the writer exits, then the unwritten ones -/
def expected (why : Why) (ws us : List Entry) : List (Nat × Res) :=
  ws.map (fun e => (e.id, sentRes why)) ++ us.map (fun e => (e.id, latched why))

private def drainW : Drain → List Entry → Option Drain
  | d, [] => some d
  | d, _ :: ws => match d.fetch with
    | some d' => drainW d' ws
    | none => none

private theorem drainW_ok (d : Drain) (ws us : List Entry) (h : Inv d ws us) :
    ∃ d', drainW d ws = some d' ∧ d'.out = d.out ++ ws.map (fun e => (e.id, sentRes d.why)) ∧ Inv d' [] us ∧
      d'.why = d.why := by
  induction ws generalizing d with
  | nil => exact ⟨d, rfl, by simp, h, rfl⟩
  | cons w ws ih =>
    obtain ⟨d1, hf, ho, hi, hwhy⟩ := fetch_written d w ws us h
    obtain ⟨d2, hd, ho2, hi2, hw2⟩ := ih d1 hi
    refine ⟨d2, by simp [drainW, hf, hd], ?_, hi2, by rw [hw2, hwhy]⟩
    rw [ho2, ho, hwhy]; simp

private def drainU : Drain → List Entry → Option Drain
  | d, [] => some d
  | d, _ :: us => match d.fetch with
    | some d' => drainU d' us
    | none => none

private theorem drainU_ok (d : Drain) (us : List Entry) (h : Inv d [] us) (hc : d.closed = true) :
    ∃ d', drainU d us = some d' ∧ d'.out = d.out ++ us.map (fun e => (e.id, latched d.why)) ∧ d'.pending = [] := by
  induction us generalizing d with
  | nil => exact ⟨d, rfl, by simp, by simpa using h.1⟩
  | cons u us ih =>
    obtain ⟨d1, hf, ho, hi, hc1, hwhy⟩ := fetch_unwritten d u us h hc
    obtain ⟨d2, hd, ho2, hp2⟩ := ih d1 hi hc1
    refine ⟨d2, by simp [drainU, hf, hd], ?_, hp2⟩
    rw [ho2, ho, hwhy]; simp

/-- **C03(a) / C04 drain theorem.** From any teardown state that respects the FIFO (C02), the
    drain loop completes every pending batch exactly once, in queue order; batches that reached
    the writer get the transport-class error, the others the latched error. -/
theorem drain_assigns (d : Drain) (ws us : List Entry) (h : Inv d ws us) (ho : d.out = []) :
    ∃ d1 d2, drainW d ws = some d1 ∧ drainU d1.close us = some d2 ∧
      d2.out = expected d.why ws us ∧ d2.pending = [] := by
  obtain ⟨d1, hd1, ho1, hi1, hw1⟩ := drainW_ok d ws us h
  have hi1' : Inv d1.close [] us := hi1
  obtain ⟨d2, hd2, ho2, hp2⟩ := drainU_ok d1.close us hi1' rfl
  refine ⟨d1, d2, hd1, hd2, ?_, hp2⟩
  rw [ho2]
  show d1.out ++ us.map (fun e => (e.id, latched d1.why)) = expected d.why ws us
  rw [ho1, ho, hw1]; rfl

/-- `errConnExpired` is handed only to batches that never reached the writer -/
theorem expired_only_unwritten (why : Why) (ws us : List Entry)
    (hw : ∀ e ∈ ws, e.written = true) (i : Nat) (h : (i, Res.expired) ∈ expected why ws us) :
    ∃ e ∈ us, e.id = i := by
  unfold expected at h
  simp only [List.mem_append, List.mem_map] at h
  rcases h with ⟨e, _, he⟩ | ⟨e, heu, he⟩
  · injection he with _ h2; exact absurd h2 (sent_ne_expired why)
  · injection he with h1 _; exact ⟨e, heu, h1⟩

/-- every drained batch gets a non-nil error (never a reply) -/
theorem drained_get_errors (why : Why) (ws us : List Entry) :
    ∀ p ∈ expected why ws us, p.2 ≠ .reply := by
  intro p hp
  unfold expected at hp
  simp only [List.mem_append, List.mem_map] at hp
  rcases hp with ⟨e, _, he⟩ | ⟨e, _, he⟩ <;> subst he <;> cases why <;> simp [sentRes, latched]

/-- the pipe contract established by (a): a batch that reached a writer never comes back `expired` -/
def Sound : List Attempt → Prop
  | [] => True
  | .handed r :: rest => r ≠ .expired ∧ Sound rest
  | .refused _ :: rest => Sound rest

/-- a loop that goes round again only on `expired` hands a batch to a writer at most once: by `Sound`
    a batch that reached a writer does not come back `expired` -/
theorem handed_once (cfg : LoopCfg) (h : ∀ r, r ≠ .expired → again cfg r = false) (as : List Attempt)
    (hs : Sound as) : handedCount cfg as ≤ 1 := by
  induction as with
  | nil => exact Nat.zero_le 1
  | cons a rest ih =>
    cases a with
    | handed r => simp [handedCount, h r hs.1]
    | refused r =>
      simp only [handedCount]
      split
      · exact ih hs
      · exact Nat.zero_le 1

/-- **C03(b).** A batch that is not retryable (neither read-only nor marked retryable) reaches a
    writer at most once per call, whatever the sequence of connection drops, expiries and refusals. -/
theorem at_most_once (cfg : LoopCfg) (hnr : cfg.retryable = false) (as : List Attempt) (hs : Sound as) :
    handedCount cfg as ≤ 1 :=
  handed_once cfg (fun r hne => by cases r <;> simp [again, hnr] at hne ⊢) as hs

/-- with DisableRetry (or a refusing policy) even retryable batches are re-sent only while unwritten -/
theorem retry_off_at_most_once (cfg : LoopCfg) (hoff : cfg.retryOn = false) (as : List Attempt) (hs : Sound as) :
    handedCount cfg as ≤ 1 :=
  handed_once cfg (fun r hne => by cases r <;> simp [again, hoff] at hne ⊢) as hs

/-- the unrepaired pipe (in-flight and drained written batches reported `expired`) breaks the bound:
    the defect repaired by the `fix:` commit, kept as a witness -/
theorem unsound_pipe_executes_twice :
    handedCount ⟨false, true⟩ [.handed .expired, .handed .reply] = 2 := by decide

/-! ### the model is the code: facts re-extracted from pipe.go / client.go on every run -/

/-- the deferred handler of `_backgroundRead` does not hand out errConnExpired; the writer and the
    reader count batches; the drain loop picks `sent` for every batch below the writer's count and
    substitutes the read error for errConnExpired there — the shape `Drain.fetch` transcribes -/
theorem teardown_model_pinned :
    Rv.Gen.PipeShape.readDeferMentionsExpired = false ∧ Rv.Gen.PipeShape.readerCountsFetches = true ∧
    Rv.Gen.PipeShape.writerCountsBatches = true ∧ Rv.Gen.PipeShape.drainSentGuard = true ∧
    Rv.Gen.PipeShape.drainChoosesByCounters = true := by decide

/-- the single client's loops re-send only on errConnExpired or under `c.retry && retryable &&
    isRetryable && WaitOrSkipRetry` — the conditions `again` transcribes -/
theorem client_loop_pinned :
    Rv.Gen.PipeShape.retry_Do =
      ["err := resp.Error(); err != nil && err == errConnExpired",
       "err := resp.Error(); err != nil && c.retry && cmd.IsRetryable() && c.isRetryable(err, ctx) && c.retryHandler.WaitOrSkipRetry(ctx, attempts, cmd, err)"] ∧
    Rv.Gen.PipeShape.retry_DoMulti = ["c.retry && allRetryable(multi) && c.isRetryable(resp.Error(), ctx) && shouldRetry"] ∧
    Rv.Gen.PipeShape.retry_Receive =
      ["err == errConnExpired", "c.retry && _, ok := err.(*RedisError); !ok && c.isRetryable(err, ctx) && shouldRetry"] := by
  refine ⟨rfl, rfl, rfl⟩

/-! ### the writer: a batch is `written` (below `wcnt`) as soon as any of its bytes may be on the wire -/

open Rv.WriterLoop in
private abbrev WInv (pre : List Batch) (w : W) : Prop :=
  Covered pre w ∧ w.wcnt ≤ pre.length ∧ (w.err = false → w.wcnt = pre.length)

open Rv.WriterLoop in
private theorem winv_step (pre : List Batch) (w : W) (b : Batch) (h : WInv pre w) :
    WInv (pre ++ [b]) (writeBatch true w b) := by
  obtain ⟨hc, hle, heq⟩ := h
  have old : ∀ x ∈ w.wire, ∃ i, i < w.wcnt ∧ ∃ b', (pre ++ [b])[i]? = some b' ∧ x ∈ b'.1 := fun x hx =>
    let ⟨i, hi, b', hb', hm⟩ := hc x hx
    ⟨i, hi, b', by rw [List.getElem?_append_left (Nat.lt_of_lt_of_le hi hle)]; exact hb', hm⟩
  unfold WInv writeBatch
  rw [List.length_append, List.length_singleton]
  cases he : w.err with
  | true => rw [if_pos rfl]; exact ⟨old, Nat.le_succ_of_le hle, fun h => by rw [he] at h; cases h⟩
  | false =>
    have hw := heq he
    simp only [Bool.false_eq_true, if_false, Bool.true_or, if_true]
    refine ⟨fun x hx => ?_, Nat.le_of_eq (congrArg (· + 1) hw), fun _ => congrArg (· + 1) hw⟩
    rcases List.mem_append.mp hx with hx | hx
    · obtain ⟨i, hi, h'⟩ := old x hx
      exact ⟨i, Nat.lt_succ_of_lt hi, h'⟩
    · exact ⟨pre.length, hw ▸ Nat.lt_succ_self _, b, by simp, List.mem_of_mem_take hx⟩

open Rv.WriterLoop in
private theorem winv_fold (bs pre : List Batch) (w : W) (h : WInv pre w) :
    WInv (pre ++ bs) (bs.foldl (writeBatch true) w) := by
  induction bs generalizing pre w with
  | nil => simpa using h
  | cons b bs ih =>
    have := ih (pre ++ [b]) (writeBatch true w b) (winv_step pre w b h)
    simpa [List.append_assoc] using this

/-- for every sequence of batches and every point at which the connection fails, whatever reached the wire belongs to a
    batch the writer has counted: the teardown (`rcnt < wcnt ⇒ sent`, never `expired`) therefore never lets a possibly
    executed command be re-sent transparently. Holds because the counter is incremented before the write loop. -/
theorem written_covers_wire (bs : List Rv.WriterLoop.Batch) :
    Rv.WriterLoop.Covered bs (Rv.WriterLoop.run true bs) := by
  have := winv_fold bs [] Rv.WriterLoop.init ⟨by intro x hx; simp [Rv.WriterLoop.init] at hx, by simp [Rv.WriterLoop.init], by intro _; rfl⟩
  simpa [Rv.WriterLoop.run] using this.1

/-- counting only after an error-free write loses that: two commands of an uncounted batch are on the wire -/
theorem count_after_write_uncovered :
    (Rv.WriterLoop.run false [([1, 2, 3], 2)]).wire = [1, 2] ∧ (Rv.WriterLoop.run false [([1, 2, 3], 2)]).wcnt = 0 := by
  decide

/-- the code counts before writing (regenerated from `_backgroundWrite` on every run) -/
theorem writer_counts_before_write_pinned : Rv.Gen.PipeShape.writerCountsBeforeWrite = true := by decide

example : (Rv.WriterLoop.run true [([1, 2], 9), ([3, 4, 5], 1), ([6], 9)]) = ⟨2, [1, 2, 3], true⟩ := by decide

private def exD : Drain :=
  { why := Why.expired, rcnt := 3, wcnt := 5, closed := false, pending := [⟨1, true⟩, ⟨2, true⟩, ⟨3, false⟩], out := [] }
example : Inv exD [⟨1, true⟩, ⟨2, true⟩] [⟨3, false⟩] := by
  refine ⟨rfl, by simp, by simp, fun _ => rfl, by simp⟩
example : expected .expired [⟨1, true⟩, ⟨2, true⟩] [⟨3, false⟩] = [(1, .transport), (2, .transport), (3, .expired)] := by decide
example : Sound [.refused .expired, .handed .transport] := by simp [Sound]

end Rv.C03
