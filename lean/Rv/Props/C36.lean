/-
C36 — counting Bloom filters track multiplicities without false negatives.
Chain to the source: as C35 (script texts regenerated and pinned; hand transcription
`Rv.CBloom`; `cbloom` correspondence suite through the fake server).
-/
import Rv.Gen.LuaScripts
import Rv.Model.CountingBloom
import Rv.Lemmas.GroupLoop
import Rv.Props.C35

namespace Rv.C36
open Rv.CBloom Rv.GroupLoop
open Rv.Bloom (Cfg itemIdx allIdx)

theorem cbf_add_script_pinned : Rv.Gen.rueidisprob_countingBloomFilterAddMultiScript =
  "\nlocal itemCount = tonumber(ARGV[1])\nlocal numElements = tonumber(#ARGV) - 1\nlocal filterKey = KEYS[1]\nlocal counterKey = KEYS[2]\n\nfor i=2, numElements+1 do\n    redis.call('HINCRBY', filterKey, ARGV[i], 1)\nend\n\nreturn redis.call('INCRBY', counterKey, itemCount)\n" := rfl

theorem cbf_remove_script_pinned : Rv.Gen.rueidisprob_countingBloomFilterRemoveMultiScript =
  "\nlocal function MergeTables(t1, t2)\n\tfor i=1, #t2 do\n\t\ttable.insert(t1, t2[i])\n\tend\n\n\treturn t1\nend\n\nlocal numElements = tonumber(#ARGV) - 1\nlocal hashIterations = tonumber(ARGV[#ARGV])\nlocal filterKey = KEYS[1]\nlocal counterKey = KEYS[2]\n\nlocal indexCounter = {}\nfor i=1, numElements do\n\tlocal index = ARGV[i]\n\tlocal count = redis.call('HGET', filterKey, index)\n\n\tif (not indexCounter[index]) then\n\t\tif (not count) then\n\t\t\tindexCounter[index] = 0\n\t\telse\n\t\t\tindexCounter[index] = tonumber(count)\n\t\tend\n\tend\nend\n\nlocal decreaseIndexes = {}\nlocal deleteItemCount = 0\nfor i=1, numElements, hashIterations do\n\tlocal isAbleToRemove = true\n\tlocal temp = {}\n\tlocal rollbackIndex = i\n\n\tfor j=i, i+hashIterations-1 do\n\t\tlocal index = ARGV[j]\n\n\t\ttable.insert(temp, index)\n\t\tindexCounter[index] = indexCounter[index] - 1\n\t\t\n\t\tif indexCounter[index] < 0 then\n\t\t\tisAbleToRemove = false\n\t\t\trollbackIndex = j\n\t\t\tbreak\n\t\tend\n\tend\n\n\tif isAbleToRemove then\n\t\tdecreaseIndexes = MergeTables(decreaseIndexes, temp)\n\t\tdeleteItemCount = deleteItemCount + 1\n\telse\n\t\tfor j=i, rollbackIndex do\n\t\t\tlocal index = ARGV[j]\n\t\t\t\n\t\t\tindexCounter[index] = indexCounter[index] + 1\n\t\tend\n\tend\nend\n\nfor i=1, #decreaseIndexes do\n    redis.call('HINCRBY', filterKey, decreaseIndexes[i], -1)\nend\n\nreturn redis.call('DECRBY', counterKey, deleteItemCount)\n" := rfl

theorem cbf_delete_script_pinned : Rv.Gen.rueidisprob_countingBloomFilterDeleteScript =
  "\nlocal filterKey = KEYS[1]\nlocal counterKey = KEYS[2]\n\nredis.call('DEL', filterKey)\nredis.call('DEL', counterKey)\n\nreturn 1\n" := rfl

private theorem upd_apply (ic : IC) (x : Nat) (v : Int) (j : Nat) :
    upd ic x v j = if j = x then v else ic j := rfl

private theorem count_cons_int (x j : Nat) (xs : List Nat) :
    (((x :: xs).count j : Nat) : Int) = (xs.count j : Nat) + (if j = x then 1 else 0) := by
  rw [List.count_cons]
  by_cases h : j = x
  · simp [h]
  · simp [h, Ne.symm h]

private theorem upd_sub_count (ic : IC) (x : Nat) (t : List Nat) (j : Nat) :
    upd ic x (ic x - 1) j - ((t.count j : Nat) : Int) = ic j - (((x :: t).count j : Nat) : Int) := by
  rw [upd_apply, count_cons_int]
  by_cases hj : j = x
  · rw [if_pos hj, if_pos hj, hj]; omega
  · rw [if_neg hj, if_neg hj, Int.add_zero]

/-- the inner loop in one statement: it subtracts along the indexes it touched, a successful run touched
the whole group, and it succeeds exactly when no counter would be driven negative -/
theorem decGroup_spec (g : List Nat) : ∀ ic : IC,
    (∀ j, (decGroup ic g).1 j = ic j - ((decGroup ic g).2.1.count j : Nat)) ∧
    ((decGroup ic g).2.2 = true → (decGroup ic g).2.1 = g) ∧
    ((decGroup ic g).2.2 = true ↔ ∀ j ∈ g, ((g.count j : Nat) : Int) ≤ ic j) := by
  induction g with
  | nil => exact fun ic => ⟨fun j => (Int.sub_zero _).symm, fun _ => rfl, iff_of_true rfl nofun⟩
  | cons x xs ih =>
    intro ic
    obtain ⟨ha, ht, hi⟩ := ih (upd ic x (ic x - 1))
    have hsub := upd_sub_count ic x
    -- the head needs a positive counter, the tail the table left after the head's decrement
    have hcons : (∀ j ∈ x :: xs, (((x :: xs).count j : Nat) : Int) ≤ ic j) ↔
        ¬ upd ic x (ic x - 1) x < 0 ∧ ∀ j ∈ xs, ((xs.count j : Nat) : Int) ≤ upd ic x (ic x - 1) j := by
      have key : ∀ j, (((x :: xs).count j : Nat) : Int) ≤ ic j ↔ ((xs.count j : Nat) : Int) ≤ upd ic x (ic x - 1) j :=
        fun j => by have := hsub xs j; omega
      simp only [List.forall_mem_cons, key]
      refine and_congr_left fun h => ⟨fun hx => by omega, fun hx => ?_⟩
      by_cases hm : x ∈ xs
      · exact h x hm
      · rw [List.count_eq_zero.2 hm]
        omega
    rw [hcons, decGroup]
    split
    next hneg =>
      exact ⟨fun j => (Int.sub_zero _).symm.trans (hsub [] j), nofun, iff_of_false nofun fun h => h.1 hneg⟩
    next hneg =>
      exact ⟨fun j => (ha j).trans (hsub _ j), fun h => congrArg (x :: ·) (ht h),
        hi.trans (and_iff_right hneg).symm⟩

theorem decGroup_apply : ∀ (g : List Nat) (ic : IC) (j : Nat),
    (decGroup ic g).1 j = ic j - ((decGroup ic g).2.1.count j : Nat) :=
  fun g ic => (decGroup_spec g ic).1

theorem decGroup_ok_temp : ∀ (g : List Nat) (ic : IC), (decGroup ic g).2.2 = true → (decGroup ic g).2.1 = g :=
  fun g ic => (decGroup_spec g ic).2.1

theorem decGroup_ok_iff : ∀ (g : List Nat) (ic : IC),
    (decGroup ic g).2.2 = true ↔ ∀ j ∈ g, ((g.count j : Nat) : Int) ≤ ic j :=
  fun g ic => (decGroup_spec g ic).2.2

theorem rollback_apply : ∀ (l : List Nat) (ic : IC) (j : Nat),
    rollback ic l j = ic j + (l.count j : Nat) := by
  intro l
  induction l with
  | nil => exact fun ic j => (Int.add_zero _).symm
  | cons x xs ih =>
    intro ic j
    rw [rollback, ih, upd_apply, count_cons_int]
    by_cases hj : j = x
    · rw [if_pos hj, if_pos hj, hj, Int.add_assoc, Int.add_comm 1]
    · rw [if_neg hj, if_neg hj, Int.add_zero]

/-- the script's rollback loop restores the local table exactly -/
theorem rollback_restores (ic : IC) (g : List Nat) :
    rollback (decGroup ic g).1 (decGroup ic g).2.1 = ic := by
  funext j
  rw [rollback_apply, decGroup_apply]
  omega

/-- `remove_rollback_noop` (group level): an item whose removal would drive one of its counters
negative leaves the script's whole working state — local table, collected decrements, number of
deleted items — unchanged. -/
theorem groupStep_fail_noop (r : RS) (g : List Nat) (h : (decGroup r.ic g).2.2 = false) :
    groupStep r g = r := by
  rw [groupStep, h, if_neg Bool.false_ne_true, rollback_restores]

/-- one outer iteration never leaves a negative entry in the local table -/
theorem groupStep_nonneg (r : RS) (g : List Nat) (h : ∀ j, 0 ≤ r.ic j) : ∀ j, 0 ≤ (groupStep r g).ic j := by
  intro j
  unfold groupStep
  split
  next hok =>
    show 0 ≤ (decGroup r.ic g).1 j
    rw [decGroup_apply, decGroup_ok_temp g r.ic hok]
    by_cases hj : j ∈ g
    · have := (decGroup_ok_iff g r.ic).1 hok j hj
      omega
    · rw [List.count_eq_zero.2 hj]
      exact Int.sub_zero _ ▸ h j
  · exact (rollback_restores r.ic g).symm ▸ h j

/-- link between the local table, the hash and the collected decrements -/
def Lnk (h : Ctrs) (r : RS) : Prop := ∀ j, r.ic j = val h j - ((r.dec.count j : Nat) : Int)

private theorem groupStep_lnk (h : Ctrs) (r : RS) (g : List Nat) (hl : Lnk h r) : Lnk h (groupStep r g) := by
  unfold groupStep
  split
  · intro j
    simp only [List.count_append]
    rw [decGroup_apply, hl j]
    omega
  · intro j
    simp only [rollback_restores]
    exact hl j

private theorem val_hincr (h : Ctrs) (x : Nat) (d : Int) (j : Nat) :
    val (hincr h x d) j = if j = x then val h x + d else val h j := by
  simp only [val, hincr]
  split <;> simp

private theorem val_foldl_hincr (d : Int) : ∀ (l : List Nat) (h : Ctrs) (j : Nat),
    val (l.foldl (fun h i => hincr h i d) h) j = val h j + d * ((l.count j : Nat) : Int)
  | [], h, j => by rw [List.foldl_nil, List.count_nil, Int.natCast_zero, Int.mul_zero, Int.add_zero]
  | x :: xs, h, j => by
    rw [List.foldl_cons, val_foldl_hincr d xs, val_hincr, count_cons_int, Int.mul_add]
    by_cases hj : j = x
    · rw [if_pos hj, if_pos hj, hj, Int.mul_one, Int.add_assoc, Int.add_comm d]
    · rw [if_neg hj, if_neg hj, Int.mul_zero, Int.add_zero]

/-- after the remove script every counter of the hash equals the script's local table -/
theorem removeScript_val (k : Nat) (idxs : List Nat) (s s' : St) (c : Int)
    (h : removeScript k idxs s = some (s', c)) :
    ∀ j, val s'.h j = (removePhase2 (chunks k idxs) s.h).ic j := by
  unfold removeScript at h
  split at h
  · contradiction
  · injection h with h
    injection h with hs _
    subst hs
    intro j
    have hl : Lnk s.h (removePhase2 (chunks k idxs) s.h) :=
      foldl_preserves (Lnk s.h) groupStep _ _ (fun r g _ => groupStep_lnk s.h r g) fun j => by simp
    rw [val_foldl_hincr, hl j]
    omega

def NonNeg (s : St) : Prop := ∀ j, 0 ≤ val s.h j

theorem addScript_nonneg (n : Int) (idxs : List Nat) (s : St) (h : NonNeg s) : NonNeg (addScript n idxs s).1 := by
  intro j
  simp only [addScript, val_foldl_hincr]
  have := h j
  omega

theorem removeScript_nonneg (k : Nat) (idxs : List Nat) (s s' : St) (c : Int) (h : NonNeg s)
    (hr : removeScript k idxs s = some (s', c)) : NonNeg s' := by
  intro j
  rw [removeScript_val k idxs s s' c hr j]
  exact foldl_preserves (fun r : RS => ∀ j, 0 ≤ r.ic j) groupStep (chunks k idxs) ⟨val s.h, [], 0⟩ (fun r g _ => groupStep_nonneg r g) h j

/-- script-level operations with arbitrary arguments (not only what the glue sends) -/
inductive SOp where
  | add (n : Int) (idxs : List Nat)
  | remove (k : Nat) (idxs : List Nat)
  | delete

def applyS (s : St) : SOp → St
  | .add n idxs => (addScript n idxs s).1
  | .remove k idxs => match removeScript k idxs s with | some r => r.1 | none => s
  | .delete => deleteScript s

/-- `no_negative_counter`: whatever is added or removed — including items that were never added,
repeated or colliding indexes — no counter of the filter ever becomes negative. -/
theorem no_negative_counter : ∀ (ops : List SOp) (s : St), NonNeg s → NonNeg (ops.foldl applyS s) := by
  refine fun ops s => foldl_preserves NonNeg applyS ops s fun s op _ h => ?_
  cases op with
  | add n idxs => exact addScript_nonneg n idxs s h
  | remove k idxs =>
    simp only [applyS]
    cases hr : removeScript k idxs s with
    | none => exact h
    | some r => exact removeScript_nonneg k idxs s r.1 r.2 h hr
  | delete => intro j; simp [applyS, deleteScript, St.init, val]

example : NonNeg St.init := by intro j; simp [St.init, val]

private theorem flatten_length (k : Nat) : ∀ (gs : List (List Nat)), (∀ g ∈ gs, g.length = k) →
    gs.flatten.length = gs.length * k
  | [], _ => (Nat.zero_mul k).symm
  | g :: gs, h => by
    rw [List.flatten_cons, List.length_append, h g List.mem_cons_self,
      flatten_length k gs fun g' h' => h g' (List.mem_cons_of_mem _ h'), List.length_cons, Nat.succ_mul, Nat.add_comm]

private theorem chunksAux_flatten (k : Nat) (hk : 1 ≤ k) : ∀ (gs : List (List Nat)) (fuel : Nat),
    (∀ g ∈ gs, g.length = k) → gs.length ≤ fuel → chunksAux k fuel gs.flatten = gs
  | [], fuel, _, _ => by cases fuel <;> rfl
  | g :: gs, 0, _, hf => absurd hf (Nat.not_succ_le_zero _)
  | g :: gs, f + 1, h, hf => by
    have hg := h g List.mem_cons_self
    have hemp : (g ++ gs.flatten).isEmpty = false :=
      List.isEmpty_eq_false_iff.2 (List.append_ne_nil_of_left_ne_nil (List.ne_nil_of_length_pos (hg ▸ hk)) _)
    rw [List.flatten_cons, chunksAux, hemp, if_neg Bool.false_ne_true, List.take_left' hg, List.drop_left' hg,
      chunksAux_flatten k hk gs f (fun g' h' => h g' (List.mem_cons_of_mem _ h')) (Nat.le_of_succ_le_succ hf)]

/-- `chunks` recovers the per-item index groups from the flat argument list -/
theorem chunks_flatten (k : Nat) (hk : 1 ≤ k) (gs : List (List Nat)) (h : ∀ g ∈ gs, g.length = k) :
    chunks k gs.flatten = gs :=
  chunksAux_flatten k hk gs _ h (flatten_length k gs h ▸ Nat.le_mul_of_pos_right _ hk)

/-- on the glue's domain the remove script is phase 2 over the per-item groups followed by phase 3 -/
theorem removeScript_groups (k : Nat) (hk : 1 ≤ k) (gs : List (List Nat)) (h : ∀ g ∈ gs, g.length = k) (s : St) :
    removeScript k gs.flatten s =
      some ({ h := (removePhase2 gs s.h).dec.foldl (fun h i => hincr h i (-1)) s.h,
              counter := some (s.counter.getD 0 - (removePhase2 gs s.h).del) },
            s.counter.getD 0 - (removePhase2 gs s.h).del) := by
  have h0 : ¬ (k = 0 ∨ gs.flatten.length % k ≠ 0) := by
    rw [flatten_length k gs h, Nat.mul_mod_left]; omega
  simp only [removeScript, h0, if_false, chunks_flatten k hk gs h]

/-- `remove_rollback_noop`: removing one item (its `k` indexes `g`) whose removal would drive one of
its counters negative — some index occurs in `g` more often than its current count — changes
nothing: the hash is untouched and the item counter keeps its value. -/
theorem remove_rollback_noop (k : Nat) (hk : 1 ≤ k) (g : List Nat) (hg : g.length = k) (s : St)
    (hneg : ∃ j ∈ g, val s.h j < ((g.count j : Nat) : Int)) :
    ∃ s' c, removeScript k g s = some (s', c) ∧ s'.h = s.h ∧ s'.counter.getD 0 = s.counter.getD 0 := by
  have hfail : (decGroup (val s.h) g).2.2 = false := Bool.eq_false_iff.2 fun hc => by
    obtain ⟨j, hj, hlt⟩ := hneg
    have := (decGroup_ok_iff g (val s.h)).mp hc j hj
    omega
  have hp : removePhase2 [g] s.h = { ic := val s.h, dec := [], del := 0 } := by
    simp only [removePhase2, List.foldl_cons, List.foldl_nil]
    exact groupStep_fail_noop _ g hfail
  have := removeScript_groups k hk [g] (by simp [hg]) s
  simp only [List.flatten_cons, List.flatten_nil, List.append_nil, hp] at this
  exact ⟨_, _, this, by simp, by simp⟩

/-- how many decrements of index `j` the items currently in the filter (`live`, with
multiplicity) are entitled to -/
def need (live : List (List Nat)) (j : Nat) : Int := (((live.map (fun g => g.count j)).sum : Nat) : Int)

/-- every counter covers the live items -/
def Cover (h : Ctrs) (live : List (List Nat)) : Prop := ∀ j, need live j ≤ val h j

private theorem need_nonneg (live : List (List Nat)) (j : Nat) : 0 ≤ need live j := by
  unfold need; omega

private theorem need_cons (g : List Nat) (live : List (List Nat)) (j : Nat) :
    need (g :: live) j = ((g.count j : Nat) : Int) + need live j := by
  simp [need]

private theorem need_append (gs live : List (List Nat)) (j : Nat) :
    need (gs ++ live) j = ((gs.flatten.count j : Nat) : Int) + need live j := by
  induction gs with
  | nil => simp [need]
  | cons g gs ih =>
    rw [List.cons_append, need_cons, ih]
    simp only [List.flatten_cons, List.count_append]
    omega

private theorem need_erase (g : List Nat) : ∀ (live : List (List Nat)) (j : Nat), g ∈ live →
    need live j = ((g.count j : Nat) : Int) + need (live.erase g) j := by
  intro live
  induction live with
  | nil => intro j h; simp at h
  | cons a l ih =>
    intro j h
    by_cases ha : a = g
    · subst ha; simp [need_cons]
    · rw [List.erase_cons_tail (by simpa using ha), need_cons, need_cons,
        ih j ((List.mem_cons.1 h).resolve_left (Ne.symm ha))]
      omega

private theorem count_le_need (g : List Nat) (j : Nat) (hj : j ∈ g) (live : List (List Nat)) :
    ((live.count g : Nat) : Int) ≤ need live j := by
  refine Int.ofNat_le.2 ?_
  induction live with
  | nil => exact Nat.le_refl 0
  | cons a l ih =>
    rw [List.count_cons, List.map_cons, List.sum_cons, Nat.add_comm]
    refine Nat.add_le_add ?_ ih
    split
    next h => exact beq_iff_eq.1 h ▸ List.count_pos_iff.2 hj
    next => exact Nat.zero_le _

/-- "only previously added items are removed": each group, at its turn, is still live -/
def Removable : List (List Nat) → List (List Nat) → Prop
  | _, [] => True
  | live, g :: gs => g ∈ live ∧ Removable (live.erase g) gs

def eraseAll : List (List Nat) → List (List Nat) → List (List Nat)
  | live, [] => live
  | live, g :: gs => eraseAll (live.erase g) gs

private theorem phase2_cover : ∀ (gs : List (List Nat)) (r : RS) (live : List (List Nat)),
    (∀ j, need live j ≤ r.ic j) → Removable live gs →
    ∀ j, need (eraseAll live gs) j ≤ (gs.foldl groupStep r).ic j := by
  intro gs
  induction gs with
  | nil => intro r live h _; exact h
  | cons g gs ih =>
    intro r live h hr
    obtain ⟨hmem, hrest⟩ := hr
    simp only [List.foldl_cons, eraseAll]
    apply ih _ _ _ hrest
    -- `g` is live, so its own occurrences are within what the table covers
    have key : ∀ j, ((g.count j : Nat) : Int) + need (live.erase g) j ≤ r.ic j :=
      fun j => need_erase g live j hmem ▸ h j
    have hok : (decGroup r.ic g).2.2 = true :=
      (decGroup_ok_iff g r.ic).2 fun j _ => by have := key j; have := need_nonneg (live.erase g) j; omega
    intro j
    simp only [groupStep, hok, if_true]
    rw [decGroup_apply, decGroup_ok_temp g r.ic hok]
    have := key j
    omega

/-- adding items keeps every counter covering the live items -/
theorem add_cover (n : Int) (gs live : List (List Nat)) (s : St) (h : Cover s.h live) :
    Cover (addScript n gs.flatten s).1.h (gs ++ live) := by
  intro j
  simp only [addScript, val_foldl_hincr]
  rw [need_append]
  have := h j
  omega

/-- removing items that are live at their turn keeps every counter covering what remains -/
theorem remove_cover (k : Nat) (hk : 1 ≤ k) (gs live : List (List Nat)) (hlen : ∀ g ∈ gs, g.length = k)
    (s s' : St) (c : Int) (h : Cover s.h live) (hr : Removable live gs)
    (hs : removeScript k gs.flatten s = some (s', c)) : Cover s'.h (eraseAll live gs) := by
  intro j
  rw [removeScript_val k gs.flatten s s' c hs j, chunks_flatten k hk gs hlen]
  exact phase2_cover gs _ live (fun j => h j) hr j

inductive GOp where
  | add (keys : List (Nat × Nat))
  | remove (keys : List (Nat × Nat))

def groupsOf (c : Cfg) (keys : List (Nat × Nat)) : List (List Nat) := keys.map (itemIdx c.m c.k)

def applyG (c : Cfg) (s : St) : GOp → St
  | .add keys => addMulti c keys s
  | .remove keys => match removeMulti c keys s with | some s' => s' | none => s

/-- the multiset of items in the filter after an operation -/
def ghost (c : Cfg) (live : List (List Nat)) : GOp → List (List Nat)
  | .add keys => groupsOf c keys ++ live
  | .remove keys => eraseAll live (groupsOf c keys)

/-- the history only removes items that are in the filter at that moment -/
def ValidOps (c : Cfg) : List (List Nat) → List GOp → Prop
  | _, [] => True
  | live, op :: ops =>
    (match op with
      | .remove keys => Removable live (groupsOf c keys)
      | .add _ => True) ∧ ValidOps c (ghost c live op) ops

def runG (c : Cfg) (s : St) (ops : List GOp) : St := ops.foldl (applyG c) s
def ghostRun (c : Cfg) (live : List (List Nat)) (ops : List GOp) : List (List Nat) := ops.foldl (ghost c) live

private theorem groupsOf_len (c : Cfg) (keys : List (Nat × Nat)) : ∀ g ∈ groupsOf c keys, g.length = c.k :=
  Rv.C35.groups_length c.m c.k keys

private theorem applyG_cover (c : Cfg) (hk : 1 ≤ c.k) (s : St) (live : List (List Nat)) (op : GOp)
    (h : Cover s.h live)
    (hv : match op with | .remove keys => Removable live (groupsOf c keys) | .add _ => True) :
    Cover (applyG c s op).h (ghost c live op) := by
  cases op with
  | add keys =>
    by_cases hemp : keys.isEmpty
    · obtain rfl := List.isEmpty_iff.1 hemp
      simpa [applyG, addMulti, ghost, groupsOf] using h
    · simp only [applyG, addMulti, hemp, ghost]
      exact add_cover _ (groupsOf c keys) live s h
  | remove keys =>
    by_cases hemp : keys.isEmpty
    · obtain rfl := List.isEmpty_iff.1 hemp
      simpa [applyG, removeMulti, ghost, groupsOf, eraseAll] using h
    · have hs := removeScript_groups c.k hk (groupsOf c keys) (groupsOf_len c keys) s
      simp only [applyG, removeMulti, hemp, ghost, allIdx]
      have hs' : removeScript c.k (List.map (itemIdx c.m c.k) keys).flatten s = _ := hs
      rw [hs']
      simp only [Option.map_some]
      exact remove_cover c.k hk (groupsOf c keys) live (groupsOf_len c keys) s _ _ h hv hs

/-- through every history that only removes items present at that moment, every counter keeps
covering the items currently in the filter -/
theorem cover_run (c : Cfg) (hk : 1 ≤ c.k) : ∀ (ops : List GOp) (s : St) (live : List (List Nat)),
    Cover s.h live → ValidOps c live ops → Cover (runG c s ops).h (ghostRun c live ops) := by
  intro ops
  induction ops with
  | nil => intro s live h _; exact h
  | cons op ops ih =>
    intro s live h hv
    simp only [runG, ghostRun, List.foldl_cons]
    exact ih _ _ (applyG_cover c hk s live op h hv.1) hv.2

private theorem cover_nonneg (h : Ctrs) (live : List (List Nat)) (hc : Cover h live) (idxs : List Nat) :
    negative h idxs = false := by
  unfold negative
  rw [List.any_eq_false]
  intro x _
  have := hc x
  have := need_nonneg live x
  simp; omega

private theorem cover_count {h : Ctrs} {live : List (List Nat)} (hc : Cover h live) {g : List Nat} {j : Nat}
    (hj : j ∈ g) : ((live.count g : Nat) : Int) ≤ val h j :=
  Int.le_trans (count_le_need g j hj live) (hc j)

private theorem single_nonempty (c : Cfg) (hk : 1 ≤ c.k) (key : Nat × Nat) :
    (allIdx c.m c.k [key]).isEmpty = false := by
  obtain ⟨x, hx⟩ := List.exists_mem_of_length_pos (Rv.C35.itemIdx_length c.m c.k key ▸ hk)
  exact List.isEmpty_eq_false_iff.2 (List.ne_nil_of_mem (List.mem_flatten.2 ⟨_, List.mem_cons_self, hx⟩))

/-- `min_count_ge_net` (state form): if every counter covers the items currently in the filter, then
`ItemMinCount key` succeeds and reports at least the number of copies of `key`'s index group among
them (its net multiplicity; bounded by uint64). -/
theorem min_count_ge_net (c : Cfg) (hk : 1 ≤ c.k) (s : St) (live : List (List Nat)) (hc : Cover s.h live)
    (key : Nat × Nat) (h64 : live.count (itemIdx c.m c.k key) ≤ maxU64) :
    ∃ v, itemMinCountMulti c [key] s = .ok [v] ∧ live.count (itemIdx c.m c.k key) ≤ v := by
  have hloop := gloop_read c.k hk s.h (fun (acc : Nat) (v : Option Int) => min acc (v.getD 0).toNat) maxU64
    (fun a => a) [itemIdx c.m c.k key] (Rv.C35.groups_length c.m c.k [key])
  refine ⟨_, ?_, foldl_preserves (live.count (itemIdx c.m c.k key) ≤ ·) (fun a x => min a (val s.h x).toNat)
    (itemIdx c.m c.k key) _ (fun a x hx ha => Nat.le_min.2 ⟨ha, ?_⟩) h64⟩
  · simp only [itemMinCountMulti, List.isEmpty_cons, Bool.false_eq_true, if_false, single_nonempty c hk key,
      cover_nonneg s.h live hc]
    exact congrArg Out.ok hloop
  · have := cover_count hc hx
    omega

/-- `present_if_net_positive` (state form): an item with at least one copy in the filter is
reported present -/
theorem present_if_net_positive (c : Cfg) (hk : 1 ≤ c.k) (s : St) (live : List (List Nat)) (hc : Cover s.h live)
    (key : Nat × Nat) (hpos : 1 ≤ live.count (itemIdx c.m c.k key)) :
    existsMulti c [key] s = .ok [true] := by
  have hloop := gloop_read c.k hk s.h (fun (acc : Bool) (v : Option Int) => acc && (v.getD 0 != 0)) true
    (fun a => a) [itemIdx c.m c.k key] (Rv.C35.groups_length c.m c.k [key])
  have hall : (itemIdx c.m c.k key).foldl (fun a x => a && (val s.h x != 0)) true = true := by
    refine foldl_preserves (· = true) _ _ _ (fun a x hx ha => ?_) rfl
    have := cover_count hc hx
    have : val s.h x ≠ 0 := by omega
    simpa [ha] using this
  simp only [existsMulti, List.isEmpty_cons, Bool.false_eq_true, if_false, single_nonempty c hk key,
    cover_nonneg s.h live hc]
  exact congrArg Out.ok (hloop.trans (congrArg (fun b => [b]) hall))

/-- `min_count_ge_net` / `present_if_net_positive` for whole histories: start from any state without
negative counters, run any history of `Add/AddMulti/Remove/RemoveMulti` that only removes items
present at that moment (sequentially within a multi-call). Then `ItemMinCount key` is at least the
net multiplicity of `key` (adds minus removes of items with `key`'s index group), and `Exists key`
is true when that multiplicity is positive. -/
theorem history_counts (c : Cfg) (hk : 1 ≤ c.k) (s0 : St) (h0 : NonNeg s0) (ops : List GOp)
    (hv : ValidOps c [] ops) (key : Nat × Nat)
    (h64 : (ghostRun c [] ops).count (itemIdx c.m c.k key) ≤ maxU64) :
    (∃ v, itemMinCountMulti c [key] (runG c s0 ops) = .ok [v] ∧
      (ghostRun c [] ops).count (itemIdx c.m c.k key) ≤ v) ∧
    (1 ≤ (ghostRun c [] ops).count (itemIdx c.m c.k key) → existsMulti c [key] (runG c s0 ops) = .ok [true]) := by
  have hc := cover_run c hk ops s0 [] (fun j => by simpa [need] using h0 j) hv
  exact ⟨min_count_ge_net c hk _ _ hc key h64, present_if_net_positive c hk _ _ hc key⟩

/-- the hypothesis cannot be dropped: removing a never-added item whose indexes collide with added
ones succeeds and produces a false negative (m = 7, k = 2: `(5, 3)` has indexes 5,1; `(9, 2)` 2,4; `(1, 1)` 1,2) -/
theorem remove_of_never_added_breaks :
    let c : Cfg := ⟨7, 2⟩
    let s := runG c St.init [.add [(5, 3), (9, 2)], .add [(5, 3)], .remove [(5, 3), (1, 1)]]
    (match existsMulti c [(5, 3)] s with | .ok r => r | _ => []) = [false] := by
  decide

/-- non-vacuity of `ValidOps` -/
example : ValidOps ⟨7, 2⟩ [] [.add [(5, 3), (9, 2)], .remove [(5, 3)], .add [(5, 3)], .remove [(9, 2), (5, 3)]] := by
  simp only [ValidOps, Removable, ghost, groupsOf, eraseAll, List.map]
  decide

end Rv.C36
