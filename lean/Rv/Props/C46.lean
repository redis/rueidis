/-
C46 — Scanner iterates every page element in order.
Model: Rv/Model/Scanner.lean (helper.go Scanner.scan/Iter/Iter2), specification: Rv/Spec/Scanner.lean.
-/
import Rv.Model.Scanner
import Rv.Spec.Scanner
namespace Rv.C46
open Rv.Scanner Rv.Spec.Scanner

/-- `scan` driving a per-page callback shows exactly what the specification says:
    pages in order from the start cursor until cursor 0, truncated at the consumer's stop item,
    ended by the first failing request whose error is exposed -/
theorem scan_eq_spec {β : Type} (pg : List String → List β) (script : List Resp) (cur : Nat) (stop : Option Nat) :
    scanFrom pg script cur stop = specFrom pg script cur stop := by
  induction script generalizing cur stop with
  | nil => cases stop <;> simp [scanFrom, specFrom, consumed]
  | cons r rest ih =>
    cases r with
    | err e => cases stop <;> simp [scanFrom, specFrom, consumed]
    | page c vs =>
      rw [scanFrom, ih]
      cases stop with
      | none => by_cases hc : c = 0 <;> simp [specFrom, consumed, feed, hc]
      | some k =>
        by_cases hk : k < (pg vs).length
        · -- the consumer stops inside this page
          by_cases hc : c = 0 <;>
            simp [-List.length_flatMap, specFrom, consumed, feed, hk, needed, hc, Nat.lt_add_right,
              List.take_append_of_le_length (Nat.succ_le_of_lt hk)]
        · by_cases hc : c = 0
          · simp [specFrom, consumed, feed, hk, hc]
          · -- the page is delivered whole and the stop index moves on, counted from the next page
            have h2 : ∀ b : List β, (pg vs ++ b).take (k + 1) = pg vs ++ b.take (k - (pg vs).length + 1) := fun b => by
              rw [List.take_append, List.take_of_length_le (by omega), Nat.succ_sub (Nat.le_of_not_lt hk)]
            have h4 : k < (pg vs).length + (List.flatMap (fun p => pg p.2) (consumed rest).1).length ↔
                k - (pg vs).length < (List.flatMap (fun p => pg p.2) (consumed rest).1).length := by omega
            by_cases hk2 : k - (pg vs).length < (List.flatMap (fun p => pg p.2) (consumed rest).1).length <;>
              simp [-List.length_flatMap, specFrom, consumed, feed, hk, hc, needed, h4, hk2, h2, Nat.add_comm 1]

theorem two_step {α : Type} {motive : List α → Prop} (nil : motive []) (one : ∀ a, motive [a])
    (step : ∀ a b r, motive r → motive (a :: b :: r)) : ∀ l, motive l
  | [] => nil
  | [a] => one a
  | a :: b :: r => step a b r (two_step nil one step r)

theorem pairsSpec_cons_cons (a b : String) (rest : List String) :
    pairsSpec (a :: b :: rest) = (a, b) :: pairsSpec rest := by
  unfold pairsSpec
  rw [show (a :: b :: rest).length / 2 = rest.length / 2 + 1 from Nat.add_div_right _ (by decide : 0 < 2),
    List.range_succ_eq_map, List.map_cons, List.map_map]
  rfl

/-- `Iter2` yields, per page, the consecutive pairs `(vs[0],vs[1]), (vs[2],vs[3]), …`;
    a trailing unpaired element of a page is dropped and pairs never span two pages -/
theorem pairs_eq_spec (vs : List String) : pairs vs = pairsSpec vs := by
  induction vs using two_step with
  | nil => rfl
  | one a => simp [pairs, pairsSpec]
  | step a b r ih => rw [pairs, pairsSpec_cons_cons, ih]

theorem pairs_length (vs : List String) : (pairs vs).length = vs.length / 2 := by
  rw [pairs_eq_spec, pairsSpec, List.length_map, List.length_range]

/-- on a page of even length nothing is lost: the pairs flatten back to the page -/
theorem pairs_flatten_even (vs : List String) (h : vs.length % 2 = 0) :
    (pairs vs).flatMap (fun p => [p.1, p.2]) = vs := by
  induction vs using two_step with
  | nil => rfl
  | one a => nomatch h
  | step a b r ih => exact congrArg (a :: b :: ·) (ih ((Nat.add_mod_right _ 2).symm.trans h))

/-- on a page of odd length exactly the last element is dropped -/
theorem pairs_flatten_odd (vs : List String) (h : vs.length % 2 = 1) :
    (pairs vs).flatMap (fun p => [p.1, p.2]) = vs.dropLast := by
  induction vs using two_step with
  | nil => nomatch h
  | one a => rfl
  | step a b r ih =>
    have h' : r.length % 2 = 1 := (Nat.add_mod_right _ 2).symm.trans h
    cases r with
    | nil => nomatch h'
    | cons c r => exact congrArg (a :: b :: ·) (ih h')

theorem iter_eq_spec (script : List Resp) (stop : Option Nat) : iter script stop = specIter script stop :=
  scan_eq_spec id script 0 stop

theorem iter2_eq_spec (script : List Resp) (stop : Option Nat) : iter2 script stop = specIter2 script stop := by
  rw [iter2, scan_eq_spec, funext pairs_eq_spec]; rfl

theorem consumed_pages_append (ps : List (Nat × List String)) (tail : List Resp) (h : ∀ p ∈ ps, p.1 ≠ 0) :
    consumed (ps.map (fun p => Resp.page p.1 p.2) ++ tail) = (ps ++ (consumed tail).1, (consumed tail).2) := by
  induction ps with
  | nil => rfl
  | cons p ps ih =>
    rw [List.forall_mem_cons] at h
    rw [List.map_cons, List.cons_append, consumed, if_neg h.1, ih h.2]
    rfl

theorem scan_pages_then {β : Type} (pg : List String → List β) (ps : List (Nat × List String))
    (tail : List Resp) (h : ∀ p ∈ ps, p.1 ≠ 0) :
    scanFrom pg (ps.map (fun p => Resp.page p.1 p.2) ++ tail) 0 none =
      ⟨ps.flatMap (fun p => pg p.2) ++ (consumed tail).1.flatMap (fun p => pg p.2),
       0 :: ps.map (·.1) ++ ((consumed tail).1.map (·.1)).filter (· ≠ 0), (consumed tail).2⟩ := by
  have hf : (ps.map (·.1)).filter (· ≠ 0) = ps.map (·.1) :=
    List.filter_eq_self.2 (List.forall_mem_map.2 fun p hp => decide_eq_true (h p hp))
  rw [scan_eq_spec, specFrom, consumed_pages_append ps tail h]
  simp only [List.flatMap_append, List.map_append, List.filter_append, hf, List.cons_append]

/-- a consumer that never stops receives every element of every page in order, the cursors
    requested are 0 followed by the returned cursors, nothing is requested after the page with
    cursor 0, and `Err()` is nil -/
theorem yields_concat_pages_until_cursor0 (ps : List (Nat × List String)) (vs : List String) (rest : List Resp)
    (h : ∀ p ∈ ps, p.1 ≠ 0) :
    iter (ps.map (fun p => Resp.page p.1 p.2) ++ Resp.page 0 vs :: rest) none =
      ⟨ps.flatMap (·.2) ++ vs, 0 :: ps.map (·.1), none⟩ := by
  simpa [iter, consumed] using scan_pages_then id ps (Resp.page 0 vs :: rest) h

/-- a failing request ends the iteration: everything before it was delivered, nothing is
    requested afterwards, and `Err()` returns that error -/
theorem stops_at_error_and_exposes_it (ps : List (Nat × List String)) (e : String) (rest : List Resp)
    (h : ∀ p ∈ ps, p.1 ≠ 0) :
    iter (ps.map (fun p => Resp.page p.1 p.2) ++ Resp.err e :: rest) none =
      ⟨ps.flatMap (·.2), 0 :: ps.map (·.1), some e⟩ := by
  simpa [iter, consumed] using scan_pages_then id ps (Resp.err e :: rest) h

/-- `Iter2` over complete pages: the pairs of every page in order (per page, see `pairs_eq_spec`) -/
theorem iter2_pairs (ps : List (Nat × List String)) (vs : List String) (rest : List Resp)
    (h : ∀ p ∈ ps, p.1 ≠ 0) :
    iter2 (ps.map (fun p => Resp.page p.1 p.2) ++ Resp.page 0 vs :: rest) none =
      ⟨ps.flatMap (fun p => pairs p.2) ++ pairs vs, 0 :: ps.map (·.1), none⟩ := by
  simpa [iter2, consumed] using scan_pages_then pairs ps (Resp.page 0 vs :: rest) h

/-- `needed` is the exact number of pages that must be fetched to deliver item `k`:
    the first `needed - 1` pages do not contain it, the first `needed` pages do -/
theorem needed_exact {β : Type} (pg : List String → List β) (pages : List (Nat × List String)) (k : Nat)
    (hk : k < (pages.flatMap fun p => pg p.2).length) :
    1 ≤ needed pg pages k ∧ needed pg pages k ≤ pages.length ∧
    ((pages.take (needed pg pages k - 1)).flatMap fun p => pg p.2).length ≤ k ∧
    k < ((pages.take (needed pg pages k)).flatMap fun p => pg p.2).length := by
  induction pages generalizing k with
  | nil => exact absurd hk (Nat.not_lt_zero _)
  | cons p ps ih =>
    rw [List.flatMap_cons, List.length_append] at hk
    rw [needed]
    split
    next h =>
      exact ⟨Nat.le_refl 1, Nat.le_add_left 1 _, Nat.zero_le k,
        by rwa [show (p :: ps).take 1 = [p] from rfl, List.flatMap_singleton]⟩
    next h =>
      have hle := Nat.le_of_not_lt h
      obtain ⟨h1, h2, h3, h4⟩ := ih _ (Nat.sub_lt_left_of_lt_add hle hk)
      obtain ⟨n, hn⟩ := Nat.exists_eq_add_of_le' h1
      rw [hn] at h2 h3 h4 ⊢
      rw [Nat.add_comm 1, Nat.add_sub_cancel, List.take_succ_cons, List.take_succ_cons, List.flatMap_cons,
        List.flatMap_cons, List.length_append, List.length_append]
      exact ⟨Nat.le_add_left 1 _, Nat.succ_le_succ h2, Nat.add_le_of_le_sub' hle h3,
        (Nat.sub_lt_iff_lt_add' hle).1 h4⟩

theorem scan_stop {β : Type} (pg : List String → List β) (script : List Resp) (cur k : Nat) :
    scanFrom pg script cur (some k) =
      if k < (scanFrom pg script cur none).yielded.length then
        ⟨(scanFrom pg script cur none).yielded.take (k + 1),
         (scanFrom pg script cur none).cursors.take (needed pg (consumed script).1 k), none⟩
      else scanFrom pg script cur none := by
  rw [scan_eq_spec, scan_eq_spec]
  rfl

/-- when the consumer stops at item `k` it has received exactly the first `k+1` items of the full
    iteration, `Err()` is nil, and only the cursors of the pages needed for item `k` were requested
    (`needed_exact`: not one page more) -/
theorem stops_at_consumer_stop (script : List Resp) (k : Nat)
    (hk : k < (iter script none).yielded.length) :
    (iter script (some k)).yielded = (iter script none).yielded.take (k + 1) ∧
    (iter script (some k)).err = none ∧
    (iter script (some k)).cursors = (iter script none).cursors.take (needed id (consumed script).1 k) := by
  unfold iter at hk ⊢
  rw [scan_stop, if_pos hk]
  exact ⟨rfl, rfl, rfl⟩

/-- a stop index beyond the last item changes nothing -/
theorem stop_beyond_end (script : List Resp) (k : Nat) (hk : ¬ k < (iter script none).yielded.length) :
    iter script (some k) = iter script none := by
  unfold iter at hk ⊢
  rw [scan_stop, if_neg hk]

/-- `stops_at_consumer_stop` for `Iter2`, counted in pairs -/
theorem iter2_stops_at_consumer_stop (script : List Resp) (k : Nat)
    (hk : k < (iter2 script none).yielded.length) :
    (iter2 script (some k)).yielded = (iter2 script none).yielded.take (k + 1) ∧
    (iter2 script (some k)).err = none ∧
    (iter2 script (some k)).cursors = (iter2 script none).cursors.take (needed pairsSpec (consumed script).1 k) := by
  simp only [iter2, funext pairs_eq_spec] at hk ⊢
  rw [scan_stop, if_pos hk]
  exact ⟨rfl, rfl, rfl⟩

/-- every request after the first carries the non-zero cursor returned by the previous answer,
    the first request carries the start cursor — for every script and stop point -/
theorem cursors_follow {β : Type} (pg : List String → List β) (script : List Resp) (cur : Nat) (stop : Option Nat) :
    (scanFrom pg script cur stop).cursors[0]? = some cur ∧
    ∀ i c, (scanFrom pg script cur stop).cursors[i + 1]? = some c →
      c ≠ 0 ∧ ∃ vs, script[i]? = some (Resp.page c vs) := by
  induction script generalizing cur stop with
  | nil => exact ⟨rfl, nofun⟩
  | cons r rest ih =>
    cases r with
    | err e => exact ⟨rfl, nofun⟩
    | page c0 vs =>
      rw [scanFrom]
      split
      next hcont =>
        obtain ⟨h0, hs⟩ := ih c0 (feed (pg vs) stop).2.2
        refine ⟨rfl, fun i c hi => ?_⟩
        cases i with
        | zero => cases h0.symm.trans hi; exact ⟨hcont.2, vs, rfl⟩
        | succ j => exact hs j c hi
      next => exact ⟨rfl, nofun⟩

/-- every iteration over the same Scanner is a function of the page script only: whatever state
    earlier iterations left behind (complete, stopped early by the consumer at any item, or ended
    by a failed page), the k-th iteration shows exactly what a fresh Scanner would show -/
theorem iterations_independent (st : St) (script : List Resp) (reqs : List Req) :
    (runSeq st script reqs).1 = reqs.map fun r => (runReq ⟨none⟩ script r).1 := by
  induction reqs generalizing st with
  | nil => rfl
  | cons r rs ih =>
    simp only [runSeq, List.map_cons, ih]
    cases r <;> rfl

/-- in particular every iteration equals the specification started at cursor 0 -/
theorem iterations_eq_spec (st : St) (script : List Resp) (reqs : List Req) :
    (runSeq st script reqs).1 = reqs.map fun r => match r with
      | .iter stop => Res.items (specIter script stop)
      | .iter2 stop => Res.pairs (specIter2 script stop) := by
  rw [iterations_independent]
  apply List.map_congr_left
  intro r _
  cases r with
  | iter stop => simp only [runReq, iter_eq_spec]
  | iter2 stop => simp only [runReq, iter2_eq_spec]

/-- every iteration's first request carries cursor 0 -/
theorem every_iteration_starts_at_cursor0 (st : St) (script : List Resp) (r : Req) :
    (match (runReq st script r).1 with
      | .items o => o.cursors[0]?
      | .pairs o => o.cursors[0]?) = some 0 := by
  cases r with
  | iter stop => exact (cursors_follow id script 0 stop).1
  | iter2 stop => exact (cursors_follow pairs script 0 stop).1

/-- `Err()` after a sequence of iterations is the error of the last one only -/
theorem err_is_last_iteration (st : St) (script : List Resp) (reqs : List Req) (r : Req) :
    (runSeq st script (reqs ++ [r])).2 = (runReq ⟨none⟩ script r).2 := by
  induction reqs generalizing st with
  | nil => cases r <;> rfl
  | cons q qs ih => simp only [List.cons_append, runSeq, ih]

example : iter [.page 5 ["a", "b"], .page 0 ["c"], .page 9 ["x"]] none = ⟨["a", "b", "c"], [0, 5], none⟩ := by decide
example : iter [.page 5 ["a", "b"], .page 0 ["c"]] (some 1) = ⟨["a", "b"], [0], none⟩ := by decide
example : iter [.page 5 ["a", "b"], .page 0 ["c"]] (some 2) = ⟨["a", "b", "c"], [0, 5], none⟩ := by decide
example : iter [.page 5 ["a"], .err "boom", .page 0 ["c"]] none = ⟨["a"], [0, 5], some "boom"⟩ := by decide
example : iter2 [.page 5 ["a", "b", "c"], .page 0 ["d", "e"]] none = ⟨[("a", "b"), ("d", "e")], [0, 5], none⟩ := by decide
example : (runSeq ⟨none⟩ [.page 5 ["a", "b"], .page 0 ["c"]] [.iter (some 0), .iter none]).1
    = [.items ⟨["a"], [0], none⟩, .items ⟨["a", "b", "c"], [0, 5], none⟩] := by decide
example : (runSeq ⟨none⟩ [.page 5 ["a"], .err "boom"] [.iter none, .iter2 none]).1
    = [.items ⟨["a"], [0, 5], some "boom"⟩, .pairs ⟨[], [0, 5], some "boom"⟩] := by decide

end Rv.C46
