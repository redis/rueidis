/-
C40 — object-mapping saves are optimistic and round-trip.

Chain: `Rv.Gen.LuaScripts` is regenerated from /repo on every run; the `*_pinned` theorems fix
the script texts `Rv.Om.hashSave` / `Rv.Om.jsonSave` were transcribed from (trusted
transcription, differentially tested: Go fake script handlers vs these models on the `s.hs` /
`s.js` lines; the real repositories run end-to-end against the fake and are compared with
`Rv.Om.save` / `fetch` / `jsave` / `jfetch`). A script runs atomically on the server, so an
interleaving of concurrent Saves is a list of script executions: the theorems quantify over
all lists.
-/
import Std.Data.String.ToInt
import Rv.Gen.LuaScripts
import Rv.Model.Om

namespace Rv.C40
open Rv.Om

theorem hash_save_script_pinned : Rv.Gen.om_hashSaveScript =
  "\nif (ARGV[1] == '')\nthen\n  local e = (#ARGV % 2 == 1) and table.remove(ARGV) or nil\n  if redis.call('HSET',KEYS[1],unpack(ARGV))\n  then\n    if e then redis.call('PEXPIREAT',KEYS[1],e) end\n  end\n  return ARGV[2]\nend\nlocal v = redis.call('HGET',KEYS[1],ARGV[1])\nif (not v or v == ARGV[2])\nthen\n  ARGV[2] = tostring(tonumber(ARGV[2])+1)\n  local e = (#ARGV % 2 == 1) and table.remove(ARGV) or nil\n  if redis.call('HSET',KEYS[1],unpack(ARGV))\n  then\n    if e then redis.call('PEXPIREAT',KEYS[1],e) end\n    return ARGV[2]\n  end\nend\nreturn nil\n" := rfl

theorem json_save_script_pinned : Rv.Gen.om_jsonSaveScript =
  "\nif (ARGV[1] == '')\nthen\n  redis.call('JSON.SET',KEYS[1],'$',ARGV[3])\n  if #ARGV == 4 then redis.call('PEXPIREAT',KEYS[1],ARGV[4]) end\n  return ARGV[2]\nend\nlocal v = redis.call('JSON.GET',KEYS[1],ARGV[1])\nif (not v or v == ARGV[2])\nthen\n  redis.call('JSON.SET',KEYS[1],'$',ARGV[3])\n  local v = redis.call('JSON.NUMINCRBY',KEYS[1],ARGV[1],1)\n  if #ARGV == 4 then redis.call('PEXPIREAT',KEYS[1],ARGV[4]) end\n  return v\nend\nreturn nil\n" := rfl

private theorem canonDec_toString (n : Int) : canonDec (toString n) = some n := by
  simp [canonDec]
private theorem parseInt64_toString (n : Int) (h : int64Min ≤ n ∧ n ≤ int64Max) :
    parseInt64 (toString n) = some n := by
  simp [parseInt64, h]

private theorem hget_hset (h : Hash) (k v k' : String) :
    hget (hset h k v) k' = if k = k' then some v else hget h k' := by
  simp [hget, hset]

def findField : List (String × FV) → String → Option FV
  | [], _ => none
  | (m, v) :: r, n => if m = n then some v else findField r n

private theorem findField_none_of_not_mem (fs : List (String × FV)) (n : String)
    (h : n ∉ fs.map (·.1)) : findField fs n = none := by
  induction fs with
  | nil => rfl
  | cons p r ih =>
    obtain ⟨m, v⟩ := p
    simp only [List.map_cons, List.mem_cons, not_or] at h
    simp only [findField]
    rw [if_neg (fun e => h.1 e.symm)]
    exact ih h.2

private theorem findField_of_mem {fs : List (String × FV)} {n : String} {v : FV}
    (hnd : (fs.map (·.1)).Nodup) (hm : (n, v) ∈ fs) : findField fs n = some v := by
  induction fs with
  | nil => cases hm
  | cons p r ih =>
    obtain ⟨m, w⟩ := p
    simp only [List.map_cons, List.nodup_cons] at hnd
    simp only [findField]
    rcases List.mem_cons.1 hm with heq | hmem
    · cases heq; simp
    · have : m ≠ n := fun hmn => hnd.1 (hmn ▸ List.mem_map.2 ⟨(n, v), hmem, rfl⟩)
      rw [if_neg this]
      exact ih hnd.2 hmem

/-- what HSET of the encoded fields leaves under field name `n`: the encoded value of the
entity's field `n` if it has one, otherwise whatever was stored before (nil pointers!) -/
theorem hget_after_fields (fs : List (String × FV)) (h : Hash) (n : String)
    (hd : (fs.map (·.1)).Nodup) :
    hget (hsetPairs h (pairs (encodeFields fs))) n =
      match findField fs n with
      | some v => (match encodeField v with | some s => some s | none => hget h n)
      | none => hget h n := by
  induction fs generalizing h with
  | nil => simp [encodeFields, pairs, hsetPairs, findField]
  | cons p r ih =>
    obtain ⟨m, v⟩ := p
    simp only [List.map_cons, List.nodup_cons] at hd
    cases hv : encodeField v with
    | none =>
      simp only [encodeFields, hv, findField]
      rw [ih h hd.2]
      by_cases hmn : m = n
      · subst hmn
        simp [findField_none_of_not_mem r m hd.1, hv]
      · simp [hmn]
    | some s =>
      simp only [encodeFields, hv, findField, pairs, hsetPairs]
      rw [ih (hset h m s) hd.2, hget_hset]
      by_cases hmn : m = n
      · subst hmn
        simp [findField_none_of_not_mem r m hd.1, hv]
      · simp [hmn]

private theorem encodeFields_even (fs : List (String × FV)) : (encodeFields fs).length % 2 = 0 := by
  induction fs with
  | nil => rfl
  | cons p r ih =>
    obtain ⟨m, v⟩ := p
    cases hv : encodeField v <;> simp [encodeFields, hv] <;> omega

private theorem hsetPairs_length (h : Hash) (ps : List (String × String)) :
    (hsetPairs h ps).length = h.length + ps.length := by
  induction ps generalizing h with
  | nil => simp [hsetPairs]
  | cons p r ih => obtain ⟨k, v⟩ := p; simp [hsetPairs, ih, hset]; omega

private theorem live_some (now : Int) (k : Key) :
    live now (some k) = some k ↔ ∀ t, k.exp = some t → ¬ now > t := by
  unfold live
  cases he : k.exp <;> simp [he]

private theorem live_idem (now : Int) (st : Option Key) : live now (live now st) = live now st := by
  unfold live
  cases st with
  | none => rfl
  | some k =>
    cases he : k.exp with
    | none => simp [he]
    | some e => by_cases hc : now > e <;> simp [he, hc]

/-- well-formedness of a versioned schema/entity pair and the modelled domain -/
structure WF (now : Int) (sch : Schema) (e : Entity) : Prop where
  versioned : sch.vname ≠ ""
  kv : sch.kname ≠ sch.vname
  nodup : (e.fields.map (·.1)).Nodup
  notk : sch.kname ∉ e.fields.map (·.1)
  notv : sch.vname ∉ e.fields.map (·.1)
  dom : e.ver + 1 < verLimit ∧ -verLimit < e.ver + 1
  exat : ∀ t, e.exat = some t → now < t

/-- the hash a successful save leaves behind, over the previous content `h0` -/
def savedHash (sch : Schema) (e : Entity) (h0 : Hash) : Hash :=
  hsetPairs (hset (hset h0 sch.vname (toString (e.ver + 1))) sch.kname e.key) (pairs (encodeFields e.fields))

private theorem splitE_none {a b c d : String} {l : List String} (h : l.length % 2 = 0) :
    splitE (a :: b :: c :: d :: l) = (a :: b :: c :: d :: l, none) := by
  simp [splitE]; omega

private theorem splitE_some {a b c d x : String} {l : List String} (h : l.length % 2 = 0) :
    splitE (a :: b :: c :: d :: (l ++ [x])) = (a :: b :: c :: d :: l, some x) := by
  have h1 : (a :: b :: c :: d :: (l ++ [x])).length % 2 = 1 := by simp; omega
  have h2 : a :: b :: c :: d :: (l ++ [x]) = (a :: b :: c :: d :: l) ++ [x] := by simp
  unfold splitE
  rw [if_pos h1, h2, List.dropLast_concat, List.getLast?_concat]

private def hOf (st : Option Key) : Hash := match st with | some k => k.h | none => []

private theorem store_toArgs (now : Int) (sch : Schema) (e : Entity) (st : Option Key)
    (hx : ∀ t, e.exat = some t → now < t) :
    ∃ k', store now (sch.vname :: toString (e.ver + 1) :: sch.kname :: e.key ::
        (encodeFields e.fields ++ extArg e)) st = some (some k')
      ∧ k'.h = savedHash sch e (hOf st)
      ∧ (∀ t, k'.exp = some t → now < t ∨ (∃ k, st = some k ∧ k.exp = some t)) := by
  have hev := encodeFields_even e.fields
  cases hex : e.exat with
  | none =>
    simp only [extArg, hex, store, List.append_nil, splitE_none hev]
    cases st <;> exact ⟨_, rfl, by simp [savedHash, hOf, pairs, hsetPairs], by simp +contextual⟩
  | some t =>
    have ht := hx t hex
    simp only [extArg, hex, store, splitE_some hev, canonDec_toString]
    rw [if_neg (by omega)]
    cases st <;>
      exact ⟨_, rfl, by simp [savedHash, hOf, pairs, hsetPairs], fun t' h' => Or.inl (by simp at h'; omega)⟩

/-- the version the server holds for the entity (None: no key / no version field yet) -/
def storedVer (now : Int) (sch : Schema) (st : Option Key) : Option String :=
  hfield (live now st) sch.vname

/-- a Save whose version matches the stored one (or creates the key) succeeds, the entity's
version becomes `ver + 1`, and the hash is `savedHash` over the previous content -/
theorem save_fresh (now : Int) (sch : Schema) (e : Entity) (st : Option Key) (wf : WF now sch e)
    (hv : storedVer now sch st = none ∨ storedVer now sch st = some (toString e.ver)) :
    ∃ k', save now sch e st = (some k', .ok (e.ver + 1))
      ∧ k'.h = savedHash sch e (hOf (live now st))
      ∧ live now (some k') = some k' := by
  obtain ⟨k', hs, hh, hexp⟩ := store_toArgs now sch e (live now st) wf.exat
  refine ⟨k', ?_, hh, ?_⟩
  · have hv' : hfield (live now st) sch.vname = none ∨
        hfield (live now st) sch.vname = some (toString e.ver) := hv
    simp only [save, toArgs, hashSave, if_neg wf.versioned, canonDec_toString, wf.dom, and_self, if_true]
    rw [if_pos hv', hs]
    simp
  · refine (live_some now k').2 fun t ht => (hexp t ht).elim (fun h => by omega) fun ⟨k, hk, hkt⟩ => ?_
    -- the expiry was inherited from a key that is live at `now`
    exact (live_some now k).1 (hk ▸ live_idem now st) t hkt

/-- a Save based on a version other than the stored one fails with ErrVersionMismatch and
changes nothing -/
theorem save_stale (now : Int) (sch : Schema) (e : Entity) (st : Option Key)
    (hver : sch.vname ≠ "") (s : String) (hs : storedVer now sch st = some s) (hne : s ≠ toString e.ver) :
    save now sch e st = (live now st, .mismatch) := by
  have hs' : hfield (live now st) sch.vname = some s := hs
  simp only [save, toArgs, hashSave, if_neg hver, hs', reduceCtorEq, Option.some.injEq, hne, or_self, if_false]

private theorem save_ok (now : Int) (sch : Schema) (e : Entity) (st st' : Option Key) (v' : Int)
    (wf : WF now sch e) (h : save now sch e st = (st', .ok v')) :
    ∃ k', st' = some k' ∧ v' = e.ver + 1 ∧ k'.h = savedHash sch e (hOf (live now st)) ∧ live now (some k') = some k' := by
  by_cases hv : storedVer now sch st = none ∨ storedVer now sch st = some (toString e.ver)
  · obtain ⟨k', hs, hh, hl⟩ := save_fresh now sch e st wf hv
    rw [hs] at h
    cases h
    exact ⟨k', rfl, rfl, hh, hl⟩
  · cases hsv : storedVer now sch st with
    | none => exact absurd (Or.inl hsv) hv
    | some s =>
      have hne : s ≠ toString e.ver := fun he => hv (Or.inr (by rw [hsv, he]))
      rw [save_stale now sch e st wf.versioned s hsv hne] at h
      cases (Prod.mk.inj h).2

/-- a successful versioned Save advances the version by exactly one — on the entity and in the
stored hash -/
theorem version_plus_one (now : Int) (sch : Schema) (e : Entity) (st st' : Option Key) (v' : Int)
    (wf : WF now sch e) (h : save now sch e st = (st', .ok v')) :
    v' = e.ver + 1 ∧ storedVer now sch st' = some (toString (e.ver + 1)) := by
  obtain ⟨k', rfl, rfl, hh, hl⟩ := save_ok now sch e st _ _ wf h
  refine ⟨rfl, ?_⟩
  simp only [storedVer, hl, hfield, hh, savedHash]
  rw [hget_after_fields _ _ _ wf.nodup, findField_none_of_not_mem _ _ wf.notv, hget_hset, if_neg wf.kv, hget_hset]
  simp

/-- a successful Save stores every field that has an encoding, the key field and the version -/
theorem save_stores_every_field (now : Int) (sch : Schema) (e : Entity) (st st' : Option Key) (v' : Int)
    (wf : WF now sch e) (h : save now sch e st = (st', .ok v')) :
    ∃ k', st' = some k' ∧ live now st' = some k' ∧ hget k'.h sch.kname = some e.key ∧
      ∀ n v s, (n, v) ∈ e.fields → encodeField v = some s → hget k'.h n = some s := by
  obtain ⟨k', rfl, _, hh, hl⟩ := save_ok now sch e st _ _ wf h
  refine ⟨k', rfl, hl, ?_, fun n v s hm hes => ?_⟩
  · rw [hh, savedHash, hget_after_fields _ _ _ wf.nodup, findField_none_of_not_mem _ _ wf.notk, hget_hset]
    simp
  · rw [hh, savedHash, hget_after_fields _ _ _ wf.nodup]
    simp [findField_of_mem wf.nodup hm, hes]

/-- concurrent Saves = any list of script executions -/
def runSaves (now : Int) (sch : Schema) : List Entity → Option Key → List SaveRes
  | [], _ => []
  | e :: r, st => (save now sch e st).2 :: runSaves now sch r (save now sch e st).1

private theorem all_stale (now : Int) (sch : Schema) (v : Int) (es : List Entity) (st : Option Key)
    (hver : sch.vname ≠ "") (hes : ∀ e ∈ es, e.ver = v)
    (s : String) (hs : storedVer now sch st = some s) (hne : s ≠ toString v) :
    ∀ r ∈ runSaves now sch es st, r = .mismatch := by
  induction es generalizing st with
  | nil => intro r hr; cases hr
  | cons e r ih =>
    intro x hx
    have hev : e.ver = v := hes e (List.mem_cons_self ..)
    have hst := save_stale now sch e st hver s hs (hev ▸ hne)
    simp only [runSaves, hst] at hx
    rcases List.mem_cons.1 hx with h | h
    · exact h
    · refine ih (live now st) (fun e' he' => hes e' (List.mem_cons_of_mem _ he')) ?_ x h
      simp only [storedVer, live_idem]; exact hs

/-- among Saves of entities that are all based on the same version `v` (the stored one, or the
key does not exist), executed in any order, exactly the first script execution succeeds and
yields version `v + 1`; every other one returns ErrVersionMismatch -/
theorem at_most_one_save_wins (now : Int) (sch : Schema) (v : Int) (es : List Entity) (st : Option Key)
    (hwf : ∀ e ∈ es, WF now sch e) (hes : ∀ e ∈ es, e.ver = v)
    (hv : storedVer now sch st = none ∨ storedVer now sch st = some (toString v)) :
    ((runSaves now sch es st).filter (fun r => r matches .ok _)).length ≤ 1 ∧
    (∀ r ∈ runSaves now sch es st, r = .ok (v + 1) ∨ r = .mismatch) ∧
    (es ≠ [] → (runSaves now sch es st).head? = some (.ok (v + 1))) := by
  cases es with
  | nil => simp [runSaves]
  | cons e r =>
    have wf := hwf e (List.mem_cons_self ..)
    obtain rfl : e.ver = v := hes e (List.mem_cons_self ..)
    obtain ⟨k', hs, hh, hl⟩ := save_fresh now sch e st wf hv
    have hsv := (version_plus_one now sch e st (some k') (e.ver + 1) wf hs).2
    have hne : toString (e.ver + 1) ≠ toString e.ver := fun h => by have := Int.repr_injective h; omega
    have hrest := all_stale now sch e.ver r (some k') wf.versioned
      (fun e' he' => hes e' (List.mem_cons_of_mem _ he')) _ hsv hne
    simp only [runSaves, hs]
    refine ⟨?_, ?_, fun _ => rfl⟩
    · have : (runSaves now sch r (some k')).filter (fun r => r matches .ok _) = [] := by
        apply List.filter_eq_nil_iff.2
        intro x hx; rw [hrest x hx]; simp
      simp [this]
    · intro x hx
      rcases List.mem_cons.1 hx with h | h
      · exact Or.inl h
      · exact Or.inr (hrest x h)

/-- SaveMulti reports one result per entity -/
theorem save_multi_length (now : Int) (sch : Schema) (es : List Entity) (st : String → Option Key) :
    (saveMulti now sch es st).2.length = es.length := by
  induction es generalizing st with
  | nil => rfl
  | cons e r ih => simp [saveMulti, ih]

/-- a batch does not touch the keys of entities that are not in it -/
theorem save_multi_other_key (now : Int) (sch : Schema) (es : List Entity) (st : String → Option Key) (k : String)
    (hk : ∀ e ∈ es, e.key ≠ k) : (saveMulti now sch es st).1 k = st k := by
  induction es generalizing st with
  | nil => rfl
  | cons e r ih =>
    simp only [saveMulti]
    rw [ih _ (fun e' he' => hk e' (List.mem_cons_of_mem _ he'))]
    have := hk e (List.mem_cons_self ..)
    simp [Ne.symm this]

/-- SaveMulti: the i-th result is exactly the result of Saving the i-th entity on the store as the
earlier members left it — whatever happened to the members before it (refused or saved); with
distinct keys: on what was stored for its key before the batch. So errs[i] is ErrVersionMismatch
iff member i is stale, and a saved member's version is advanced, independently of the others. -/
theorem save_multi_pointwise (now : Int) (sch : Schema) (pre post : List Entity) (e : Entity)
    (st : String → Option Key) :
    (saveMulti now sch (pre ++ e :: post) st).2[pre.length]? =
      some (save now sch e ((saveMulti now sch pre st).1 e.key)).2 := by
  induction pre generalizing st with
  | nil => simp [saveMulti]
  | cons p r ih =>
    simp only [List.cons_append, saveMulti, List.length_cons, List.getElem?_cons_succ]
    exact ih _

theorem save_multi_pointwise_distinct (now : Int) (sch : Schema) (pre post : List Entity) (e : Entity)
    (st : String → Option Key) (hd : ∀ p ∈ pre, p.key ≠ e.key) :
    (saveMulti now sch (pre ++ e :: post) st).2[pre.length]? = some (save now sch e (st e.key)).2 := by
  rw [save_multi_pointwise, save_multi_other_key now sch pre st e.key hd]

def kindEq : FV → FV → Bool
  | .int _, .int _ | .str _, .str _ | .bool _, .bool _ | .pint _, .pint _
  | .pstr _, .pstr _ | .pbool _, .pbool _ | .raw _, .raw _ | .json _, .json _ => true
  | _, _ => false

/-- integer fields hold int64 values -/
def inRange : FV → Prop
  | .int i => int64Min ≤ i ∧ i ≤ int64Max
  | .pint (some i) => int64Min ≤ i ∧ i ≤ int64Max
  | _ => True

/-- every converter pair of om/conv.go round-trips: int64, string, bool, non-nil *int64,
*string, *bool, byte images ([]byte, []float32, []float64) and JSON images -/
theorem decode_encode (z v : FV) (s : String) (hk : kindEq z v = true) (hr : inRange v)
    (he : encodeField v = some s) : decodeField z s = some v := by
  cases z <;> cases v <;> simp [kindEq] at hk <;> simp only [encodeField] at he
  case int.int a i =>
    cases he
    simp only [decodeField, parseInt64_toString i hr, Option.map_some]
  case str.str | raw.raw | json.json => cases he; rfl
  case bool.bool a b => cases he; cases b <;> simp [decodeField]
  case pint.pint a o =>
    cases o with
    | none => cases he
    | some i =>
      cases he
      simp only [decodeField, parseInt64_toString i hr, Option.map_some]
  case pstr.pstr a o => cases o with | none => cases he | some x => cases he; rfl
  case pbool.pbool a o =>
    cases o with
    | none => cases he
    | some b => cases he; cases b <;> simp [decodeField]

/-- the entity has the schema's field names and kinds, in order -/
def shapeOk : List (String × FV) → List (String × FV) → Prop
  | [], [] => True
  | z :: zs, f :: fs => z.1 = f.1 ∧ kindEq z.2 f.2 = true ∧ shapeOk zs fs
  | _, _ => False

private theorem decodeFields_eq {H : Hash} {zs fs : List (String × FV)}
    (hshape : shapeOk zs fs)
    (hst : ∀ f ∈ fs, ∃ s, encodeField f.2 = some s ∧ hget H f.1 = some s)
    (hr : ∀ f ∈ fs, inRange f.2) : decodeFields H zs = some fs := by
  induction zs generalizing fs with
  | nil => cases fs with
    | nil => rfl
    | cons f fs' => simp [shapeOk] at hshape
  | cons z zs' ih =>
   cases fs with
   | nil => simp [shapeOk] at hshape
   | cons f fs' =>
    obtain ⟨zn, zv⟩ := z
    obtain ⟨fn, fv⟩ := f
    obtain ⟨hn, hk, hrest⟩ := hshape
    simp only at hn hk
    subst hn
    obtain ⟨s, hes, hgs⟩ := hst (zn, fv) (List.mem_cons_self ..)
    have ih' := ih hrest (fun f hf => hst f (List.mem_cons_of_mem _ hf)) (fun f hf => hr f (List.mem_cons_of_mem _ hf))
    simp only [decodeFields, ih', hgs, decode_encode zv fv s hk (hr _ (List.mem_cons_self ..)) hes]

private theorem fetch_after_save (now : Int) (sch : Schema) (e : Entity) (st st' : Option Key) (v' : Int)
    (wf : WF now sch e) (h : save now sch e st = (st', .ok v')) (fs : List (String × FV))
    (hdec : ∀ k', st' = some k' → decodeFields k'.h sch.fields = some fs) :
    fetch now sch st' = .ok { key := e.key, ver := e.ver + 1, fields := fs } := by
  obtain ⟨k', rfl, hl, hkey, _⟩ := save_stores_every_field now sch e st st' v' wf h
  have hvk : hget k'.h sch.vname = some (toString (e.ver + 1)) := by
    simpa [storedVer, hl, hfield] using (version_plus_one now sch e st _ v' wf h).2
  have hne : k'.h ≠ [] := by
    intro h0; rw [h0] at hkey; simp [hget] at hkey
  have hd := wf.dom
  have hp := parseInt64_toString (e.ver + 1) (by
    simp only [verLimit] at hd
    simp only [int64Min, int64Max]
    constructor <;> omega)
  simp only [fetch, hl, if_neg hne, if_neg wf.versioned, hvk, hp, hdec k' rfl, hkey, Option.getD_some]

/-- MISSING: the full statement (`Fetch` after a successful `Save` returns the saved entity for
ALL field values) is false for the hash repository — see `fetch_after_save_nil_pointer_stale`.
Proved here: for entities all of whose pointer fields are non-nil (every field has an
encoding), with int64 integers, Fetch / FetchCache after a successful Save returns exactly the
saved entity with the version advanced by one. -/
theorem fetch_after_save_eq_partial (now : Int) (sch : Schema) (e : Entity) (st st' : Option Key) (v' : Int)
    (wf : WF now sch e) (h : save now sch e st = (st', .ok v'))
    (hshape : shapeOk sch.fields e.fields)
    (hnonnil : ∀ f ∈ e.fields, (encodeField f.2).isSome)
    (hr : ∀ f ∈ e.fields, inRange f.2) :
    fetch now sch st' = .ok { key := e.key, ver := e.ver + 1, fields := e.fields } := by
  obtain ⟨k', hst', _, _, hfs⟩ := save_stores_every_field now sch e st st' v' wf h
  refine fetch_after_save now sch e st st' v' wf h _ fun k hk => ?_
  cases hst'.symm.trans hk
  refine decodeFields_eq hshape (fun f hf => ?_) hr
  obtain ⟨n, v⟩ := f
  obtain ⟨s, hs⟩ := Option.isSome_iff_exists.1 (hnonnil _ hf)
  exact ⟨s, hs, hfs n v s hf hs⟩

/-- the stored value of a field whose pointer is nil in the saved entity is whatever was stored
before: the hash repository never clears it -/
theorem nil_pointer_keeps_old_value (now : Int) (sch : Schema) (e : Entity) (st : Option Key)
    (wf : WF now sch e) (hv : storedVer now sch st = none ∨ storedVer now sch st = some (toString e.ver))
    (n : String) (v : FV) (hm : (n, v) ∈ e.fields) (hnil : encodeField v = none) :
    ∃ k', save now sch e st = (some k', .ok (e.ver + 1)) ∧ hget k'.h n = hget (hOf (live now st)) n := by
  obtain ⟨k', hs, hh, _⟩ := save_fresh now sch e st wf hv
  refine ⟨k', hs, ?_⟩
  have hnv : sch.vname ≠ n := fun hc => wf.notv (hc ▸ List.mem_map.2 ⟨(n, v), hm, rfl⟩)
  have hnk : sch.kname ≠ n := fun hc => wf.notk (hc ▸ List.mem_map.2 ⟨(n, v), hm, rfl⟩)
  rw [hh, savedHash, hget_after_fields _ _ _ wf.nodup, findField_of_mem wf.nodup hm]
  simp [hnil, hget_hset, hnv, hnk]

/-! The witness the harness replays (`om:hash:nil-pointer-field-not-cleared`): save `pi = &7`
at version 0, then `pi = nil` at version 1, fetch. -/
def wSch : Schema := ⟨"id", "ver", [("pi", .pint none)]⟩
def wE1 : Entity := { key := "w", ver := 0, fields := [("pi", .pint (some 7))] }
def wE2 : Entity := { key := "w", ver := 1, fields := [("pi", .pint none)] }

private theorem wWF (e : Entity) (h1 : e.fields.map (·.1) = ["pi"]) (h2 : e.ver = 0 ∨ e.ver = 1) (h3 : e.exat = none) :
    WF 0 wSch e := by
  refine ⟨by decide, by decide, by rw [h1]; simp, by rw [h1]; decide, by rw [h1]; decide, ?_, by simp [h3]⟩
  simp only [verLimit]; rcases h2 with h | h <;> rw [h] <;> omega

/-- negation of the full round-trip clause: both Saves succeed (versions 1 and 2) and the
Fetch afterwards returns `pi = 7`, not the saved `nil` -/
theorem fetch_after_save_nil_pointer_stale :
    ∃ st1 st2, save 0 wSch wE1 none = (st1, .ok 1) ∧ save 0 wSch wE2 st1 = (st2, .ok 2) ∧
      fetch 0 wSch st2 = .ok { key := "w", ver := 2, fields := [("pi", .pint (some 7))] } ∧
      fetch 0 wSch st2 ≠ .ok { key := wE2.key, ver := wE2.ver + 1, fields := wE2.fields } := by
  have wf1 : WF 0 wSch wE1 := wWF wE1 rfl (Or.inl rfl) rfl
  have wf2 : WF 0 wSch wE2 := wWF wE2 rfl (Or.inr rfl) rfl
  obtain ⟨k1, hs1, hh1, hl1⟩ := save_fresh 0 wSch wE1 none wf1 (Or.inl rfl)
  have hv1 := (version_plus_one 0 wSch wE1 none (some k1) _ wf1 hs1).2
  obtain ⟨k2, hs2, hh2, hl2⟩ := save_fresh 0 wSch wE2 (some k1) wf2 (Or.inr hv1)
  have hpi1 : hget k1.h "pi" = some (toString (7 : Int)) := by
    obtain ⟨k', hk', _, _, hf⟩ := save_stores_every_field 0 wSch wE1 none (some k1) _ wf1 hs1
    cases hk'
    exact hf "pi" (.pint (some 7)) _ (by simp [wE1]) rfl
  have hpi2 : hget k2.h "pi" = some (toString (7 : Int)) := by
    obtain ⟨k', hk', hg⟩ := nil_pointer_keeps_old_value 0 wSch wE2 (some k1) wf2 (Or.inr hv1) "pi" (.pint none)
      (by simp [wE2]) rfl
    rw [hs2] at hk'
    cases (Prod.mk.inj hk').1
    rw [hg, hl1]; exact hpi1
  have hf : fetch 0 wSch (some k2) = .ok { key := "w", ver := 2, fields := [("pi", .pint (some 7))] } :=
    fetch_after_save 0 wSch wE2 (some k1) (some k2) _ wf2 hs2 _ fun k hk => by
      cases hk
      simp only [wSch, decodeFields, hpi2, decodeField, parseInt64_toString 7 (by decide), Option.map_some]
  refine ⟨some k1, some k2, hs1, hs2, hf, ?_⟩
  rw [hf]; simp [wE2]

/-! ### JSON repository (document abstract: version field + body; encoding/json trusted) -/

def jstoredVer (now : Int) (st : Option JKey) : Option Int := (jlive now st).map (·.doc.ver)

/-- a JSON Save based on the stored version (or creating the key) succeeds with version + 1 and
stores the document; based on any other version it fails with ErrVersionMismatch and changes nothing -/
theorem json_save (now : Int) (ver : Int) (body : String) (st : Option JKey) (hd : ver + 1 < jsonLimit) :
    (jstoredVer now st = none ∨ jstoredVer now st = some ver →
      jsave now false ver body st = (some { doc := ⟨ver + 1, body⟩ }, .ok (ver + 1))) ∧
    (∀ w, jstoredVer now st = some w → w ≠ ver → jsave now false ver body st = (jlive now st, .mismatch)) := by
  constructor
  · intro hv
    have hc : jlive now st = none ∨ ∃ a, jlive now st = some a ∧ a.doc.ver = ver := by
      simp only [jstoredVer] at hv
      cases hj : jlive now st with
      | none => exact Or.inl rfl
      | some k => right; rcases hv with h | h <;> simp [hj] at h; exact ⟨k, rfl, h⟩
    simp [jsave, jsonSave, hd, jstore]
    rw [if_pos hc]
    simp
  · intro w hw hne
    simp only [jstoredVer] at hw
    cases hj : jlive now st with
    | none => simp [hj] at hw
    | some k =>
      simp only [hj, Option.map_some, Option.some.injEq] at hw
      have h1 : ¬ k.doc.ver = ver := hw ▸ hne
      simp [jsave, jsonSave, hj]
      rw [if_neg h1]

/-- Fetch after a successful JSON Save returns the saved document with the version advanced -/
theorem json_fetch_after_save (now : Int) (ver : Int) (body : String) (st : Option JKey) (hd : ver + 1 < jsonLimit)
    (hv : jstoredVer now st = none ∨ jstoredVer now st = some ver) :
    jfetch now (jsave now false ver body st).1 = some ⟨ver + 1, body⟩ := by
  rw [((json_save now ver body st hd).1 hv)]
  simp [jfetch, jlive]

example : WF 0 wSch wE1 := wWF wE1 rfl (Or.inl rfl) rfl
example : storedVer 0 wSch none = none := rfl
example : kindEq (.pint none) (.pint (some 7)) = true ∧ inRange (.pint (some 7)) := by
  simp [kindEq, inRange, int64Min, int64Max]

end Rv.C40
