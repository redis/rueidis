/-
C11 — batched cache reads return results positionally.

Model: Rv/Model/MGetCache.lean (pipe.go `doCacheMGet`, `DoMultiCache`; the per-batch view of lru.go
`Flight`/`Flights`; mux.go / cluster.go per-destination batching). Specification:
`Rv.MGetCache.Spec`.

The refill loops recognise a slot that still has to be filled by `val.typ == 0 && err == nil`.
That is only right if nothing that was put into a slot before looks like that: the theorems carry
"waiter results are non-empty" and "server replies are non-empty" as explicit hypotheses
(`refill_needs_nonempty` shows they are needed); the correspondence suite checks both on every run.
-/
import Rv.Lemmas.MGetClassify
import Rv.Lemmas.MGetMulti
import Rv.Lemmas.MGetBatch
namespace Rv.C11
open Rv.MGetCache Rv.MGetCache.Spec

/-- The pointer walk of the three refill loops computes "k-th empty slot ← k-th value" whenever no
    value is itself empty. -/
theorem refill_eq_fillSpec {σ : Type} (isEmpty : σ → Bool) (slots vals : List σ)
    (h : ∀ r ∈ vals, isEmpty r = false) : refill isEmpty slots vals = fillSpec isEmpty slots vals := by
  fun_induction refill isEmpty slots vals with
  | case1 => simp [fillSpec]
  | case2 => simp [fillSpec]
  | case3 s ss r rs hs ih =>
    have hr : isEmpty r = false := h r (by simp)
    rw [ih (fun x hx => h x (by simp [hx]))]
    simp only [fillSpec, hs, if_true]
    cases rs with
    | nil => simp [fillSpec, fillSpec_nil]
    | cons r' rs' => simp [fillSpec, hr]
  | case4 s ss r rs hs ih =>
    rw [ih h]; simp [fillSpec, hs]

/-- The walk never overwrites a slot that was filled before it started (a hit or a resolved pending
    entry), whatever the values are, and never changes the number of slots. -/
theorem refill_skips_filled {σ : Type} (isEmpty : σ → Bool) (slots vals : List σ) :
    (refill isEmpty slots vals).length = slots.length ∧
    ∀ (i : Nat) (x : σ), slots[i]? = some x → isEmpty x = false → (refill isEmpty slots vals)[i]? = some x := by
  refine ⟨by fun_induction refill isEmpty slots vals <;> simp_all, fun i x hx hne => ?_⟩
  fun_induction refill isEmpty slots vals generalizing i with
  | case1 => simp at hx
  | case2 => exact hx
  | case3 s ss r rs hs ih =>
    cases i with
    | zero => cases hx; rw [hne] at hs; cases hs
    | succ j => exact ih (j + 1) hx
  | case4 s ss r rs hs ih =>
    cases i with
    | zero => exact hx
    | succ j => exact ih j hx

/-- The hypothesis of `refill_eq_fillSpec` is needed: an empty value (a reply with `typ == 0`) is
    overwritten by the next one, which shifts every later value one miss to the left. -/
theorem refill_needs_nonempty :
    refill Option.isNone [none, none] [none, some 7] = [some 7, none] ∧
    fillSpec Option.isNone [none, none] [none, some 7] = [none, some 7] := by
  constructor <;> simp [refill, fillSpec]

/-- Classification level: for ANY hit / pending / miss pattern and any iteration order of the
    `entries` map, if no waiter fails, waiter results and reply elements are non-empty and the server
    answered one element per rewritten key, `doCacheMGet` returns at every position its cache value
    or, for the k-th missing position, the k-th element of the reply. -/
theorem mget_assemble (cls : List Cls) (ord : List (Nat × Res)) (part : List (Option Msg))
    (hord : ∀ p, p ∈ ord ↔ p ∈ entries cls)
    (hwait : ∀ w, Cls.pending w ∈ cls → w.err = none ∧ w.val.isSome)
    (hpart : ∀ x ∈ part, x.isSome)
    (hlen : part.length = (cls.filter Cls.isMiss).length) :
    doCacheMGet cls ord (.ok part) = .ok ((spec cls (part.map fun v => ⟨v, none⟩)).map Res.val) := by
  have hwa := waits_after cls ord hord (fun i w h => (hwait w (List.mem_of_getElem? h)).1)
  unfold doCacheMGet
  simp only
  split
  · rename_i h0
    rw [hwa, spec_noMiss _ _ h0]; simp
  · split
    · rename_i hall
      rw [spec_allMiss _ _ hall (by simp [hlen, hall])]
      simp [Function.comp_def]
    · rw [hwa]
      simp only [Except.map]
      rw [refill_eq_fillSpec _ _ _ fun r hr => Option.isNone_eq_false_iff.2 (hpart r hr),
        fillSpec_after_mget _ _ fun w hw => (hwait w hw).2]

variable {K : Type} [DecidableEq K]

/-- `DoCache(MGET k₁ … kₙ)` / `JSON.MGET`: for every cache state (closed store included), every key
    list (duplicates allowed: the first occurrence of an absent key is fetched, later ones wait on
    that flight) and every server value function `f`, the command sent is the MGET of the missing
    keys in order and the result holds at position i the value of key i — the cached reply, the reply
    of the flight already under way, or `f kᵢ`. -/
theorem mget_positional (closed : Bool) (st : K → Ent) (ks : List K) (f : K → Option Msg)
    (hsrv : ∀ k ∈ ks, (f k).isSome)
    (hwait : ∀ k ∈ ks, ∀ w, st k = .inflight w → w.err = none ∧ w.val.isSome) :
    mgetRun closed st ks (fun rw => .ok (rw.map f))
      = (missKeys closed st [] ks,
         .ok (ks.map fun k => (expected closed st (fun k => ⟨f k, none⟩) k).val)) := by
  unfold mgetRun
  simp only
  congr 1
  have hspec : spec (classify closed (mgetOwn (missKeys closed st [] ks) (.ok ((missKeys closed st [] ks).map f))) st [] ks)
      (((missKeys closed st [] ks).map f).map fun v => ⟨v, none⟩) = ks.map (expected closed st fun k => ⟨f k, none⟩) := by
    rw [List.map_map]
    exact spec_classify closed _ _ st [] ks (by simp) fun k hm ha => by
      simp [mgetOwn, lookup_zip_map _ f k (mem_missKeys closed st [] ks k ha hm (by simp))]
  rw [mget_assemble, hspec, List.map_map]
  · rfl
  · intro p; rfl
  · intro w hw
    obtain ⟨k, hk, rfl⟩ := List.mem_map.1 (hspec ▸ pending_mem_spec _ hw)
    exact expected_cases closed st _ k ⟨rfl, hsrv k hk⟩ (fun _ => ⟨rfl, rfl⟩) (hwait k hk)
  · intro x hx
    obtain ⟨k, hk, rfl⟩ := List.mem_map.1 hx
    exact hsrv k ((missKeys_sublist closed st [] ks).subset hk)
  · simp [count_classify]

/-- A waiter whose flight failed fails the whole `MGET` (there is no per-key error in an array reply):
    the call returns the error of one of the failed flights it waited on. -/
theorem mget_wait_error (cls : List Cls) (ord : List (Nat × Res)) (part : List (Option Msg))
    (hord : ∀ p, p ∈ ord ↔ p ∈ entries cls)
    (hfail : ∃ w, Cls.pending w ∈ cls ∧ w.err ≠ none) :
    ∃ w e, Cls.pending w ∈ cls ∧ w.err = some e ∧ doCacheMGet cls ord (.ok part) = .error e := by
  obtain ⟨w0, hw0, he0⟩ := hfail
  obtain ⟨i0, hi0⟩ := List.getElem?_of_mem hw0
  have hex : ∃ p ∈ ord, p.2.err ≠ none := ⟨(i0, w0), (hord _).2 (mem_entries.2 hi0), he0⟩
  obtain ⟨i, v, e, hm, hwa⟩ := waitAll_error ord (cls.map mBase) hex
  have hmem : Cls.pending ⟨v, some e⟩ ∈ cls := List.mem_of_getElem? (mem_entries.1 ((hord _).1 hm))
  refine ⟨⟨v, some e⟩, e, hmem, rfl, ?_⟩
  have hlt : (cls.filter Cls.isMiss).length ≠ cls.length := by
    intro h
    have := (List.length_filter_eq_length_iff.1 h) _ hw0
    simp at this
  unfold doCacheMGet
  simp only
  split
  · exact hwa
  · simp only [hwa, Except.map]

/-- non-vacuity: a batch with a hit, a flight under way, an absent key asked twice and a closed-store
    run; the rewritten command carries each absent key once (every occurrence on a closed store) -/
example : missKeys false (fun k : Nat => if k = 0 then .cached (.atom (.str 0))
      else if k = 1 then .inflight ⟨some (.atom (.str 1)), none⟩ else .absent) [] [0, 2, 1, 2, 3] = [2, 3] ∧
    missKeys true (fun _ : Nat => Ent.absent) [] [5, 5] = [5, 5] := by decide

/-- Classification level: for ANY hit / pending / miss pattern, any iteration order of the `entries`
    map and either wire shape, if waiter results are non-empty and (stride 2) the raw results of
    `DoMulti` are non-empty / (stride 5) no EXEC reply is an empty array, `DoMultiCache` returns at
    every position its cache value or, for the k-th missing position, the k-th fetched outcome
    (stride 5: the decoded EXEC group). Positions are never shifted by errors: an aborted or failed
    group is an error AT its position. -/
theorem multi_assemble (cls : List Cls) (skip : Bool) (ord : List (Nat × Res)) (resp : List Res)
    (hord : ∀ p, p ∈ ord ↔ p ∈ entries cls)
    (hwait : ∀ w, Cls.pending w ∈ cls → w.isEmpty = false)
    (hresp : skip = true → ∀ r ∈ pick2 resp, r.isEmpty = false)
    (hdec : skip = false → ∀ p ∈ pick5 resp, (decode5 p.1 p.2).isSome) :
    doMultiCache cls skip ord resp
      = some (spec cls (if skip then pick2 resp else (pick5 resp).filterMap fun p => decode5 p.1 p.2)) := by
  unfold doMultiCache
  simp only [waits_after_multi cls ord hord]
  split
  · rename_i h0; rw [spec_noMiss _ _ h0]
  · cases skip with
    | true =>
      simp only [if_true]
      rw [refill_eq_fillSpec _ _ _ (hresp rfl), fillSpec_after _ _ hwait]
    | false =>
      simp only [Bool.false_eq_true, if_false]
      rw [refill5_eq _ _ (hdec rfl), refill_eq_fillSpec, fillSpec_after _ _ hwait]
      intro r hr
      simp only [List.mem_filterMap] at hr
      obtain ⟨p, _, hp⟩ := hr
      exact decode5_nonempty hp

variable {C : Type} [DecidableEq C]

/-- `DoMultiCache(c₁ … cₙ)` against a Redis that answers in order: for every cache state (closed
    store included), every command list (duplicates allowed), either wire shape (stride 5 / all
    static TTL: stride 2), every reply function and every set of discarded transactions, the wire
    carries one group per missed command in order and the result holds at position i the outcome of
    command i — the cached reply, the outcome of the flight already under way, or this batch's own
    reply / ErrDoCacheAborted. (Stride 2: a typed error reply is delivered to the fetching position as
    a message and to duplicates of it as the error, hence `hskip`.) -/
theorem multicache_positional (closed skip : Bool) (st : C → Ent) (cs : List C) (reply : C → Atom) (abort : C → Bool)
    (hwait : ∀ c ∈ cs, ∀ w, st c = .inflight w → w.isEmpty = false)
    (hskip : skip = true → ∀ c ∈ cs, ∀ v, reply c ≠ .rerr v) :
    multiRun closed skip st cs (ownStd skip reply abort) (serveStd reply abort none)
      = (missing skip (missKeys closed st [] cs),
         some (cs.map (expected closed st (outStd skip reply abort)))) := by
  unfold multiRun
  simp only
  congr 1
  have hnonempty : ∀ c, (outStd skip reply abort c).isEmpty = false := by
    intro c; unfold outStd; split
    · rfl
    · split <;> rfl
  have hspec := spec_classify closed (ownStd skip reply abort) (outStd skip reply abort) st [] cs (by simp)
    fun c hc _ => by
      cases skip with
      | false => rfl
      | true =>
        have := hskip rfl c hc
        unfold ownStd outStd
        simp only [if_true]
  rw [multi_assemble]
  · congr 1
    cases skip with
    | true => simpa only [if_true, serve_missing2] using hspec
    | false => simpa only [Bool.false_eq_true, if_false, (serve_missing5 reply abort _).1] using hspec
  · intro p; rfl
  · intro w hw
    obtain ⟨c, hc, rfl⟩ := List.mem_map.1 (hspec ▸ pending_mem_spec _ hw)
    exact expected_cases closed st _ c (hnonempty c) (fun _ => rfl) (hwait c hc)
  · intro hs r hr
    subst hs
    rw [serve_missing2] at hr
    obtain ⟨c, _, rfl⟩ := List.mem_map.1 hr
    exact hnonempty c
  · intro hs
    subst hs
    exact (serve_missing5 reply abort _).2

/-! ### per-destination batching: mux.go `DoMultiCache`, cluster.go `_pickMultiCache` / `resultcachefn` -/

variable {D R : Type} [DecidableEq D]

/-- `cIndexes` is a partition of the positions: position `i` is in the index list of destination `d`
    exactly when command `i` goes to `d`. -/
theorem cIndexes_partition (dest : List D) (d : D) (i : Nat) : i ∈ cIndexes dest d ↔ dest[i]? = some d :=
  mem_cIndexes

omit [DecidableEq C] in
/-- mux.go `DoMultiCache`: whatever the slot distribution, the number of connections and the order
    in which the per-connection sub-batches complete, if every sub-batch is answered positionally
    then so is the batch (both for the single-connection shortcut and for the split). -/
theorem mux_scatter_gather (empty : R) (dest : List D) (cmds : List C) (order : List D) (g : D → C → R)
    (hlen : dest.length = cmds.length) (hcover : ∀ d ∈ dest, d ∈ order) :
    batched empty dest cmds order (fun d xs => xs.map (g d)) = some (batchedSpec dest cmds g) := by
  unfold batched
  cases dest with
  | nil => cases cmds <;> first | rfl | cases hlen
  | cons d0 dest' =>
    simp only
    split
    · exact congrArg some (zipWith_all_eq g d0 _ cmds ‹_› hlen).symm
    · exact scatterAll_positional _ _ order g _ hlen (by simp) hcover

omit [DecidableEq C] in
/-- cluster.go `DoMultiCache`, first round: `_pickMultiCache` groups the positions by connection
    (`retries.m[cc].cIndexes/commands`), `resultcachefn` writes `results.s[cIndexes[i]] = resps[i]`;
    with positional per-node answers the batch is positional, for every slot-to-node map. -/
theorem cluster_scatter_gather (empty : R) (dest : List D) (cmds : List C) (order : List D) (g : D → C → R)
    (hlen : dest.length = cmds.length) (hcover : ∀ d ∈ dest, d ∈ order) :
    scatterAll dest cmds (fun d xs => xs.map (g d)) order (List.replicate cmds.length empty)
      = some (batchedSpec dest cmds g) :=
  scatterAll_positional dest cmds order g _ hlen (by simp) hcover

omit [DecidableEq C] in
/-- An error that hits one sub-batch (a broken connection, a failed node) lands exactly on the
    positions of that sub-batch's commands. -/
theorem error_positions (empty : R) (dest : List D) (cmds : List C) (order : List D) (g : D → C → R)
    (bad : R → Prop) (d0 : D) (hbad : ∀ c, bad (g d0 c)) (hgood : ∀ d c, d ≠ d0 → ¬ bad (g d c))
    (hlen : dest.length = cmds.length) (hcover : ∀ d ∈ dest, d ∈ order) :
    ∃ res, batched empty dest cmds order (fun d xs => xs.map (g d)) = some res ∧
      res.length = cmds.length ∧
      ∀ (i : Nat) (r : R), res[i]? = some r → (bad r ↔ dest[i]? = some d0) := by
  refine ⟨batchedSpec dest cmds g, mux_scatter_gather empty dest cmds order g hlen hcover, ?_, ?_⟩
  · simp [batchedSpec, hlen]
  · intro i r hr
    obtain ⟨d, c, hd, _, rfl⟩ := List.getElem?_zipWith_eq_some.1 hr
    rw [hd]
    constructor
    · intro hb
      by_cases h : d = d0
      · rw [h]
      · exact absurd hb (hgood d c h)
    · intro h
      cases h
      exact hbad c

/-- End to end for a multiplexed / clustered client: every destination has its own cache
    (`st d`), the batch is split by destination, every sub-batch goes through `DoMultiCache` of its
    connection against a Redis that answers in order, and the results are scattered back: position i
    holds the outcome of command i on its own connection's cache. -/
theorem batched_multicache_positional (closed skip : Bool) (st : D → C → Ent) (dest : List D) (cmds : List C)
    (order : List D) (reply : C → Atom) (abort : C → Bool)
    (hwait : ∀ d c w, st d c = .inflight w → w.isEmpty = false)
    (hskip : skip = true → ∀ c v, reply c ≠ .rerr v)
    (hlen : dest.length = cmds.length) (hcover : ∀ d ∈ dest, d ∈ order) :
    batched Res.empty dest cmds order
        (fun d xs => ((multiRun closed skip (st d) xs (ownStd skip reply abort) (serveStd reply abort none)).2).getD [])
      = some (batchedSpec dest cmds fun d c => expected closed (st d) (outStd skip reply abort) c) := by
  have hrun : (fun d xs => ((multiRun closed skip (st d) xs (ownStd skip reply abort) (serveStd reply abort none)).2).getD [])
      = fun (d : D) (xs : List C) => xs.map (expected closed (st d) (outStd skip reply abort)) := by
    funext d xs
    rw [multicache_positional closed skip (st d) xs reply abort (fun c _ w h => hwait d c w h)
      (fun hs c _ v => hskip hs c v)]
    rfl
  rw [hrun]
  exact mux_scatter_gather Res.empty dest cmds order _ hlen hcover

end Rv.C11
