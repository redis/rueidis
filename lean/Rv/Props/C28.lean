/-
C28 — retries happen only when safe and within policy.
Theorems over the model Rv.RetryPolicy of the retry loops in /repo/client.go, /repo/sentinel.go,
/repo/standalone.go (delegates to client.go), /repo/cluster.go and the policy in /repo/retry.go, for
every reply script (the server is an arbitrary sequence of answers), every RetryDelay function, every
moment at which the ctx is cancelled or the client is closed, and every flag combination.

Not counted as retries (excluded explicitly in every statement): re-sends after a MOVED / ASK reply
(the server redirected the command) and after errConnExpired (the connection refused the command
before writing it).
-/
import Rv.Model.RetryPolicy
namespace Rv.C28
open Rv.RetryPolicy

/-- WaitOrSkipRetry retries exactly when the delay is 0, or positive and the ctx deadline (if any) is
    further away than the delay. -/
theorem wait_or_skip (d : Int) (dl : Option Int) :
    waitOrSkip d dl = true ↔ (d = 0 ∨ (d > 0 ∧ (dl = none ∨ ∃ rem, dl = some rem ∧ rem > d))) := by
  unfold waitOrSkip
  by_cases h0 : d = 0
  · simp [h0]
  · by_cases h1 : d > 0
    · cases dl <;> simp [h0, h1]
    · simp [h0, h1]

theorem wait_or_skip_negative (d : Int) (dl : Option Int) (h : d < 0) : waitOrSkip d dl = false := by
  unfold waitOrSkip
  rw [if_neg (by omega), if_neg (by omega)]

/-- WaitOrSkipRetry skips when the ctx deadline is not further away than the delay -/
theorem wait_or_skip_deadline (d rem : Int) (h : d > 0) (hr : rem ≤ d) : waitOrSkip d (some rem) = false := by
  unfold waitOrSkip
  rw [if_neg (by omega), if_pos h]
  exact decide_eq_false (by omega)

/-- whenever WaitOrSkipRetry says "retry", RetryDelay returned a non-negative delay -/
theorem wait_or_skip_nonneg {d : Int} {dl : Option Int} (h : waitOrSkip d dl = true) : d ≥ 0 := by
  rcases (wait_or_skip d dl).1 h with h | ⟨h, _⟩ <;> omega

/-- WaitForRetry honours ctx.Done: it never waits longer than the delay, and not longer than the time
    until the ctx is cancelled -/
theorem wait_for_honours_ctx (d : Int) (c : Option Int) :
    0 ≤ waitFor d c ∧ waitFor d c ≤ max d 0 ∧ (∀ t, c = some t → 0 ≤ t → waitFor d c ≤ t) := by
  unfold waitFor
  cases c with
  | none => dsimp only; exact ⟨by omega, by omega, nofun⟩
  | some t =>
    dsimp only
    refine ⟨by omega, by omega, fun t' ht _ => ?_⟩
    cases ht; omega

/-- the default policy (exponential backoff with jitter, capped at 1 s) never returns "do not retry" -/
theorem default_delay_bounds (attempts jitter : Nat) :
    1 ≤ defaultDelayUs attempts jitter ∧ defaultDelayUs attempts jitter ≤ 1000000 := by
  unfold defaultDelayUs
  have hb : 2 ^ (min 20 attempts) ≥ 1 := Nat.one_le_two_pow
  dsimp only
  omega

/-- singleClient.isRetryable / sentinelClient.isRetryable: true exactly for a transport error
    (errConnExpired is one) or a LOADING reply, while the client is open and the ctx is live -/
theorem is_retryable_iff (r : Err) (closed ctxDone : Bool) :
    isRetryable r closed ctxDone = true ↔
      ((r = .transport ∨ r = .connExpired ∨ r = .loading) ∧ closed = false ∧ ctxDone = false) := by
  cases r <;> simp [isRetryable, Err.isRedis]

theorem not_retryable {r : Err} {closed ctxDone : Bool}
    (h : r ≠ .transport ∧ r ≠ .connExpired ∧ r ≠ .loading) : isRetryable r closed ctxDone = false :=
  Bool.eq_false_iff.2 fun hr =>
    ((is_retryable_iff r closed ctxDone).1 hr).1.elim h.1 fun e => e.elim h.2.1 h.2.2

/-- clusterClient.shouldRefreshRetry says "retry" exactly for LOADING / TRYAGAIN / CLUSTERDOWN replies, or
    a transport error on a live ctx — and only while the client is open. (For the three error
    replies the code does not look at the ctx.) -/
theorem refresh_retry_iff (r : Err) (closed ctxDone : Bool) :
    refreshMode r closed ctxDone = .retry ↔
      (closed = false ∧ (r = .loading ∨ r = .tryAgain ∨ r = .clusterDown ∨
        ((r = .transport ∨ r = .connExpired) ∧ ctxDone = false))) := by
  cases r <;> cases closed <;> simp [refreshMode]

/-- …and "redirect" exactly for MOVED / ASK while open -/
theorem refresh_redirect_iff (r : Err) (closed ctxDone : Bool) :
    (refreshMode r closed ctxDone = .move ∨ refreshMode r closed ctxDone = .ask) ↔
      (closed = false ∧ (r = .moved ∨ r = .ask)) := by
  cases r <;> cases closed <;> simp [refreshMode] <;> split <;> simp

theorem refreshMode_plain {r : Err} (closed ctxDone : Bool)
    (h : r = .ok ∨ r = .nil_ ∨ r = .plain ∨ r = .cacheAborted) : refreshMode r closed ctxDone = .none := by
  rcases h with rfl | rfl | rfl | rfl <;> cases closed <;> rfl

/-- the gate every client puts before a retry: retries enabled, and (Do / DoMulti) the command
    read-only or marked retryable -/
theorem gate {retry cc rt : Bool} (h : (retry && (!cc || rt)) = true) :
    retry = true ∧ (cc = true → rt = true) := by
  cases retry <;> cases cc <;> cases rt <;> simp at h ⊢

/-- the replies after which `seqDo` hands the command to the connection again, with the attempt
    number and the number of connection calls made at that moment -/
def seqResends (e : Env) (checkCmd retryable : Bool) : List Err → (attempts calls : Nat) → List (Err × Nat × Nat)
  | [], _, _ => []
  | r :: rest, attempts, calls =>
    let calls := calls + 1
    if r = .connExpired then (r, attempts, calls) :: seqResends e checkCmd retryable rest attempts calls
    else if r ≠ .ok && e.retry && (!checkCmd || retryable) && isRetryable r (e.closed calls) (e.ctxDone calls) then
      if waitOrSkip (e.delay attempts 0) e.deadline then
        (r, attempts, calls) :: seqResends e checkCmd retryable rest (attempts + 1) calls
      else []
    else []

/-- `seqResends` is the re-send log of the model function the correspondence suite runs -/
theorem seq_sends_eq (e : Env) (cc rt : Bool) (script : List Err) (a c : Nat) :
    (seqDo e cc rt script a c).sends = 1 + (seqResends e cc rt script a c).length := by
  induction script generalizing a c with
  | nil => rfl
  | cons r rest ih =>
    have step : ∀ a' dc, ((seqDo e cc rt rest a' (c + 1)).resend dc).sends =
        1 + ((seqResends e cc rt rest a' (c + 1)).length + 1) := fun a' dc => by
      show (seqDo e cc rt rest a' (c + 1)).sends + 1 = _
      rw [ih, Nat.add_assoc]
    -- the two functions branch alike: push `.sends` and `1 + length` to the leaves
    unfold seqDo seqResends
    simp only [apply_ite Out.sends, apply_ite List.length, apply_ite (1 + ·), step, List.length_cons,
      List.length_nil]

/-- **retry_requires, single / standalone / sentinel Do (checkCmd) and DoCache.** Every re-send that is
    not caused by errConnExpired happens only if retries are enabled, the command is read-only or
    marked retryable (Do), the reply was a transport error or LOADING, the client was not closed, the
    ctx was not done, and RetryDelay(attempts, cmd) was non-negative and passed the deadline check. -/
theorem seq_retry_requires (e : Env) (cc rt : Bool) (script : List Err) (a c : Nat)
    (r : Err) (a' c' : Nat) (h : (r, a', c') ∈ seqResends e cc rt script a c) (hx : r ≠ .connExpired) :
    e.retry = true ∧ (cc = true → rt = true) ∧ (r = .transport ∨ r = .loading) ∧
    e.closed c' = false ∧ e.ctxDone c' = false ∧ e.delay a' 0 ≥ 0 ∧
    waitOrSkip (e.delay a' 0) e.deadline = true := by
  induction script generalizing a c with
  | nil => cases h
  | cons r0 rest ih =>
    unfold seqResends at h
    by_cases h1 : r0 = .connExpired
    · rw [if_pos h1] at h
      rcases List.mem_cons.1 h with h | h
      · cases h; exact absurd h1 hx
      · exact ih _ _ h
    · rw [if_neg h1] at h
      split at h
      · next hc =>
        split at h
        · next hw =>
          rcases List.mem_cons.1 h with h | h
          · cases h
            rw [Bool.and_eq_true, Bool.and_assoc, Bool.and_eq_true] at hc
            obtain ⟨hi, hcl, hcd⟩ := (is_retryable_iff _ _ _).1 hc.2
            exact ⟨(gate hc.1.2).1, (gate hc.1.2).2, hi.imp_right fun h => h.resolve_left hx, hcl, hcd,
              wait_or_skip_nonneg hw, hw⟩
          · exact ih _ _ h
        · cases h
      · cases h

/-- **disable_retry_disables** (single / standalone / sentinel Do, DoCache): with DisableRetry the only
    re-sends left are those after errConnExpired. -/
theorem seq_disable_retry_disables (e : Env) (cc rt : Bool) (script : List Err) (a c : Nat)
    (hd : e.retry = false) : ∀ t ∈ seqResends e cc rt script a c, t.1 = .connExpired :=
  fun ⟨r, a', c'⟩ ht => Decidable.byContradiction fun hx =>
    nomatch hd.symm.trans (seq_retry_requires e cc rt script a c r a' c' ht hx).1

/-- a non-retryable command is never re-sent by Do except after errConnExpired -/
theorem seq_non_retryable_never_resent (e : Env) (script : List Err) (a c : Nat) :
    ∀ t ∈ seqResends e true false script a c, t.1 = .connExpired :=
  fun ⟨r, a', c'⟩ ht => Decidable.byContradiction fun hx =>
    nomatch (seq_retry_requires e true false script a c r a' c' ht hx).2.1 rfl

/-- **plain_errors_returned** (Do / DoCache): an ordinary reply, a nil, an ordinary error reply or
    ErrDoCacheAborted is returned as it is after exactly one send, without asking RetryDelay. -/
theorem seq_plain_errors_returned (e : Env) (cc rt : Bool) (r : Err) (rest : List Err) (a c : Nat)
    (h : r = .ok ∨ r = .nil_ ∨ r = .plain ∨ r = .cacheAborted ∨ r = .tryAgain ∨ r = .clusterDown ∨
         r = .moved ∨ r = .ask) :
    seqDo e cc rt (r :: rest) a c = ⟨1, [], r⟩ := by
  have hne : r ≠ .transport ∧ r ≠ .connExpired ∧ r ≠ .loading := by
    rcases h with h | h | h | h | h | h | h | h <;> subst h <;> exact ⟨nofun, nofun, nofun⟩
  unfold seqDo
  rw [if_neg hne.2.1, not_retryable hne, Bool.and_false]
  rfl

/-- if the scan decides to retry, some member had a retryable error and its own RetryDelay passed -/
theorem scan_retry (e : Env) (attempts : Nat) (closed ctxDone : Bool) (rs : List Err) (i : Nat)
    (h : (scan e attempts closed ctxDone rs i).2 = true) :
    ∃ k r, rs[k]? = some r ∧ isRetryable r closed ctxDone = true ∧
      waitOrSkip (e.delay attempts (i + k)) e.deadline = true := by
  induction rs generalizing i with
  | nil => cases h
  | cons r rest ih =>
    unfold scan at h
    have h' : (scan e attempts closed ctxDone rest (i + 1)).2 = true ∨
        isRetryable r closed ctxDone = true ∧ waitOrSkip (e.delay attempts i) e.deadline = true := by
      split at h
      · next h1 =>
        split at h
        · next h2 => exact .inr ⟨h1, h2⟩
        · exact .inl h
      · exact .inl h
    rcases h' with h' | ⟨h1, h2⟩
    · obtain ⟨k, r', hk, hr, hw⟩ := ih (i + 1) h'
      exact ⟨k + 1, r', hk, hr, by rw [← Nat.add_assoc, Nat.add_right_comm]; exact hw⟩
    · exact ⟨0, r, rfl, h1, h2⟩

/-- **retry_requires, single / standalone / sentinel DoMulti (checkCmd) and DoMultiCache.** The batch is
    handed to the connection a second time only if retries are enabled, EVERY member is read-only or
    marked retryable (DoMulti), and some member's reply was a transport error or LOADING for which
    RetryDelay(attempts, that member) was non-negative and passed the deadline check, with the client
    open and the ctx live. (The whole batch is re-sent, including members that succeeded.) -/
theorem seq_multi_retry_requires (e : Env) (cc allR : Bool) (fuel : Nat) (scripts : List (List Err)) (a c : Nat)
    (h : (seqMulti e cc allR (fuel + 1) scripts a c).rounds ≥ 2) :
    e.retry = true ∧ (cc = true → allR = true) ∧
    ∃ k r, (heads scripts)[k]? = some r ∧ (r = .transport ∨ r = .connExpired ∨ r = .loading) ∧
      e.closed (c + 1) = false ∧ e.ctxDone (c + 1) = false ∧ e.delay a k ≥ 0 ∧
      waitOrSkip (e.delay a k) e.deadline = true := by
  unfold seqMulti at h
  split at h
  · next hc =>
    dsimp only at h
    split at h
    · next hs =>
      obtain ⟨k, r, hk, hr, hw⟩ := scan_retry e a _ _ _ 0 hs
      obtain ⟨hi, hcl, hcd⟩ := (is_retryable_iff _ _ _).1 hr
      rw [Nat.zero_add] at hw
      exact ⟨(gate hc).1, (gate hc).2, k, r, hk, hi, hcl, hcd, wait_or_skip_nonneg hw, hw⟩
    · exact absurd h (Nat.not_succ_le_self 1)
  · exact absurd h (Nat.not_succ_le_self 1)

/-- **disable_retry_disables** (DoMulti / DoMultiCache): one round, replies returned as they are -/
theorem seq_multi_disable_retry_disables (e : Env) (cc allR : Bool) (fuel : Nat) (scripts : List (List Err))
    (a c : Nat) (hd : e.retry = false) :
    seqMulti e cc allR (fuel + 1) scripts a c = ⟨1, [], heads scripts⟩ := by
  unfold seqMulti; simp [hd]

/-- one non-retryable member keeps DoMulti from ever re-sending the batch -/
theorem seq_multi_needs_all_retryable (e : Env) (fuel : Nat) (scripts : List (List Err)) (a c : Nat) :
    seqMulti e true false (fuel + 1) scripts a c = ⟨1, [], heads scripts⟩ := by
  unfold seqMulti; simp

private theorem scan_plain (e : Env) (attempts : Nat) (closed ctxDone : Bool) (rs : List Err) (i : Nat)
    (h : ∀ r ∈ rs, isRetryable r closed ctxDone = false) : scan e attempts closed ctxDone rs i = ([], false) := by
  induction rs generalizing i with
  | nil => rfl
  | cons r rest ih =>
    unfold scan
    rw [h r List.mem_cons_self, if_neg Bool.false_ne_true]
    exact ih (i + 1) fun r' hr' => h r' (List.mem_cons_of_mem _ hr')

/-- **plain_errors_returned** (DoMulti / DoMultiCache): if no member's reply is a transport error or
    LOADING, the replies are returned as they are after one round, without asking RetryDelay. -/
theorem seq_multi_plain_errors_returned (e : Env) (cc allR : Bool) (fuel : Nat) (scripts : List (List Err))
    (a c : Nat) (h : ∀ r ∈ heads scripts, r ≠ .transport ∧ r ≠ .connExpired ∧ r ≠ .loading) :
    seqMulti e cc allR (fuel + 1) scripts a c = ⟨1, [], heads scripts⟩ := by
  unfold seqMulti
  dsimp only
  rw [scan_plain e a (e.closed (c + 1)) (e.ctxDone (c + 1)) (heads scripts) 0
    fun r hr => not_retryable (h r hr)]
  split <;> rfl

/-- the replies after which `clDo` hands the command to a connection again -/
def clResends (e : Env) (checkCmd retryable : Bool) : List Err → (attempts calls : Nat) → List (Err × Nat × Nat)
  | [], _, _ => []
  | r :: rest, attempts, calls =>
    let calls := calls + 1
    if r = .connExpired then (r, attempts, calls) :: clResends e checkCmd retryable rest attempts calls
    else match refreshMode r (e.closed calls) (e.ctxDone calls) with
      | .move | .ask => (r, attempts, calls) :: clResends e checkCmd retryable rest attempts calls
      | .retry =>
        if e.retry && (!checkCmd || retryable) then
          if waitOrSkip (e.delay attempts 0) e.deadline then
            (r, attempts, calls) :: clResends e checkCmd retryable rest (attempts + 1) calls
          else []
        else []
      | .none => []

/-- `clResends` is the re-send log of the model function the correspondence suite runs -/
theorem cl_sends_eq (e : Env) (cc rt : Bool) (script : List Err) (a c : Nat) (node : Bool) :
    (clDo e cc rt script a c node).sends.length = 1 + (clResends e cc rt script a c).length := by
  induction script generalizing a c node with
  | nil => rfl
  | cons r rest ih =>
    have step : ∀ a' n' dc, ((clDo e cc rt rest a' (c + 1) n').cons node dc).sends.length =
        1 + ((clResends e cc rt rest a' (c + 1)).length + 1) := fun a' n' dc => by
      show (clDo e cc rt rest a' (c + 1) n').sends.length + 1 = _
      rw [ih, Nat.add_assoc]
    unfold clDo clResends
    dsimp only
    cases refreshMode r (e.closed (c + 1)) (e.ctxDone (c + 1)) <;>
      simp only [apply_ite COut.sends, apply_ite List.length, apply_ite (1 + ·), step, List.length_cons,
        List.length_nil]

/-- **retry_requires, cluster do (checkCmd) and doCache.** Every re-send that is neither a MOVED/ASK
    redirect nor caused by errConnExpired happens only if retries are enabled, the command is read-only
    or marked retryable (do), the client is open, the reply was LOADING / TRYAGAIN / CLUSTERDOWN or a
    transport error on a live ctx, and RetryDelay was non-negative and passed the deadline check.

    MISSING (as the code is): for the three error replies the loop does not look at the ctx — see
    `cluster_error_reply_retry_ignores_ctx`; the re-issued call then reaches pipe.Do, which returns
    ctx.Err() before writing (assumption of this property, pipe.go). -/
theorem cluster_retry_requires (e : Env) (cc rt : Bool) (script : List Err) (a c : Nat)
    (r : Err) (a' c' : Nat) (h : (r, a', c') ∈ clResends e cc rt script a c)
    (hx : r ≠ .connExpired) (hm : r ≠ .moved) (hk : r ≠ .ask) :
    e.retry = true ∧ (cc = true → rt = true) ∧ e.closed c' = false ∧
    (r = .loading ∨ r = .tryAgain ∨ r = .clusterDown ∨ (r = .transport ∧ e.ctxDone c' = false)) ∧
    e.delay a' 0 ≥ 0 ∧ waitOrSkip (e.delay a' 0) e.deadline = true := by
  induction script generalizing a c with
  | nil => cases h
  | cons r0 rest ih =>
    unfold clResends at h
    by_cases h1 : r0 = .connExpired
    · rw [if_pos h1] at h
      rcases List.mem_cons.1 h with h | h
      · cases h; exact absurd h1 hx
      · exact ih _ _ h
    · rw [if_neg h1] at h
      cases hmode : refreshMode r0 (e.closed (c + 1)) (e.ctxDone (c + 1)) with
      | none => simp only [hmode] at h; cases h
      | move | ask =>
        simp only [hmode] at h
        rcases List.mem_cons.1 h with h | h
        · cases h
          exact (((refresh_redirect_iff r _ _).1 (by rw [hmode]; simp)).2.elim hm hk).elim
        · exact ih _ _ h
      | retry =>
        simp only [hmode] at h
        split at h
        · next hc =>
          split at h
          · next hw =>
            rcases List.mem_cons.1 h with h | h
            · cases h
              obtain ⟨hcl, hr⟩ := (refresh_retry_iff _ _ _).1 hmode
              -- the last alternative of `refresh_retry_iff` loses errConnExpired
              exact ⟨(gate hc).1, (gate hc).2, hcl,
                hr.imp_right (Or.imp_right (Or.imp_right fun h => ⟨h.1.resolve_right hx, h.2⟩)),
                wait_or_skip_nonneg hw, hw⟩
            · exact ih _ _ h
          · cases h
        · cases h

/-- as the code is: a LOADING reply is retried by the cluster loop although the ctx is already done
    (single/sentinel clients return it). The second call is made with the done ctx. -/
theorem cluster_error_reply_retry_ignores_ctx :
    let e : Env := ⟨true, fun _ _ => 0, none, some 1, none⟩
    (clDo e true true [.loading] 1 0 false).sends.length = 2 ∧
    (seqDo e true true [.loading] 1 0).sends = 1 := by decide

/-- **disable_retry_disables** (cluster do / doCache): only redirects and errConnExpired re-send -/
theorem cluster_disable_retry_disables (e : Env) (cc rt : Bool) (script : List Err) (a c : Nat)
    (hd : e.retry = false) :
    ∀ t ∈ clResends e cc rt script a c, t.1 = .connExpired ∨ t.1 = .moved ∨ t.1 = .ask :=
  fun ⟨r, a', c'⟩ ht => Decidable.byContradiction fun hn =>
    have ⟨hx, hn⟩ := not_or.1 hn
    nomatch hd.symm.trans (cluster_retry_requires e cc rt script a c r a' c' ht hx (not_or.1 hn).1 (not_or.1 hn).2).1

/-- **plain_errors_returned** (cluster do / doCache) -/
theorem cluster_plain_errors_returned (e : Env) (cc rt : Bool) (r : Err) (rest : List Err) (a c : Nat)
    (node : Bool) (h : r = .ok ∨ r = .nil_ ∨ r = .plain ∨ r = .cacheAborted) :
    clDo e cc rt (r :: rest) a c node = ⟨[node], [], r⟩ := by
  unfold clDo
  rw [if_neg (by rcases h with h | h | h | h <;> subst h <;> nofun), refreshMode_plain _ _ h]

/-- a command that is neither read-only nor marked retryable is never re-sent by cluster `do`,
    except after MOVED / ASK / errConnExpired -/
theorem cluster_non_retryable_never_resent (e : Env) (script : List Err) (a c : Nat) :
    ∀ t ∈ clResends e true false script a c, t.1 = .connExpired ∨ t.1 = .moved ∨ t.1 = .ask :=
  fun ⟨r, a', c'⟩ ht => Decidable.byContradiction fun hn =>
    have ⟨hx, hn⟩ := not_or.1 hn
    nomatch (cluster_retry_requires e true false script a c r a' c' ht hx (not_or.1 hn).1 (not_or.1 hn).2).2.1 rfl

private theorem clLabels_length (r : Option Nat) (l : List Bool) (i : Nat) (b : Bool) :
    (clLabels r l i b).length = l.length := by
  induction l generalizing i b with
  | nil => simp [clLabels]
  | cons x rest ih => simp [clLabels, ih]

/-- **the connection's membership in the topology never justifies a re-send.** Whatever connection call a
    topology refresh removes the command's node at (`retireAt`, any or none), the retry decisions of
    cluster `do` are the same: a refresh only changes WHERE a justified re-send goes (`N` instead of `H`),
    the number of sends stays 1 + the justified re-sends, and for a non-retryable command these are only
    MOVED / ASK / errConnExpired re-sends. (In particular a transport / ErrClosing error on a connection
    that a refresh retired does not make a write eligible for a second send.) -/
theorem cluster_retired_conn_gives_no_extra_send (e : Env) (retireAt : Option Nat) (cc rt : Bool)
    (script : List Err) (a c : Nat) :
    (clLabels retireAt (clDo e cc rt script a c false).sends 1 false).length =
      1 + (clResends e cc rt script a c).length ∧
    (cc = true → rt = false → ∀ t ∈ clResends e cc rt script a c,
      t.1 = .connExpired ∨ t.1 = .moved ∨ t.1 = .ask) := by
  refine ⟨by rw [clLabels_length, cl_sends_eq], ?_⟩
  intro hcc hrt
  subst hcc; subst hrt
  exact cluster_non_retryable_never_resent e script a c

/-- `clusterClient.Nodes()`: the per-node client retries iff the cluster client does (`!DisableRetry`),
    and carries `DisableCache` unchanged — the two flags are not interchangeable -/
theorem node_client_flags (disableRetry disableCache : Bool) :
    nodeClientFlags disableRetry disableCache = (!disableRetry, disableCache) ∧
    nodeClientUsesCacheCalls disableRetry disableCache = !disableCache := ⟨rfl, rfl⟩

/-- **disable_retry_disables for per-node clients**: with DisableRetry, whatever DisableCache is, a command
    sent through `Nodes()[addr]` is never re-sent except after errConnExpired -/
theorem node_client_disable_retry_disables (e : Env) (dc cc rt : Bool) (script : List Err) (a c : Nat)
    (he : e.retry = (nodeClientFlags true dc).1) :
    ∀ t ∈ seqResends e cc rt script a c, t.1 = .connExpired :=
  seq_disable_retry_disables e cc rt script a c (by rw [he]; rfl)

/-- why member `p'` is in the map of the next round: it was there already, or member `p` got reply `r`
    which was a redirect, or a retryable failure of a retryable command with retries enabled and a
    NON-NEGATIVE RetryDelay -/
def Requeued (e : Env) (checkCmd : Bool) (retryable : Nat → Bool) (attempts : Nat) (closed ctxDone : Bool)
    (p' p : Pending) (r : Err) : Prop :=
  p'.idx = p.idx ∧
  (((r = .moved ∨ r = .ask) ∧ closed = false ∧ p'.node = !p.node) ∨
   (refreshMode r closed ctxDone = .retry ∧ e.retry = true ∧ (checkCmd = true → retryable p.idx = true) ∧
    e.delay attempts p.idx ≥ 0 ∧ p'.node = p.node))

/-- **retry_requires, cluster DoMulti (checkCmd) / DoMultiCache, per member, repaired code.** -/
theorem cluster_multi_member_retry_requires (e : Env) (cc : Bool) (rt : Nat → Bool) (a : Nat)
    (closed cd : Bool) (st : Round) (p : Pending) (r : Err) (p' : Pending)
    (h : p' ∈ (resultOne true e cc rt a closed cd st p r).next) :
    p' ∈ st.next ∨ Requeued e cc rt a closed cd p' p r := by
  unfold resultOne at h
  cases hm : refreshMode r closed cd with
  | none => simp only [hm] at h; exact .inl h
  | move | ask =>
    simp only [hm] at h
    rcases List.mem_append.1 h with h | h
    · exact .inl h
    · have := (refresh_redirect_iff r closed cd).1 (by rw [hm]; simp)
      cases List.mem_singleton.1 h
      exact .inr ⟨rfl, .inl ⟨this.2, this.1, rfl⟩⟩
  | retry =>
    simp only [hm] at h
    split at h
    · exact .inl h
    · next hc =>
      split at h
      · exact .inl h
      · next hd =>
        rcases List.mem_append.1 h with h | h
        · exact .inl h
        · cases List.mem_singleton.1 h
          simp only [Bool.or_eq_true, Bool.not_eq_true', Bool.and_eq_true, not_or, not_and,
            Bool.not_eq_false, Bool.true_and, decide_eq_true_eq] at hc hd
          exact .inr ⟨rfl, .inr ⟨hm, hc.1, fun hcc => by simpa using hc.2 hcc, by omega, rfl⟩⟩

/-- …lifted to a whole round: every member queued for the next round is justified by the reply some
    member of this round received -/
theorem cluster_multi_round_retry_requires (e : Env) (cc : Bool) (rt : Nat → Bool) (a : Nat)
    (closed cd : Bool) (pend : List Pending) (scripts : List (List Err)) (st : Round) (p' : Pending)
    (h : p' ∈ (roundFold true e cc rt a closed cd pend scripts st).1.next) :
    p' ∈ st.next ∨ ∃ p ∈ pend, ∃ r, Requeued e cc rt a closed cd p' p r := by
  induction pend generalizing scripts st with
  | nil => exact Or.inl (by simpa [roundFold] using h)
  | cons p ps ih =>
    unfold roundFold at h
    rcases ih _ _ h with h1 | ⟨q, hq, r, hr⟩
    · rcases cluster_multi_member_retry_requires e cc rt a closed cd st p _ p' h1 with h2 | h2
      · exact Or.inl h2
      · exact Or.inr ⟨p, by simp, _, h2⟩
    · exact Or.inr ⟨q, by simp [hq], r, hr⟩

/-- the code BEFORE the repair (`fixed = false`): the per-member statement is false. Witness: a
    two-command batch, command 0 answers MOVED, command 1 (read-only) fails with a transport error and
    its RetryDelay is −1 — command 1 is queued again and sent a second time in the redirect round. -/
theorem cluster_multi_unrepaired_resends_negative_delay :
    let e : Env := ⟨true, fun _ i => if i = 1 then -1 else 0, none, none, none⟩
    (((clMulti false e true (fun _ => true) false false 5 [⟨0, false⟩, ⟨1, false⟩]
        [[.moved], [.transport]] 1).flatten.filter fun ev => ev.1 == 1).length = 2) ∧
    ¬ (∀ (st : Round) (p : Pending) (r : Err) (p' : Pending),
        p' ∈ (resultOne false e true (fun _ => true) 1 false false st p r).next →
        p' ∈ st.next ∨ Requeued e true (fun _ => true) 1 false false p' p r) := by
  refine ⟨by decide, ?_⟩
  intro h
  rcases h {} ⟨1, false⟩ .transport ⟨1, false⟩ (by decide) with h | ⟨_, h | h⟩
  · simp at h
  · simp at h
  · simp at h

/-- the repaired code on the same witness: command 1 is sent once, its transport error is returned -/
theorem cluster_multi_repaired_witness :
    let e : Env := ⟨true, fun _ i => if i = 1 then -1 else 0, none, none, none⟩
    let run := clMulti true e true (fun _ => true) false false 5 [⟨0, false⟩, ⟨1, false⟩]
      [[.moved], [.transport]] 1
    (run.flatten.filter fun ev => ev.1 == 1).length = 1 ∧
    (run.flatten.filter fun ev => ev.1 == 0).length = 2 := by decide

/-- **disable_retry_disables** (cluster DoMulti / DoMultiCache): only redirects queue a member again -/
theorem cluster_multi_disable_retry_disables (e : Env) (cc : Bool) (rt : Nat → Bool) (a : Nat)
    (closed cd : Bool) (st : Round) (p : Pending) (r : Err) (p' : Pending) (fixed : Bool)
    (hd : e.retry = false) (h : p' ∈ (resultOne fixed e cc rt a closed cd st p r).next) :
    p' ∈ st.next ∨ ((r = .moved ∨ r = .ask) ∧ p' = ⟨p.idx, !p.node⟩) := by
  unfold resultOne at h
  cases hm : refreshMode r closed cd with
  | none => simp only [hm] at h; exact .inl h
  | move | ask =>
    simp only [hm] at h
    rcases List.mem_append.1 h with h | h
    · exact .inl h
    · exact .inr ⟨((refresh_redirect_iff r closed cd).1 (by rw [hm]; simp)).2, List.mem_singleton.1 h⟩
  | retry => simp [hm, hd] at h; exact .inl h

/-- **plain_errors_returned** (cluster DoMulti / DoMultiCache): an ordinary reply, nil, ordinary error or
    ErrDoCacheAborted queues nothing and asks no RetryDelay -/
theorem cluster_multi_plain_errors_returned (e : Env) (cc : Bool) (rt : Nat → Bool) (a : Nat)
    (closed cd : Bool) (st : Round) (p : Pending) (r : Err) (fixed : Bool)
    (h : r = .ok ∨ r = .nil_ ∨ r = .plain ∨ r = .cacheAborted) :
    resultOne fixed e cc rt a closed cd st p r = { st with events := st.events ++ [(p.idx, p.node, r, none)] } := by
  unfold resultOne
  rw [refreshMode_plain closed cd h]

example : (seqDo ⟨true, fun _ _ => 0, none, none, none⟩ true true [.transport, .loading, .plain] 1 0) =
    ⟨3, [1, 2], .plain⟩ := by decide
example : (seqDo ⟨true, fun a _ => if a = 2 then -1 else 0, none, none, none⟩ true true
    [.transport, .loading, .plain] 1 0) = ⟨2, [1, 2], .loading⟩ := by decide
example : (seqDo ⟨true, fun _ _ => 0, none, none, none⟩ true false [.transport] 1 0) = ⟨1, [], .transport⟩ := by
  decide
example : (seqDo ⟨true, fun _ _ => 0, none, some 1, none⟩ true true [.transport, .ok] 1 0) =
    ⟨1, [], .transport⟩ := by decide
example : (seqDo ⟨true, fun _ _ => 7200, some 3600, none, none⟩ true true [.transport] 1 0) =
    ⟨1, [1], .transport⟩ := by decide
example : (clDo ⟨true, fun _ _ => 0, none, none, none⟩ true true [.moved, .tryAgain, .ok] 1 0 false).sends =
    [false, true, false] := by decide
example : (seqMulti ⟨true, fun _ i => if i = 0 then -1 else 0, none, none, none⟩ true true 4
    [[.transport], [.transport]] 1 0).rounds = 2 := by decide

end Rv.C28
