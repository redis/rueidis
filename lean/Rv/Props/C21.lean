/-
C21 — commands reach replicas only when the caller opts in.
Theorems over the model Rv.ReplicaRoute of the routing decisions in /repo/standalone.go,
/repo/sentinel.go and /repo/cluster.go, for every command (abstracted to the value the
caller's SendToReplicas function returns for it — an arbitrary Boolean per command), every
selector result (any integer), every number of replicas and every option combination.
-/
import Rv.Model.ReplicaRoute
namespace Rv.C21
open Rv.ReplicaRoute

/-- the nodes a target may denote include a replica of a shard with `nrep` replicas -/
def reachesReplica (t : Target) (nrep : Nat) : Bool :=
  match t with
  | .replica _ => true
  | .someReplica => true
  | .anyNode => decide (nrep ≥ 1)     -- the map iteration covers replicas whenever there are any
  | _ => false

/-- the target is a definite member of the topology (no panic, no missing connection) -/
def wellTargeted (t : Target) (nrep : Nat) : Bool :=
  match t with
  | .primary => true
  | .replica i => decide (i < nrep)
  | .someReplica => decide (nrep ≥ 1)
  | _ => false

private theorem allOpted_iff (l : List Bool) : allOpted l = true ↔ ∀ o ∈ l, o = true := by
  induction l with
  | nil => simp [allOpted]
  | cons a r ih => simp [allOpted, ih]

/-- Do / DoStream / Receive of the standalone client: a replica is used only if a
    SendToReplicas function is configured and returned true for this command. -/
theorem standalone_replica_only_if_opted (s : Standalone) (opted : Bool) (sel : Int)
    (h : reachesReplica (s.one opted sel) s.nrep = true) : s.hasPred = true ∧ opted = true := by
  unfold Standalone.one at h
  cases hp : s.hasPred <;> cases ho : opted <;> simp_all [reachesReplica]

/-- …and everything else goes to the primary. -/
theorem standalone_else_primary (s : Standalone) (opted : Bool) (sel : Int)
    (h : ¬ (s.hasPred = true ∧ opted = true)) : s.one opted sel = .primary := by
  unfold Standalone.one
  cases hp : s.hasPred <;> cases ho : opted <;> simp_all

/-- DoMulti / DoMultiStream of the standalone client: the batch goes to a replica only if
    SendToReplicas returned true for EVERY command of the (non-empty) batch. -/
theorem standalone_batch_needs_all (s : Standalone) (opted : List Bool) (sel : Int)
    (h : reachesReplica (s.multi opted sel) s.nrep = true) :
    s.hasPred = true ∧ opted ≠ [] ∧ ∀ o ∈ opted, o = true := by
  unfold Standalone.multi at h
  by_cases hc : ((s.hasPred && allOpted opted) && decide (opted.length > 0)) = true
  · simp only [Bool.and_eq_true, decide_eq_true_eq] at hc
    refine ⟨hc.1.1, ?_, (allOpted_iff opted).1 hc.1.2⟩
    intro he; simp [he] at hc
  · simp [hc, reachesReplica] at h

/-- one command of the batch for which SendToReplicas returned false sends the whole batch to the primary -/
theorem standalone_batch_one_unopted (s : Standalone) (opted : List Bool) (sel : Int)
    (h : false ∈ opted) : s.multi opted sel = .primary := by
  unfold Standalone.multi
  have : allOpted opted = false := Bool.eq_false_iff.2 fun hb => nomatch (allOpted_iff opted).1 hb false h
  simp [this]

/-- DoCache / DoMultiCache of the standalone client never use a replica. -/
theorem standalone_cache_primary (s : Standalone) : s.cache = .primary := rfl

theorem nNodes_le (s : Standalone) : s.nNodes ≤ s.nrep + 1 := by
  unfold Standalone.nNodes; split <;> omega

/-- an in-range result `k` ≥ 1 selects exactly replica `k-1`, which exists -/
theorem standalone_selector_in_range (s : Standalone) (sel : Int) (hs : s.hasSel = true)
    (h0 : 0 < sel) (h1 : sel < (s.nNodes : Int)) :
    s.pick sel = .replica (sel.toNat - 1) ∧ sel.toNat - 1 < s.nrep := by
  have hn := nNodes_le s
  unfold Standalone.pick
  have h2 : ¬ (sel < 0 ∨ sel ≥ (s.nNodes : Int)) := by omega
  have h3 : ¬ sel = 0 := by omega
  simp only [hs, if_true, h2, if_false, h3]
  exact ⟨trivial, by omega⟩

/-- how `standalone.pick` and the cluster's `_pick` use a ReadNodeSelector result: an index outside the
    `n` listed nodes counts as 0 (the primary), index `k ≥ 1` is replica `k - 1`; with at most
    `nrep + 1` nodes listed that replica exists -/
theorem clamped_well_targeted (sel : Int) {n : Int} {nrep : Nat} (hn : n ≤ nrep + 1) :
    wellTargeted (if (if sel < 0 ∨ sel ≥ n then 0 else sel) = 0 then .primary
      else .replica ((if sel < 0 ∨ sel ≥ n then 0 else sel).toNat - 1)) nrep = true := by
  by_cases h : sel < 0 ∨ sel ≥ n
  · rw [if_pos h]; rfl
  · rw [if_neg h]
    split
    · rfl
    · exact decide_eq_true (by omega)

/-- with a selector, or with at least one replica, the standalone pick never panics and always names an
    existing node -/
theorem standalone_pick_well_targeted (s : Standalone) (sel : Int)
    (h : s.hasSel = true ∨ s.nrep ≥ 1) : wellTargeted (s.pick sel) s.nrep = true := by
  unfold Standalone.pick
  split
  · exact clamped_well_targeted sel (by have := nNodes_le s; omega)
  · next hs =>
    have hr : s.nrep ≥ 1 := h.resolve_left hs
    split
    · exact decide_eq_true (by omega)
    · rw [if_neg (by omega)]; exact decide_eq_true hr

/-- SendToReplicas without any replica and without a selector (reachable through
    Standalone.EnableRedirect): `rand.IntN(0)` panics on the first opted command. -/
theorem standalone_no_replica_panics :
    (Standalone.one ⟨true, 0, false, false⟩ true 0) = .panic := by decide

/-- pick (Do, DoCache, DoStream, Receive): the replica connection is used exactly when the
    client is ReplicaOnly or SendToReplicas is configured and returned true; otherwise the master. -/
theorem sentinel_replica_iff_opted (c : Sentinel) (opted : Bool) :
    (reachesReplica (c.pick opted) 1 = true ↔ (c.replicaOnly = true ∨ (c.hasPred = true ∧ opted = true))) ∧
    (¬ (c.replicaOnly = true ∨ (c.hasPred = true ∧ opted = true)) → c.pick opted = .primary) := by
  unfold Sentinel.pick
  cases c.replicaOnly <;> cases c.hasPred <;> cases opted <;> simp [reachesReplica]

/-- pickMulti∘sendAllToReplica (DoMulti, DoMultiCache, DoMultiStream): the batch goes to the replica
    connection exactly when ReplicaOnly, or SendToReplicas returned true for EVERY command. -/
theorem sentinel_batch_needs_all (c : Sentinel) (opted : List Bool) :
    (reachesReplica (c.multi opted) 1 = true ↔
      (c.replicaOnly = true ∨ (c.hasPred = true ∧ ∀ o ∈ opted, o = true))) ∧
    (¬ (c.replicaOnly = true ∨ (c.hasPred = true ∧ ∀ o ∈ opted, o = true)) → c.multi opted = .primary) := by
  unfold Sentinel.multi Sentinel.sendAll
  rw [← allOpted_iff]
  cases c.replicaOnly <;> cases c.hasPred <;> cases allOpted opted <;> simp [reachesReplica]

theorem sentinel_batch_one_unopted (c : Sentinel) (opted : List Bool) (hr : c.replicaOnly = false)
    (h : false ∈ opted) : c.multi opted = .primary :=
  (sentinel_batch_needs_all c opted).2 fun
    | .inl h1 => nomatch hr.symm.trans h1
    | .inr ⟨_, h2⟩ => nomatch h2 false h

/-- Every connection call of a batch — the first one and every
    re-send of the rest after errConnExpired — goes to the connection picked for the whole batch. -/
theorem recovery_keeps_connection_class (n : Nat) (t : Target) (exp : List Nat) (start : Nat) :
    ∀ call ∈ recoverCalls n t exp start, call.2 = t := by
  induction exp generalizing start with
  | nil => intro call h; cases List.mem_singleton.1 h; rfl
  | cons p rest ih =>
    intro call h
    unfold recoverCalls at h
    split at h
    · rcases List.mem_cons.1 h with rfl | h
      · rfl
      · exact ih p call h
    · cases List.mem_singleton.1 h; rfl

/-- hence a sentinel batch that is not opted in as a whole (and no ReplicaOnly) reaches only the primary,
    however often its tail is re-sent because the connection expired — the SendToReplicas predicate is
    never re-evaluated on a suffix -/
theorem sentinel_recovery_needs_all (c : Sentinel) (opted : List Bool) (exp : List Nat)
    (hr : c.replicaOnly = false) (h : false ∈ opted) :
    ∀ call ∈ c.multiCalls opted exp, call.2 = .primary := fun call hc =>
  (recovery_keeps_connection_class _ _ _ _ call hc).trans (sentinel_batch_one_unopted c opted hr h)

/-- the same for the standalone client -/
theorem standalone_recovery_needs_all (s : Standalone) (cache : Bool) (opted : List Bool) (sel : Int)
    (exp : List Nat) (h : false ∈ opted ∨ cache = true) :
    ∀ call ∈ s.multiCalls cache opted sel exp, call.2 = .primary := by
  intro call hc
  rw [recovery_keeps_connection_class _ _ _ _ call hc]
  cases cache with
  | true => rfl
  | false => exact standalone_batch_one_unopted s opted sel (h.resolve_right Bool.false_ne_true)

/-- newClusterClient rejects ReplicaOnly together with SendToReplicas / ReadNodeSelector -/
def Cluster.valid (c : Cluster) : Prop :=
  ¬ (c.replicaOnly = true ∧ c.hasPred = true) ∧ ¬ (c.replicaOnly = true ∧ c.hasRns = true)

/-- the write table holds the shard's primary unless the client is ReplicaOnly -/
theorem cluster_wslot_primary (c : Cluster) (g : Shard) (h : c.replicaOnly = false) :
    c.wslot g = .primary := by simp [Cluster.wslot, h]

/-- ReplicaOnly clusters put a replica into the write table when the shard has one, else the primary -/
theorem cluster_wslot_replica_only (c : Cluster) (g : Shard) (h : c.replicaOnly = true) :
    c.wslot g = if g.nrep ≥ 1 then .someReplica else .primary := by
  simp [Cluster.wslot, h]

/-- an in-range ReplicaSelector result stores exactly that replica -/
theorem cluster_replica_selector_in_range (c : Cluster) (g : Shard) (r : Int)
    (hv : c.replicaOnly = false) (hp : c.hasPred = true) (hn : c.hasRns = false)
    (h : 0 ≤ r ∧ r < (g.nrep : Int)) : c.rslot g (some r) = .single (.replica r.toNat) := by
  unfold Cluster.rslot
  have h1 : g.nrep ≥ 1 := by omega
  simp [hv, hp, hn, h1, h]

/-- which table a keyed command consults in `_pick` (Do, DoCache, DoStream, Receive): the read table
    iff SendToReplicas is configured and returned true (and the read table exists), else the write table -/
theorem cluster_pick_table (c : Cluster) (g : Shard) (opted : Bool) (rsel : Option Int) (rns : Int) :
    c.pick g false opted rsel rns =
      if c.hasPred = true ∧ opted = true ∧ c.replicaOnly = false then c.readPick g rsel rns else c.wslot g := by
  unfold Cluster.pick Cluster.hasRslots
  cases c.hasPred <;> cases opted <;> cases c.replicaOnly <;> simp

/-- `_pickMulti`: per member, read table iff opted — unless the batch contains a keyless command
    (then every member uses the write table) -/
theorem cluster_multi_table (c : Cluster) (g : Shard) (init opted : Bool) (rsel : Option Int) (rns : Int) :
    c.multiOne g init opted rsel rns =
      if init = false ∧ c.hasPred = true ∧ opted = true ∧ c.replicaOnly = false
      then c.readPick g rsel rns else c.wslot g := by
  unfold Cluster.multiOne Cluster.hasRslots
  cases init <;> cases c.hasPred <;> cases opted <;> cases c.replicaOnly <;> simp

/-- `_pickMultiCache`: per member, read table iff opted -/
theorem cluster_multicache_table (c : Cluster) (g : Shard) (opted : Bool) (rsel : Option Int) (rns : Int) :
    c.multiCacheOne g opted rsel rns =
      if c.hasPred = true ∧ opted = true ∧ c.replicaOnly = false then c.readPick g rsel rns else c.wslot g := by
  unfold Cluster.multiCacheOne Cluster.hasRslots
  cases c.hasPred <;> cases opted <;> cases c.replicaOnly <;> simp

private theorem only_if_opted_of_table {c : Cluster} {g : Shard} {opted : Bool} {rsel : Option Int} {rns : Int}
    {t : Target} {p : Prop} [Decidable p] (ht : t = if p then c.readPick g rsel rns else c.wslot g)
    (hp : p → c.hasPred = true ∧ opted = true) (h : reachesReplica t g.nrep = true) :
    c.replicaOnly = true ∨ (c.hasPred = true ∧ opted = true) := by
  subst ht
  split at h
  · exact .inr (hp ‹_›)
  · unfold Cluster.wslot at h
    cases hr : c.replicaOnly
    · rw [hr] at h; cases h
    · exact .inl rfl

/-- the full-strength statement for one cluster entry point -/
def ClusterOnlyIfOpted (route : Cluster → Shard → Bool → Bool → Option Int → Int → Target) : Prop :=
  ∀ (c : Cluster) (g : Shard) (keyless opted : Bool) (rsel : Option Int) (rns : Int),
    Cluster.valid c → reachesReplica (route c g keyless opted rsel rns) g.nrep = true →
      c.replicaOnly = true ∨ (c.hasPred = true ∧ opted = true)

/-- Cluster `_pick` (Do, DoCache, DoStream, Receive), **keyed commands only**: a replica is reached only
    if the client is ReplicaOnly or SendToReplicas returned true for the command.

    MISSING: keyless commands (`cmds.InitSlot`: PING, DBSIZE, FLUSHALL, SCRIPT LOAD, PUBLISH …) — see
    `cluster_keyless_reaches_replica_unopted`: the statement is false for them. -/
theorem cluster_replica_only_if_opted_partial (c : Cluster) (g : Shard) (opted : Bool) (rsel : Option Int)
    (rns : Int) (h : reachesReplica (c.pick g false opted rsel rns) g.nrep = true) :
    c.replicaOnly = true ∨ (c.hasPred = true ∧ opted = true) :=
  only_if_opted_of_table (cluster_pick_table c g opted rsel rns) (fun hc => ⟨hc.1, hc.2.1⟩) h

/-- The property is FALSE for cluster `Do` on the unchanged code: a keyless command on a client with no
    SendToReplicas and no ReplicaOnly is handed to the first connection of a map iteration over all
    known nodes, replicas included (witness: one shard with one replica, `PING`). -/
theorem cluster_keyless_reaches_replica_unopted :
    ¬ ClusterOnlyIfOpted (fun c g keyless opted rsel rns => c.pick g keyless opted rsel rns) := by
  intro h
  have := h ⟨false, false, false⟩ ⟨1⟩ true false none 0 (by simp [Cluster.valid])
    (by simp [Cluster.pick, reachesReplica])
  simp at this

/-- `_pickMulti` (DoMulti): every member — keyless ones included — reaches a replica only if the
    client is ReplicaOnly or SendToReplicas returned true for that member. Full strength. -/
theorem cluster_multi_replica_only_if_opted :
    ClusterOnlyIfOpted (fun c g init opted rsel rns => c.multiOne g init opted rsel rns) := by
  intro c g init opted rsel rns _ h
  exact only_if_opted_of_table (cluster_multi_table c g init opted rsel rns) (fun hc => ⟨hc.2.1, hc.2.2.1⟩) h

/-- `_pickMultiCache` (DoMultiCache): same, per member. Full strength (cacheable commands have a key). -/
theorem cluster_multicache_replica_only_if_opted :
    ClusterOnlyIfOpted (fun c g _ opted rsel rns => c.multiCacheOne g opted rsel rns) := by
  intro c g _ opted rsel rns _ h
  exact only_if_opted_of_table (cluster_multicache_table c g opted rsel rns) (fun hc => ⟨hc.1, hc.2.1⟩) h

/-- cluster DoMultiStream with at least one keyed command: a replica only if ReplicaOnly or ALL opted -/
theorem cluster_multistream_needs_all (c : Cluster) (g : Shard) (opted : List Bool) (rsel : Option Int)
    (rns : Int) (h : reachesReplica (c.multiStream g false opted rsel rns) g.nrep = true) :
    c.replicaOnly = true ∨ (c.hasPred = true ∧ ∀ o ∈ opted, o = true) := by
  unfold Cluster.multiStream at h
  rcases cluster_replica_only_if_opted_partial c g _ rsel rns h with h1 | ⟨h1, h2⟩
  · exact Or.inl h1
  · exact Or.inr ⟨h1, (allOpted_iff opted).1 h2⟩

set_option linter.unusedVariables false in -- `hv` is not needed
/-- keyed cluster routing never panics and never leaves the shard: it names an existing node -/
theorem cluster_pick_well_targeted (c : Cluster) (g : Shard) (opted : Bool) (rsel : Option Int) (rns : Int)
    (hv : Cluster.valid c) : wellTargeted (c.pick g false opted rsel rns) g.nrep = true := by
  rw [cluster_pick_table]
  split
  · next hc =>
    unfold Cluster.readPick Cluster.rslot
    rw [hc.2.2, hc.1, if_neg Bool.false_ne_true, if_neg (by decide)]
    split
    · next h1 =>
      cases c.hasRns
      · rw [if_neg Bool.false_ne_true]
        cases rsel with
        | none => exact decide_eq_true h1
        | some r =>
          dsimp only
          split
          · exact decide_eq_true (by omega)
          · rfl
      · exact clamped_well_targeted rns (Int.le_refl _)
    · rfl
  · unfold Cluster.wslot
    split
    · next h1 =>
      rw [Bool.and_eq_true, decide_eq_true_eq] at h1
      exact decide_eq_true h1.2
    · rfl

/-- **C21, first clause.** In every mode and at every entry point a command can reach a replica only if
    the caller opted in for it (SendToReplicas true; for standalone/sentinel batches and cluster
    DoMultiStream: for every command of the batch) or the client is ReplicaOnly.

    MISSING: cluster Do/DoStream/DoMultiStream/Receive of **keyless** commands —
    `cluster_keyless_reaches_replica_unopted` proves the statement false there. -/
theorem replica_only_if_opted_partial :
    (∀ (s : Standalone) (o : Bool) (sel : Int), reachesReplica (s.one o sel) s.nrep = true →
        s.hasPred = true ∧ o = true) ∧
    (∀ (s : Standalone) (os : List Bool) (sel : Int), reachesReplica (s.multi os sel) s.nrep = true →
        s.hasPred = true ∧ os ≠ [] ∧ ∀ o ∈ os, o = true) ∧
    (∀ (s : Standalone), reachesReplica s.cache s.nrep = false) ∧
    (∀ (c : Sentinel) (o : Bool), reachesReplica (c.pick o) 1 = true →
        c.replicaOnly = true ∨ (c.hasPred = true ∧ o = true)) ∧
    (∀ (c : Sentinel) (os : List Bool), reachesReplica (c.multi os) 1 = true →
        c.replicaOnly = true ∨ (c.hasPred = true ∧ ∀ o ∈ os, o = true)) ∧
    (∀ (c : Cluster) (g : Shard) (o : Bool) (rsel : Option Int) (rns : Int),
        reachesReplica (c.pick g false o rsel rns) g.nrep = true →
        c.replicaOnly = true ∨ (c.hasPred = true ∧ o = true)) ∧
    ClusterOnlyIfOpted (fun c g init o rsel rns => c.multiOne g init o rsel rns) ∧
    ClusterOnlyIfOpted (fun c g _ o rsel rns => c.multiCacheOne g o rsel rns) :=
  ⟨standalone_replica_only_if_opted, standalone_batch_needs_all, fun _ => rfl,
   fun c o h => ((sentinel_replica_iff_opted c o).1).1 h,
   fun c os h => ((sentinel_batch_needs_all c os).1).1 h,
   cluster_replica_only_if_opted_partial, cluster_multi_replica_only_if_opted,
   cluster_multicache_replica_only_if_opted⟩

/-- **C21, batches (non-cluster).** One command without opt-in keeps the whole batch on the primary. -/
theorem batch_needs_all (os : List Bool) (h : false ∈ os) :
    (∀ (s : Standalone) (sel : Int), s.multi os sel = .primary) ∧
    (∀ (c : Sentinel), c.replicaOnly = false → c.multi os = .primary) :=
  ⟨fun s sel => standalone_batch_one_unopted s os sel h, fun c hr => sentinel_batch_one_unopted c os hr h⟩

/-- **C21, last clause.** A node-selector result outside the candidate list falls back to the primary:
    standalone ReadNodeSelector, cluster ReplicaSelector (table build) and cluster ReadNodeSelector (pick). -/
theorem selector_out_of_range_falls_back :
    (∀ (s : Standalone) (sel : Int), s.hasSel = true → (sel < 0 ∨ sel ≥ (s.nNodes : Int)) →
        s.pick sel = .primary) ∧
    (∀ (c : Cluster) (g : Shard) (r : Int), c.replicaOnly = false → c.hasPred = true → c.hasRns = false →
        (r < 0 ∨ r ≥ (g.nrep : Int)) → c.rslot g (some r) = .single .primary) ∧
    (∀ (c : Cluster) (g : Shard) (rsel : Option Int) (rns : Int), c.replicaOnly = false →
        c.hasPred = true → c.hasRns = true → (rns < 0 ∨ rns ≥ (g.nrep : Int) + 1) →
        c.readPick g rsel rns = .primary) := by
  refine ⟨fun s sel hs h => ?_, fun c g r hv hp hn h => ?_, fun c g rsel rns hv hp hn h => ?_⟩
  · -- with EnableReplicaAZInfo off `s.nodes` is empty and every result is outside
    unfold Standalone.pick
    simp [hs, h]
  · unfold Cluster.rslot
    simp only [hv, hp, hn, Bool.false_eq_true, if_false, Bool.not_true]
    split
    · rw [if_neg (by omega)]
    · rfl
  · unfold Cluster.readPick Cluster.rslot pickR
    by_cases h1 : g.nrep ≥ 1 <;> simp [hv, hp, hn, h1, h]

example : reachesReplica (Standalone.one ⟨true, 2, true, true⟩ true 2) 2 = true := by decide
example : Standalone.one ⟨true, 2, true, true⟩ true 2 = .replica 1 := by decide
example : Standalone.one ⟨true, 2, true, true⟩ true 3 = .primary := by decide
example : Standalone.one ⟨true, 2, true, false⟩ true 1 = .primary := by decide   -- s.nodes empty
example : Standalone.multi ⟨true, 1, false, false⟩ [true, true] 0 = .replica 0 := by decide
example : Standalone.multi ⟨true, 1, false, false⟩ [true, false] 0 = .primary := by decide
example : Cluster.pick ⟨false, true, false⟩ ⟨2⟩ false true (some 1) 0 = .replica 1 := by decide
example : Cluster.pick ⟨false, true, false⟩ ⟨2⟩ false true (some 2) 0 = .primary := by decide
example : Cluster.pick ⟨false, true, true⟩ ⟨2⟩ false true none 2 = .replica 1 := by decide
example : Cluster.pick ⟨false, true, true⟩ ⟨2⟩ false true none (-1) = .primary := by decide
example : Cluster.pick ⟨true, false, false⟩ ⟨2⟩ false false none 0 = .someReplica := by decide
example : Cluster.valid ⟨false, true, true⟩ := by simp [Cluster.valid]

end Rv.C21
