/-
C33 — built commands carry exactly the caller's arguments (builder part).

Model: Rv.Model.Builder (`run`/`build` over method records). Tables: Rv.Gen.Builders.allCmds
(regenerated from /repo/internal/cmds/gen_*.go on every run).

TRUSTED: floats (`strconv.FormatFloat(x,'f',-1,64)` is the shortest round-trip decimal —
a property of strconv, see Rv/Model/Builder.lean).
OUTSIDE THIS FILE: that the client never modifies or recycles a command before it is written.
The recycle point of cluster.go's retry batches is modelled in Rv/Model/ClusterMulti.lean and
proved in Rv/Props/C20.lean (`retry_recycled_only_when_clean`, `abandoned_batch_not_recycled`);
the recycle points of the other client loops are not modelled in Lean and are decided end to
end by the `reader` and `batchargv` suites (props/C33.json).
-/
import Rv.Model.BuilderCheck
import Rv.Lemmas.Builder
import Rv.Props.C18
namespace Rv.C33
open Rv.Bld Rv.Gen Rv.Gen.Builders

/-! ### argv = tokens ++ arguments in call order (any table, any path) -/

/-- `outs` lists, call by call, what the path appended: the i-th entry belongs to the i-th
    call, was produced by a method record of the table with that name on the type reached
    so far, and is exactly `callOut` of that record on the call's arguments -/
inductive Trace (ms : List Method) : String → List Call → List (List Bytes) → String → Prop
  | nil (ty : String) : Trace ms ty [] [] ty
  | cons (ty : String) (call : Call) (m : Method) (out : List Bytes) (rest : List Call)
      (outs : List (List Bytes)) (ty' : String)
      (hfind : findMethod ms ty call.name = some m)
      (hout : callOut m call.args = some out)
      (hrest : Trace ms m.result rest outs ty') : Trace ms ty (call :: rest) (out :: outs) ty'

/-- **C33 main theorem (builder part)**: a successful run appends, call by call and in call
    order, exactly the outputs of the called method records — the earlier argv is a prefix
    of the later one and nothing else is added -/
theorem argv_exact (bt : Nat) (ms : List Method) (path : List Call) (s s' : St)
    (h : run bt ms s path = .ok s') :
    ∃ outs, Trace ms s.ty path outs s'.ty ∧ s'.argv = s.argv ++ outs.flatten := by
  induction path generalizing s with
  | nil => cases h; exact ⟨[], Trace.nil _, by simp⟩
  | cons call rest ih =>
    obtain ⟨m, _, out, hm, hout, h2⟩ := run_cons_ok h
    obtain ⟨outs, htr, hfin⟩ := ih _ h2
    exact ⟨out :: outs, Trace.cons _ call m out rest outs _ hm hout htr, by simp [hfin]⟩

/-- a complete builder expression: argv of the built command is the root constructor's
    tokens followed by the per-call outputs; `Build()`/`Cache()` add nothing -/
theorem build_argv (bt : Nat) (c : Cmd) (ks0 : Nat) (path : List Call) (cache : Bool) (s : St)
    (h : build bt c ks0 path cache = .ok s) :
    ∃ outs, Trace c.methods c.ty path outs s.ty ∧ s.argv = c.tokens.map bytes ++ outs.flatten :=
  argv_exact bt c.methods path (start c ks0) s (build_ok h).1

private theorem sequence_eq_some {α : Type} {l : List (Option α)} {r : List α}
    (h : sequence l = some r) : l = r.map some := by
  induction l generalizing r with
  | nil => simp only [sequence] at h; cases h; rfl
  | cons a rest ih =>
    cases a with
    | none => simp [sequence] at h
    | some a =>
      simp only [sequence] at h
      split at h
      · rename_i l hl
        cases h
        simp [ih hl]
      · cases h

/-- what one call appends is the concatenation of its items' contributions, item by item in
    statement order: a literal contributes itself, `par i f` the formatted i-th argument,
    a spread the strings of the i-th argument, a loop its formatted elements -/
theorem callOut_items (m : Method) (args : List Val) (out : List Bytes)
    (h : callOut m args = some out) :
    ∃ parts : List (List Bytes), parts.length = m.items.length ∧ out = parts.flatten ∧
      ∀ i (hi : i < m.items.length), itemOut args m.items[i] = parts[i]? := by
  unfold callOut at h
  cases hs : sequence (m.items.map (itemOut args)) with
  | none => simp [hs] at h
  | some parts =>
    simp only [hs, Option.map_some, Option.some.injEq] at h
    have hl := sequence_eq_some hs
    have hlen : parts.length = m.items.length := by simpa using (congrArg List.length hl).symm
    refine ⟨parts, hlen, h.symm, fun i hi => ?_⟩
    have := congrArg (·[i]?) hl
    simpa [List.getElem?_eq_getElem hi, List.getElem?_eq_getElem (hlen ▸ hi)] using this

/-! ### every regenerated record has the understood shape -/

private theorem all_methods_ok : allCmds.all (fun c => c.methods.all methodOk) = true := by
  decide +kernel

private theorem method_ok {c : Cmd} (hc : c ∈ allCmds) {m : Method} (hm : m ∈ c.methods) :
    (∀ it ∈ m.items, it.named = true) ∧ m.items.filterMap Item.paramIdx = List.range m.params.length ∧
    (∀ it ∈ m.items, it.typed m.params = true) ∧ (∀ u ∈ m.keys, u.typed m.params = true) ∧
    unitsOk none m.items = true := by
  have := List.all_eq_true.mp (List.all_eq_true.mp all_methods_ok c hc) m hm
  simpa only [methodOk, paramsInOrder, Bool.and_eq_true, List.all_eq_true, beq_iff_eq, and_assoc] using this

/-- no append item of any generated method uses a formatting expression the translator has
    no name for: every item is a literal, or a parameter (or spread / loop over one)
    through one of the nine named kinds -/
theorem all_items_named : ∀ c ∈ allCmds, ∀ m ∈ c.methods, ∀ it ∈ m.items, it.named = true :=
  fun _ hc _ hm => (method_ok hc hm).1

/-- every parameter of every generated method is appended exactly once, and in parameter
    order — the caller's arguments in call order, none dropped, none duplicated -/
theorem all_params_in_call_order : ∀ c ∈ allCmds, ∀ m ∈ c.methods,
    m.items.filterMap Item.paramIdx = List.range m.params.length :=
  fun _ hc _ hm => (method_ok hc hm).2.1

/-- formatting kinds fit the Go parameter types (e.g. `.durSec` only on a time.Duration) -/
theorem all_items_well_typed : ∀ c ∈ allCmds, ∀ m ∈ c.methods, ∀ it ∈ m.items, it.typed m.params = true :=
  fun _ hc _ hm => (method_ok hc hm).2.2.1

/-- every key-slot update statement is over a `string` (single shape) or `...string`
    (variadic shape) parameter of its method -/
theorem all_keys_well_typed : ∀ c ∈ allCmds, ∀ m ∈ c.methods, ∀ u ∈ m.keys, u.typed m.params = true :=
  fun _ hc _ hm => (method_ok hc hm).2.2.2.1

/-- durations and times are converted in the unit the option names: in every generated
    method a `/time.Second` conversion directly follows the literal "EX", `/time.Millisecond`
    "PX", `.Unix()` "EXAT", `.UnixMilli()` "PXAT" -/
theorem all_units_by_option : ∀ c ∈ allCmds, ∀ m ∈ c.methods, unitsOk none m.items = true :=
  fun _ hc _ hm => (method_ok hc hm).2.2.2.2

/-- all four conversions do occur (the previous theorem is not vacuous), e.g. in SET -/
theorem units_present : ∀ f ∈ [Fmt.durSec, Fmt.durMs, Fmt.unixSec, Fmt.unixMs],
    ∃ c ∈ allCmds, c.nm = nm! "SET" ∧ ∃ m ∈ c.methods, Item.par 0 f ∈ m.items :=
  fun f hf => exists_named (by revert f hf; decide +kernel)

private theorem any_of_named (n : Nat) {p : Cmd → Bool} (h : ∃ c ∈ allCmds.find? (·.nm == n), p c = true) :
    allCmds.any p = true :=
  let ⟨c, hc, _, hp⟩ := exists_named h
  List.any_eq_true.mpr ⟨c, hc, hp⟩

private def kindWitness : PKind → Nat
  | .strSlice => nm! "TS.MGET"
  | .u64 => nm! "HSCAN"
  | .f64 => nm! "BF.INSERT"
  | .f32 | .f32s => nm! "VSIM"
  | .i64s => nm! "AI.TENSORSET"
  | .f64s => nm! "CMS.MERGE"
  | .dur | .time => nm! "GETEX"
  | _ => nm! "AI.MODELEXECUTE"

/-- every Go parameter type the translator knows occurs, and so does every item shape -/
theorem shapes_present :
    (∀ k ∈ [PKind.str, .strs, .strSlice, .i64, .u64, .f64, .f32, .i64s, .f64s, .f32s, .dur, .time],
      allCmds.any (fun c => c.methods.any (fun m => m.params.contains k)) = true) ∧
    allCmds.any (fun c => c.methods.any (fun m => m.items.any (fun it => match it with | .spread _ => true | _ => false))) = true ∧
    allCmds.any (fun c => c.methods.any (fun m => m.items.any (fun it => match it with | .loop _ _ => true | _ => false))) = true ∧
    allCmds.any (fun c => c.methods.any (fun m => m.keys.any (fun u => match u with | .many _ => true | _ => false))) = true ∧
    allCmds.any (fun c => c.methods.any (fun m => m.keys.any (fun u => match u with | .one _ => true | _ => false))) = true :=
  ⟨fun k hk => any_of_named (kindWitness k) (by revert k hk; decide +kernel),
   any_of_named (nm! "ACL DELUSER") (by decide +kernel), any_of_named (nm! "AI.TENSORSET") (by decide +kernel),
   any_of_named (nm! "BITOP") (by decide +kernel), any_of_named (nm! "AI.MODELDEL") (by decide +kernel)⟩

/-! ### integers are written in base 10 -/

/-- decimal parsing: digits only, most significant first -/
def parseDigits (acc : Nat) : Bytes → Option Nat
  | [] => some acc
  | b :: rest =>
    if 48 ≤ b.toNat ∧ b.toNat ≤ 57 then parseDigits (acc * 10 + (b.toNat - 48)) rest else none

def parseNat (bs : Bytes) : Option Nat := if bs = [] then none else parseDigits 0 bs

def parseInt : Bytes → Option Int
  | 45 :: rest => (parseNat rest).map fun n => -(n : Int)
  | bs => (parseNat bs).map fun n => (n : Int)

private theorem parseDigits_append (acc : Nat) (xs ys : Bytes) :
    parseDigits acc (xs ++ ys) = (parseDigits acc xs).bind fun a => parseDigits a ys := by
  induction xs generalizing acc with
  | nil => rfl
  | cons b rest ih =>
    simp only [List.cons_append, parseDigits]
    split
    · exact ih _
    · rfl

private theorem parseDigits_snoc (acc : Nat) (xs : Bytes) (d : Nat) (h : d < 10) :
    parseDigits acc (xs ++ [UInt8.ofNat (48 + d)]) = (parseDigits acc xs).map (· * 10 + d) := by
  rw [parseDigits_append]
  cases parseDigits acc xs with
  | none => rfl
  | some a =>
    have hd : (UInt8.ofNat (48 + d)).toNat = 48 + d := by simp only [UInt8.toNat_ofNat']; omega
    have : 48 ≤ 48 + d ∧ 48 + d ≤ 57 := by omega
    simp only [Option.bind_some, Option.map_some, parseDigits, hd, this, and_self, if_true]
    congr 1
    omega

private theorem parseDigits_fmtNat (n : Nat) : ∀ acc, ∃ k, parseDigits acc (fmtNat n) = some (acc * 10 ^ k + n) := by
  induction n using Nat.strongRecOn with
  | _ n ih =>
    intro acc
    unfold fmtNat
    split
    · rename_i h
      exact ⟨1, by simpa [parseDigits] using parseDigits_snoc acc [] n h⟩
    · obtain ⟨k, hk⟩ := ih (n / 10) (by omega) acc
      refine ⟨k + 1, ?_⟩
      rw [parseDigits_snoc _ _ _ (Nat.mod_lt _ (by decide)), hk, Option.map_some, Nat.pow_succ, Nat.add_mul,
        Nat.mul_assoc]
      congr 1
      omega

/-- `strconv.FormatUint(n, 10)` inverts decimal parsing -/
theorem parseNat_fmtNat (n : Nat) : parseNat (fmtNat n) = some n := by
  unfold parseNat
  rw [if_neg (by unfold fmtNat; split <;> simp)]
  obtain ⟨k, hk⟩ := parseDigits_fmtNat n 0
  simpa using hk

theorem fmtNat_injective (a b : Nat) (h : fmtNat a = fmtNat b) : a = b :=
  Option.some.inj (by rw [← parseNat_fmtNat a, h, parseNat_fmtNat b])

/-- `-` (45) is not a digit -/
private theorem parseInt_of_parseNat {bs : Bytes} {n : Nat} (h : parseNat bs = some n) :
    parseInt bs = some (n : Int) := by
  unfold parseInt
  split
  · simp [parseNat, parseDigits] at h
  · rw [h]; rfl

/-- `strconv.FormatInt(v, 10)` inverts decimal parsing (sign included) -/
theorem parseInt_fmtInt (v : Int) : parseInt (fmtInt v) = some v := by
  unfold fmtInt
  split
  · show (parseNat (fmtNat v.natAbs)).map (fun n => -(n : Int)) = some v
    rw [parseNat_fmtNat]
    show some (-(v.natAbs : Int)) = some v
    congr 1
    omega
  · rw [parseInt_of_parseNat (parseNat_fmtNat _)]
    congr 1
    omega

theorem fmtInt_injective (a b : Int) (h : fmtInt a = fmtInt b) : a = b :=
  Option.some.inj (by rw [← parseInt_fmtInt a, h, parseInt_fmtInt b])

/-! ### durations and times in the unit the option names -/

private theorem tdiv_trunc (ns d : Int) :
    (0 ≤ ns → ns.tdiv d = ns / d) ∧ (ns ≤ 0 → ns.tdiv d = -((-ns) / d)) := by
  refine ⟨Int.tdiv_eq_ediv_of_nonneg, fun h => ?_⟩
  have : ns = -(-ns) := by omega
  rw [this, Int.neg_tdiv, Int.tdiv_eq_ediv_of_nonneg (by omega)]
  simp

/-- EX: whole seconds of the duration, truncated toward zero (Go's `d / time.Second`) -/
theorem durSeconds_spec (ns : Int) :
    (0 ≤ ns → durSeconds ns = ns / 1000000000) ∧ (ns ≤ 0 → durSeconds ns = -((-ns) / 1000000000)) :=
  tdiv_trunc ns _

/-- PX: whole milliseconds of the duration, truncated toward zero -/
theorem durMillis_spec (ns : Int) :
    (0 ≤ ns → durMillis ns = ns / 1000000) ∧ (ns ≤ 0 → durMillis ns = -((-ns) / 1000000)) :=
  tdiv_trunc ns _

/-- a 1500 ms duration is sent as EX 1 / PX 1500; −1500 ms as EX −1 (truncation, not floor) -/
example : fmtInt (durSeconds 1500000000) = bytes "1" ∧ fmtInt (durMillis 1500000000) = bytes "1500" ∧
    fmtInt (durSeconds (-1500000000)) = bytes "-1" := by decide +kernel

/-- EXAT: the Unix time in seconds; PXAT: in milliseconds (no int64 overflow for any time
    whose seconds fit in 53 bits) -/
theorem unix_spec (sec : Int) (nsec : Nat) (hs : -(2^53) ≤ sec ∧ sec < 2^53) (hn : nsec < 1000000000) :
    unixSeconds sec nsec = sec ∧ unixMillis sec nsec = sec * 1000 + (nsec / 1000000 : Nat) := by
  refine ⟨rfl, ?_⟩
  unfold unixMillis wrap64
  have : (nsec / 1000000 : Nat) < 1000 := by omega
  simp only [Int.ofNat_eq_natCast]
  omega

/-! ### key-slot update shapes: C18's `keyStep` / `keyFold` are what the generated methods run -/

theorem keyOne_is_keyStep (ks : Nat) (k : Bytes) : keyOne ks k = Slot.keyStep ks k := rfl

/-- on a cluster builder (NoSlot bit clear) the variadic-key shape is `Rv.Slot.keyFold`:
    every key is checked against the slot so far, a cross-slot key panics — so C18's
    `cluster_builder_keys` applies to generated `Key(key ...string)` methods as well -/
theorem keyMany_cluster (ks : Nat) (keys : List Bytes) (h : ¬ ks / Slot.noSlot % 2 = 1) :
    keyMany ks keys = Slot.keyFold ks keys := by
  unfold keyMany
  rw [if_neg h]
  induction keys generalizing ks with
  | nil => rfl
  | cons k rest ih =>
    simp only [checkFold, Slot.keyFold, Slot.keyStep, h, if_false, Slot.check]
    by_cases hc : ks = Slot.initSlot ∨ ks = Slot.slot k
    · -- the new `ks` is a slot number, below the NoSlot bit
      simp only [hc, if_true]
      exact ih _ (by have := Rv.C18.slot_lt k; simp only [Slot.noSlot]; omega)
    · simp only [hc, if_false]

/-- on a NoSlot builder the variadic-key shape takes the slot of the FIRST key (the loop
    `break`s) and never panics -/
theorem keyMany_noslot (ks : Nat) (keys : List Bytes) (h : ks / Slot.noSlot % 2 = 1) :
    keyMany ks keys = some (match keys with | [] => ks | k :: _ => Slot.noSlot + Slot.slot k) := by
  unfold keyMany
  rw [if_pos h]
  cases keys <;> rfl

/-- a call only changes `ks` through the key-slot updates of its record, in statement order -/
theorem apply_ks (bt : Nat) (m : Method) (s s' : St) (args : List Val)
    (h : apply bt m s args = .ok s') : keyUpds args s.ks m.keys = .ok s'.ks := by
  obtain ⟨_, _, hks, _, rfl⟩ := apply_ok h
  exact hks

/-- a method without key-slot statements leaves `ks` alone -/
theorem apply_ks_nokeys (bt : Nat) (m : Method) (s s' : St) (args : List Val) (hk : m.keys = [])
    (h : apply bt m s args = .ok s') : s'.ks = s.ks := by
  have := apply_ks bt m s s' args h
  rw [hk] at this
  exact (Except.ok.inj this).symm

/-! ### non-vacuity: a concrete path through the regenerated tables -/

/-- `b.Set().Key("k").Value("v").Ex(90*time.Second).Build()` on a cluster builder -/
example :
    (allCmds.find? (·.nm == nm! "SET")).map (fun c =>
      (build Flags.blockTag c Slot.initSlot
        [⟨"Key", [.str (bytes "k")]⟩, ⟨"Value", [.str (bytes "v")]⟩, ⟨"Ex", [.dur 90000000000]⟩] false).toOption.map
        (fun s => (s.argv, s.ks, s.cf)))
    = some (some ([bytes "SET", bytes "k", bytes "v", bytes "EX", bytes "90"], 7629, 0)) := by
  decide +kernel

end Rv.C33
