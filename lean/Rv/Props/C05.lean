/-
C05 — calls honour context deadlines and cancellation.
The waiting points of the pipeline (`select` on the reply channel and ctx.Done), the admission
check for an already-done context, and the retry back-off decision. The blocking pool's wait
protocol (cancellation racing with the wake-up broadcast) is proved under C24
(`Rv.C24.no_lost_wakeup`, `Rv.C24.done_ctx_returns`); cache-flight waits under C09.
-/
import Rv.Model.Lifecycle
import Rv.Gen.PipeShape
namespace Rv.C05
open Rv.Lifecycle

/-- a call whose context is already done sends nothing (it returns before queueing or writing) -/
theorem done_ctx_sends_nothing (state waits : Nat) : admission state waits true = none := by
  simp [admission]

/-- a live context is always admitted to exactly one of: synchronous write, the queue, or an
    immediate error -/
theorem live_ctx_admitted (state waits : Nat) : ∃ a, admission state waits false = some a := by
  simp only [admission, Bool.false_eq_true, if_false]
  by_cases h1 : state = 1
  · exact ⟨_, if_pos h1⟩
  · rw [if_neg h1]
    by_cases h0 : state = 0
    · rw [if_pos h0]
      by_cases hw : waits ≠ 1
      · exact ⟨_, if_pos hw⟩
      · exact ⟨_, if_neg hw⟩
    · exact ⟨_, if_neg h0⟩

private def runWait : WaitSt → List WaitEv → WaitSt
  | s, [] => s
  | s, e :: es => runWait (waitStep s e) es

private theorem terminal_stable (s : WaitSt) (h : s ≠ .waiting) (es : List WaitEv) : runWait s es = s := by
  induction es with
  | nil => rfl
  | cons e es ih =>
    have : waitStep s e = s := by cases s <;> first | rfl | exact absurd rfl h
    rw [runWait, this, ih]

private theorem first_decides (pre post : List WaitEv) (hpre : ∀ e ∈ pre, e = .other) (e : WaitEv)
    (he : waitStep .waiting e ≠ .waiting) : runWait .waiting (pre ++ e :: post) = waitStep .waiting e := by
  induction pre with
  | nil => exact terminal_stable _ he _
  | cons e' pre ih =>
    rw [hpre e' List.mem_cons_self]
    exact ih fun x hx => hpre x (List.mem_cons_of_mem _ hx)

/-- For every event sequence at a pipeline waiting point: once ctx.Done
    fires while the call is still waiting, the call has left the wait with the context error and
    never re-enters it, whatever happens afterwards (a late reply is drained by the abandon
    goroutine, C01). -/
theorem wait_exits_on_done (pre post : List WaitEv) (hpre : ∀ e ∈ pre, e = .other) :
    runWait .waiting (pre ++ .ctxDone :: post) = .gotCtxErr :=
  first_decides pre post hpre .ctxDone (by decide)

/-- a reply that arrives first is returned, a later cancellation does not turn it into an error -/
theorem reply_first_wins (pre post : List WaitEv) (hpre : ∀ e ∈ pre, e = .other) :
    runWait .waiting (pre ++ .reply :: post) = .gotReply :=
  first_decides pre post hpre .reply (by decide)

/-- The back-off never sleeps past the context deadline:
    it waits only when there is no deadline or the deadline is further away than the delay,
    and a negative delay never retries. -/
theorem retry_skip_when_deadline_short (delay : Int) (t : Int) :
    (waitOrSkip delay (some t) = .wait delay → 0 < delay ∧ delay < t) ∧
    (delay < 0 → waitOrSkip delay (some t) = .skip) ∧
    (0 < delay → t ≤ delay → waitOrSkip delay (some t) = .skip) := by
  unfold waitOrSkip
  refine ⟨?_, ?_, ?_⟩
  · intro h
    by_cases h0 : delay = 0
    · simp [h0] at h
    · by_cases hp : delay > 0
      · simp only [h0, hp, if_false, if_true] at h
        by_cases ht : t > delay
        · exact ⟨hp, ht⟩
        · simp [ht] at h
      · simp [h0, hp] at h
  · intro h
    have h0 : ¬ delay = 0 := by omega
    have hp : ¬ delay > 0 := by omega
    simp [h0, hp]
  · intro hp ht
    have h0 : ¬ delay = 0 := by omega
    have hnt : ¬ t > delay := by omega
    simp [h0, hp, hnt]

theorem no_deadline_waits (delay : Int) (h : 0 < delay) : waitOrSkip delay none = .wait delay := by
  have h0 : ¬ delay = 0 := by omega
  simp [waitOrSkip, h0, h]

/-- facts re-extracted from pipe.go / retry.go on every run: Do and DoMulti begin with the ctx.Err()
    check and wait with `select` on ctx.Done; WaitOrSkipRetry is the body `waitOrSkip` transcribes -/
theorem waiting_points_pinned :
    Rv.Gen.PipeShape.ctxCheckFirst_Do = true ∧ Rv.Gen.PipeShape.ctxCheckFirst_DoMulti = true ∧
    Rv.Gen.PipeShape.selectOnDone_Do = true ∧ Rv.Gen.PipeShape.selectOnDone_DoMulti = true ∧
    Rv.Gen.PipeShape.waitOrSkipSha = 0xfc9fb7818c04b177 := by
  refine ⟨rfl, rfl, rfl, rfl, rfl⟩

example : admission 1 5 false = some .queue := by decide
example : waitOrSkip 10 (some 5) = .skip := by decide

end Rv.C05
