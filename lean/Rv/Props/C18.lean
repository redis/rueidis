/-
C18 — key slots follow the Redis Cluster hash-slot specification.
-/
import Rv.Model.Slot
import Rv.Spec.Slot
namespace Rv.C18
open Rv.Slot Rv.Spec.Slot

/-! ### The regenerated table is the XMODEM table -/

theorem table_len : Rv.Gen.crc16tab.length = 256 := by decide +kernel

theorem table_ok : ∀ i, i < 256 → tab i = rounds 8 (BitVec.ofNat 16 i <<< 8) := by
  -- the whole table against the computed one (a lookup per index walks the list 256 times)
  have h : Rv.Gen.crc16tab = (List.range 256).map fun i => (rounds 8 (BitVec.ofNat 16 i <<< 8)).toNat := by
    decide +kernel
  intro i hi
  simp [tab, h, hi]

private theorem round_xor (x y : W) : round (x ^^^ y) = round x ^^^ round y := by
  unfold round
  cases hx : x.msb <;> cases hy : y.msb <;>
    simp [BitVec.msb_xor, hx, hy, BitVec.shiftLeft_xor_distrib]
  · ac_rfl
  · ac_rfl
  · have : x <<< 1 ^^^ poly ^^^ (y <<< 1 ^^^ poly) = x <<< 1 ^^^ y <<< 1 ^^^ (poly ^^^ poly) := by ac_rfl
    rw [this, BitVec.xor_self, BitVec.xor_zero]

private theorem rounds_xor (n : Nat) (x y : W) : rounds n (x ^^^ y) = rounds n x ^^^ rounds n y := by
  induction n generalizing x y with
  | zero => rfl
  | succ n ih => simp [rounds, round_xor, ih]

private theorem rounds_low (k : Nat) (x : W) (h : x.toNat * 2 ^ k < 2 ^ 16) : rounds k x = x <<< k := by
  induction k generalizing x with
  | zero => simp [rounds]
  | succ k ih =>
    have h2 : 2 * x.toNat * 2 ^ k < 2 ^ 16 := by
      rw [Nat.mul_comm 2, Nat.mul_assoc, ← Nat.pow_succ']; exact h
    have hx : 2 * x.toNat < 2 ^ 16 := Nat.lt_of_le_of_lt (Nat.le_mul_of_pos_right _ (Nat.two_pow_pos k)) h2
    have hr : round x = x <<< 1 := by
      simp [round, BitVec.msb_eq_false_iff_two_mul_lt.mpr hx]
    have ht : (x <<< 1).toNat = 2 * x.toNat := by
      rw [BitVec.toNat_shiftLeft, Nat.shiftLeft_eq, Nat.pow_one, Nat.mul_comm, Nat.mod_eq_of_lt hx]
    rw [rounds, hr, ih _ (ht ▸ h2), Nat.add_comm, BitVec.shiftLeft_add]

private def lo (c : W) : W := (c.setWidth 8).setWidth 16

private theorem split (c : W) : c = ((c >>> 8) <<< 8) ^^^ lo c := by
  ext i hi
  by_cases h : i < 8 <;>
    simp [lo, h, BitVec.getElem_shiftLeft, BitVec.getLsbD_setWidth, BitVec.getLsbD_eq_getElem hi]
  have : 8 + (i - 8) = i := by omega
  simp [this, BitVec.getLsbD_eq_getElem hi]

private theorem lo_shift (c : W) : (lo c) <<< 8 = c <<< 8 := by
  ext i hi
  by_cases h : i < 8 <;> simp [lo, h, BitVec.getElem_shiftLeft, BitVec.getLsbD_setWidth]
  have h2 : i - 8 < 8 := by omega
  simp [h2, BitVec.getLsbD_eq_getElem (show i - 8 < 16 by omega)]

/-- one table-driven step of the Go loop equals one byte of bit-serial XMODEM, for every state and byte -/
theorem stepTab_eq_spec (crc : W) (b : UInt8) : stepTab crc b = specStep crc b := by
  have hb : b.toNat < 256 := b.toNat_lt
  have hhi : (crc >>> 8).toNat < 256 := by
    simp [BitVec.toNat_ushiftRight, Nat.shiftRight_eq_div_pow]; omega
  have hidx : ((crc >>> 8).toNat % 256 ^^^ b.toNat) % 256 = (crc >>> 8).toNat ^^^ b.toNat := by
    have : (crc >>> 8).toNat ^^^ b.toNat < 2 ^ 8 := Nat.xor_lt_two_pow (n := 8) hhi hb
    rw [Nat.mod_eq_of_lt hhi, Nat.mod_eq_of_lt this]
  have hlo : rounds 8 (lo crc) = crc <<< 8 := by
    have : (lo crc).toNat = crc.toNat % 256 := by simp [lo]; omega
    rw [rounds_low 8 _ (by omega), lo_shift]
  have hB : BitVec.ofNat 16 ((crc >>> 8).toNat ^^^ b.toNat) = (crc >>> 8) ^^^ BitVec.ofNat 16 b.toNat := by
    rw [BitVec.ofNat_xor, BitVec.ofNat_toNat, BitVec.setWidth_eq]
  unfold stepTab specStep
  rw [hidx, table_ok _ (Nat.xor_lt_two_pow (n := 8) hhi hb), hB]
  conv => rhs; rw [split crc]
  rw [BitVec.xor_assoc, BitVec.xor_comm (lo crc), ← BitVec.xor_assoc, ← BitVec.shiftLeft_xor_distrib, rounds_xor, hlo]
  exact BitVec.xor_comm _ _

/-- the table-driven `crc16` of slot.go is CRC16/XMODEM on every byte string -/
theorem crc16_eq_spec (key : List UInt8) : crc16 key = crcSpec key := by
  unfold crc16 crcSpec
  generalize (0 : W) = c
  induction key generalizing c with
  | nil => rfl
  | cons b bs ih => simp [List.foldl, stepTab_eq_spec, ih]

/-! ### hash-tag scan (the two Go index loops) equals the Redis rule -/

private theorem scan_eq (c : UInt8) (l : List UInt8) (s : Nat) :
    scan c l s = s + (l.takeWhile (fun x => x != c)).length := by
  induction l generalizing s with
  | nil => simp [scan]
  | cons x xs ih =>
    by_cases h : x = c
    · simp [scan, h]
    · simp [scan, h, ih]; omega

private theorem take_takeWhile (p : UInt8 → Bool) (l : List UInt8) :
    l.take (l.takeWhile p).length = l.takeWhile p := by
  induction l with
  | nil => rfl
  | cons x xs ih =>
    by_cases h : p x <;> simp [List.takeWhile, h, ih]

private theorem drop_takeWhile (p : UInt8 → Bool) (l : List UInt8) :
    l.drop (l.takeWhile p).length = l.dropWhile p := by
  induction l with
  | nil => rfl
  | cons x xs ih =>
    by_cases h : p x <;> simp [List.takeWhile, List.dropWhile, h, ih]

private theorem len_split (p : UInt8 → Bool) (l : List UInt8) :
    (l.takeWhile p).length + (l.dropWhile p).length = l.length := by
  rw [← List.length_append, List.takeWhile_append_dropWhile]

/-- For every key byte string, the slot computed by the Go
    loops is CRC16/XMODEM of the key's hash tag modulo 16384. -/
theorem slot_eq_spec (key : List UInt8) : slot key = slotSpec key := by
  unfold slot slotSpec hashtag
  simp only [scan_eq, Nat.zero_add]
  have hlen := len_split (fun x => x != 123) key
  have hdrop := drop_takeWhile (fun x => x != 123) key
  generalize hs : (key.takeWhile (fun x => x != 123)).length = s at *
  cases hd : key.dropWhile (fun x => x != 123) with
  | nil =>
    rw [hd] at hlen
    have : s = key.length := by simpa using hlen
    simp [this, crc16_eq_spec]
  | cons b rest =>
    rw [hd, List.length_cons] at hlen
    have hne : s ≠ key.length := by omega
    have hrest : key.drop (s + 1) = rest := by
      rw [← List.drop_drop, hdrop, hd]; rfl
    have hl2 := len_split (fun x => x != 125) rest
    simp only [hne, if_false, hrest]
    generalize ht : rest.takeWhile (fun x => x != 125) = tag at *
    have he1 : (s + 1 + tag.length = key.length) ↔ (tag.length = rest.length) := by omega
    have he2 : (s + 1 + tag.length = s + 1) ↔ tag = [] := by
      rw [← List.length_eq_zero_iff]; omega
    simp only [he1, he2]
    split
    · simp [crc16_eq_spec]
    · have : s + 1 + tag.length - (s + 1) = tag.length := by omega
      rw [this, ← ht, take_takeWhile, crc16_eq_spec]

theorem slot_lt (key : List UInt8) : slot key < 16384 := by
  rw [slot_eq_spec]; unfold slotSpec; omega

/-! ### cross-slot rejection by cluster builders, acceptance by non-cluster builders -/

/-- a cluster builder (`ks = InitSlot`) accepts a key sequence iff all keys share the
    first key's slot, and then reports exactly that slot; otherwise it panics -/
theorem cluster_builder_keys (k : List UInt8) (ks : List (List UInt8)) :
    keyFold initSlot (k :: ks) =
      if ∀ x ∈ ks, slot x = slot k then some (slot k) else none := by
  have h0 : keyStep initSlot k = some (slot k) := by
    simp [keyStep, check, initSlot, noSlot]
  simp only [keyFold, h0]
  have hk := slot_lt k
  generalize slot k = v at *
  induction ks with
  | nil => simp [keyFold]
  | cons y ys ih =>
    have hy := slot_lt y
    have hn : ¬ (v / noSlot % 2 = 1) := by simp [noSlot]; omega
    have hi : v ≠ initSlot := by simp [initSlot]; omega
    by_cases e : slot y = v
    · simp [keyFold, keyStep, hn, check, hi, e, ih]
    · have e' : ¬ v = slot y := fun h => e h.symm
      simp [keyFold, keyStep, hn, check, hi, e, e']

/-- a non-cluster builder (`ks = NoSlot`) never rejects, whatever the keys' slots -/
theorem noslot_builder_accepts (keys : List (List UInt8)) (s : Nat) (hs : s < 16384) :
    ∃ v, keyFold (noSlot + s) keys = some v := by
  induction keys generalizing s with
  | nil => exact ⟨_, rfl⟩
  | cons k ks ih =>
    have h1 : (noSlot + s) / noSlot % 2 = 1 := by simp [noSlot]; omega
    simp only [keyFold, keyStep, h1, if_true]
    exact ih _ (slot_lt k)

example : crc16 "123456789".toUTF8.toList = 0x31C3#16 := by decide +kernel
example : slot "{user1000}.following".toUTF8.toList = slot "{user1000}.followers".toUTF8.toList := by
  decide +kernel
example : hashtag "foo{}{bar}".toUTF8.toList = "foo{}{bar}".toUTF8.toList := by decide +kernel
example : hashtag "foo{{bar}}zap".toUTF8.toList = "{bar".toUTF8.toList := by decide +kernel
example : keyFold initSlot ["{a}1".toUTF8.toList, "{a}2".toUTF8.toList] ≠ none := by decide +kernel
example : keyFold initSlot ["a".toUTF8.toList, "b".toUTF8.toList] = none := by decide +kernel

end Rv.C18
