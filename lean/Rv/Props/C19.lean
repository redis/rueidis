/-
C19 — cluster commands reach the node that owns their slot.

Theorems about the models `Rv.Model.Topology` (parseSlots / parseShards / parseEndpoint) and
`Rv.Model.ClusterRoute` (_refresh tables, _pick, redirectOrNew, the redirect loop of do/doCache,
the single-flight `call`). The models are tied to /repo/cluster.go and /repo/singleflight.go by the
`topology` and `route` correspondence suites (harness/cluster).
-/
import Rv.Model.Topology
import Rv.Model.ClusterRoute
import Rv.Spec.Cluster
import Rv.Lemmas.ClusterParse
import Rv.Lemmas.ClusterRoute
import Rv.Lemmas.ClusterMultiSent
namespace Rv.C19
open Rv Rv.Topology Rv.ClusterRoute Rv.ClusterParse Rv.ClusterRouteL

/-- For every reply tree, every fallback address and TLS setting both parsers return a group map:
    none of the slice indexings of the Go code can be out of range (`Res.panic` is unreachable),
    and no error value is produced either. -/
theorem parse_total_no_panic (m : Msg) (d : Bytes) (tls : Bool) :
    (∃ gs, parseSlots m d = .ok gs) ∧ (∃ gs, parseShards m d tls = .ok gs) :=
  ⟨parseSlots_ok m d, parseShards_ok m d tls⟩

/-- CLUSTER SLOTS: every entry of the reply whose master is usable (`entryMaster`: at least
    `[lo, hi, [host, port, …]]`, endpoint not `?`) has its range listed in the group keyed by that
    master, and that group's first node (`g.nodes[0]`, the node writes are routed to) is the master. -/
theorem parse_maps_ranges_to_primary (m : Msg) (d : Bytes) (gs : Groups) (h : parseSlots m d = .ok gs)
    (v : Msg) (hv : v ∈ m.arr) (a : Bytes) (hm : entryMaster d v = some a) :
    ∃ g, gget a gs = some g ∧ entryRange v ∈ g.slots ∧ g.nodes.head? = some a := by
  rw [parseSlots_eq_foldl] at h
  cases h
  obtain ⟨g, hg, hr⟩ := foldl_lists d a v hm m.arr [] hv
  exact ⟨g, hg, hr, foldl_inv HeadOK m.arr (fun gs v _ => slotsNext_headOK d gs v) [] (fun _ _ h => nomatch h) a g hg⟩

/-- CLUSTER SLOTS: nothing else gets in — every group is keyed by the non-empty master address of some
    usable entry (entries that are too short, lack the address pair or announce `?` are skipped). -/
theorem parse_slots_only_usable (m : Msg) (d : Bytes) (gs : Groups) (h : parseSlots m d = .ok gs)
    (a : Bytes) (g : Group) (hg : gget a gs = some g) :
    a ≠ [] ∧ ∃ v ∈ m.arr, entryMaster d v = some a := by
  rw [parseSlots_eq_foldl] at h
  cases h
  exact foldl_inv (KeysFrom d m.arr) m.arr (fun gs v hv => slotsNext_keysFrom d m.arr gs v hv) [] (fun _ _ h => nomatch h) a g hg

/-- CLUSTER SHARDS: every group of the result is exactly the contribution `shardGroup` of one shard of the
    reply; it is keyed by its first node (the master, swapped to the front) and contains no node without
    an address. -/
theorem parse_shards_group_from_shard (m : Msg) (d : Bytes) (tls : Bool) (gs : Groups)
    (h : parseShards m d tls = .ok gs) (k : Bytes) (g : Group) (hg : gget k gs = some g) :
    (∃ v ∈ m.arr, shardGroup d tls v = some (k, g)) ∧ g.nodes.head? = some k ∧ [] ∉ g.nodes := by
  rw [parseShards_eq_foldl] at h
  cases h
  obtain ⟨v, hv, hs⟩ := foldl_inv (FromShard d tls m.arr) m.arr (fun gs v hv => shardsNext_fromShard d tls m.arr gs v hv)
    [] (fun _ _ h => nomatch h) k g hg
  exact ⟨⟨v, hv, hs⟩, shardGroup_shape d tls v k g hs⟩

/-- CLUSTER SHARDS: a shard's group (ranges mapped to its master) is in the result unless a *later* shard
    of the reply announces the same master address — then the later one replaces it entirely (this is
    what `groups[g.nodes[0].Addr] = g` does). -/
theorem parse_shards_later_overwrites (pre post : List Msg) (v : Msg) (t : UInt8) (d : Bytes) (tls : Bool)
    (k : Bytes) (g : Group) (hs : shardGroup d tls v = some (k, g))
    (hno : ∀ v' ∈ post, ∀ g', shardGroup d tls v' ≠ some (k, g')) :
    ∃ gs, parseShards (Msg.agg t (pre ++ v :: post)) d tls = .ok gs ∧ gget k gs = some g := by
  refine ⟨_, parseShards_eq_foldl _ d tls, ?_⟩
  simp only [Msg.agg, Msg.arr, List.foldl_append, List.foldl_cons]
  apply foldl_inv (fun gs => gget k gs = some g) post (fun gs x hx => shardsNext_other d tls k g gs x (hno x hx))
  simp only [shardsNext, hs]
  rw [gget_gset, if_pos rfl]

/-- a node whose health is not `online` does not enter the shard's node list (nor can it become master) -/
theorem parse_skips_unhealthy (d : Bytes) (tls : Bool) (st : List Bytes × Option Nat) (n : Msg) (dict : Dict)
    (hd : asMapOrNil n = .ok dict) (hh : (mget kHealth dict).str ≠ kOnline) :
    shardNodeStep d tls st n = .ok st := by
  unfold shardNodeStep
  rw [hd]
  simp only [hh, ne_eq, not_false_eq_true, if_true]

/-- an endpoint of `?` yields no address, whatever the fallback and the port -/
theorem parse_skips_unknown_endpoint (fallback : Bytes) (port : Int) : parseEndpoint fallback [63] port = [] := by
  simp [parseEndpoint]

/-- an empty endpoint is replaced by the host of the address the reply came from -/
theorem parse_empty_endpoint_uses_fallback (fallback : Bytes) (port : Int) :
    parseEndpoint fallback [] port = joinHostPort (splitHost fallback) (fmtInt port) := by
  simp [parseEndpoint]

/-- `_refresh` never indexes an empty node list when the groups come from the parsers (plain mode):
    the table build succeeds and leaves no read table. -/
theorem refresh_tables_total (o : Opt) (hm : o.mode = .plain) (m : List (Bytes × Conn × Bool)) (ro : Nat → Nat → Nat)
    (gs : Groups) (hok : HeadOK gs) (huniq : ∀ kg ∈ gs, gget kg.1 gs = some kg.2) :
    ∃ w, buildTables o m ro (gs.map (·.2)) = .ok (w, none) := by
  have hne : ∀ g ∈ gs.map (·.2), g.nodes ≠ [] := by
    intro g hg
    obtain ⟨kg, hkg, rfl⟩ := List.mem_map.mp hg
    have := hok kg.1 kg.2 (huniq kg hkg)
    intro h0; rw [h0] at this; cases this
  obtain ⟨w, hw, _⟩ := buildTables_plain_gen o hm m ro (gs.map (·.2)) (fun _ => none, none) hne
  exact ⟨w, hw⟩

/-- After a table build from groups `gs` (any visiting order — Go iterates a map), for every slot that is
    listed by at least one group and on whose owner all listing groups agree, `_pick(slot)` is the
    connection of that owner's first node, i.e. of the primary the topology assigns to the slot.
    Holds for all 16384 slots at once (no enumeration: `foldl_setRange`). -/
theorem route_to_owner (o : Opt) (hm : o.mode = .plain) (m : List (Bytes × Conn × Bool)) (ro : Nat → Nat → Nat)
    (gs : List Group) (hne : ∀ g ∈ gs, g.nodes ≠ []) (w : Nat → Option Conn) (r : Option (Nat → List Conn))
    (hb : buildTables o m ro gs = .ok (w, r)) (c : Client) (hw : c.wslots = w) (hr : c.rslots = r)
    (slot : Nat) (owner : Option Conn)
    (hagree : ∀ g ∈ gs, covers g slot = true → headConn m g = owner) (hex : ∃ g ∈ gs, covers g slot = true) :
    pickSlot o c slot false = owner := by
  obtain ⟨w', hw', hspec⟩ := buildTables_plain_gen o hm m ro gs (fun _ => none, none) hne
  unfold buildTables at hb
  rw [hw'] at hb
  cases hb
  show c.wslots slot = owner
  rw [hw, hspec slot]
  exact tableSpec_agree m slot owner gs none hagree hex

/-- a slot that no group lists has no connection (`pick` then refreshes and finally answers ErrNoSlot) -/
theorem route_unlisted_none (o : Opt) (hm : o.mode = .plain) (m : List (Bytes × Conn × Bool)) (ro : Nat → Nat → Nat)
    (gs : List Group) (hne : ∀ g ∈ gs, g.nodes ≠ []) (w : Nat → Option Conn) (r : Option (Nat → List Conn))
    (hb : buildTables o m ro gs = .ok (w, r)) (slot : Nat) (hnone : ∀ g ∈ gs, covers g slot = false) :
    w slot = none := by
  obtain ⟨w', hw', hspec⟩ := buildTables_plain_gen o hm m ro gs (fun _ => none, none) hne
  unfold buildTables at hb
  rw [hw'] at hb
  cases hb
  rw [hspec slot]
  exact tableSpec_none_cover m slot gs none hnone

/-- the slot loop `for i := lo; i <= hi && i >= 0 && i < 16384; i++`: a range with a negative start
    covers nothing, a range reaching beyond 16383 is clipped -/
theorem range_semantics (lo hi : Int) (i : Nat) :
    visits lo hi i = true ↔ (0 ≤ lo ∧ lo ≤ (i : Int) ∧ (i : Int) ≤ hi ∧ i < 16384) := by
  simp [visits, Bool.and_eq_true, decide_eq_true_eq, and_assoc]

theorem moved_follows_kind (o : Opt) (cache : Bool) (cmd : Cmd) (cc : Conn) (fuel : Nat) (s : St) (resp : Reply) (red : Nat)
    (addr : Bytes) (hc : classify resp = .move addr) (hok : ConnsOK s.c)
    (hb : ¬ (o.maxRedir > 0 ∧ red + 1 > o.maxRedir)) :
    ∃ c', processLoop o cache cmd cc (fuel + 1) s resp red =
      processLoop o cache cmd cc fuel
        { c := c', w := (answer (logCall s.w { conn := (redirectOrNew s.c addr cc cmd.slot true).1, kind := if cache then .cache else .do_, items := [.cmd cmd.id] }) addr cmd).2 }
        (answer (logCall s.w { conn := (redirectOrNew s.c addr cc cmd.slot true).1, kind := if cache then .cache else .do_, items := [.cmd cmd.id] }) addr cmd).1 (red + 1) := by
  have ha := redirectOrNew_addr s.c addr cc cmd.slot true hok
  refine ⟨(redirectOrNew s.c addr cc cmd.slot true).2, ?_⟩
  conv => lhs; unfold processLoop
  simp only [hc, hb, if_false, sendOne, ha]

/-- MOVED: the command is sent again, as a single `Do`, to exactly the node named in the reply
    (`redirectOrNew` returns a connection filed under that address), and the loop continues with that
    node's reply. -/
theorem moved_follows (o : Opt) (cmd : Cmd) (cc : Conn) (fuel : Nat) (s : St) (resp : Reply) (red : Nat) (addr : Bytes)
    (hc : classify resp = .move addr) (hok : ConnsOK s.c)
    (hb : ¬ (o.maxRedir > 0 ∧ red + 1 > o.maxRedir)) :
    ∃ c', processLoop o false cmd cc (fuel + 1) s resp red =
      processLoop o false cmd cc fuel
        { c := c', w := (answer (logCall s.w { conn := (redirectOrNew s.c addr cc cmd.slot true).1, kind := .do_, items := [.cmd cmd.id] }) addr cmd).2 }
        (answer (logCall s.w { conn := (redirectOrNew s.c addr cc cmd.slot true).1, kind := .do_, items := [.cmd cmd.id] }) addr cmd).1 (red + 1) :=
  moved_follows_kind o false cmd cc fuel s resp red addr hc hok hb

/-- the connection a redirect is followed on is the one filed under the address named in the reply -/
theorem redirect_goes_to_named_node (c : Client) (addr : Bytes) (prev : Conn) (slot : Nat) (isMove : Bool)
    (h : ConnsOK' c.conns) : (redirectOrNew c addr prev slot isMove).1.addr = addr :=
  redirectOrNew_addr c addr prev slot isMove (connsOK_of' c h)

/-- …and the hypothesis is an invariant of the client: `_refresh` establishes it (given it held before, e.g. for
    the connections made from InitAddress) and `redirectOrNew` preserves it -/
theorem conns_filed_under_own_address (o : Opt) (c : Client) (gs : Groups) (addr : Bytes) (prev : Conn) (slot : Nat)
    (isMove : Bool) (h : ConnsOK' c.conns) :
    ConnsOK' (refreshConns o c gs).1 ∧ ConnsOK' (redirectOrNew c addr prev slot isMove).2.conns :=
  ⟨refreshConns_ok' o c gs h, redirectOrNew_ok' c addr prev slot isMove h⟩

/-- a reply that is neither a redirect nor retryable ends the loop and is what the caller gets -/
theorem final_reply_returned (o : Opt) (cache : Bool) (cmd : Cmd) (cc : Conn) (fuel : Nat) (s : St) (resp : Reply) (red : Nat)
    (hc : classify resp = .none) :
    processLoop o cache cmd cc (fuel + 1) s resp red = (resp, false, s, red) := by
  conv => lhs; unfold processLoop
  simp only [hc]

/-- MOVED then a final reply: the caller receives the named node's reply and that node saw the command once -/
theorem moved_then_final (o : Opt) (cmd : Cmd) (cc : Conn) (fuel : Nat) (s : St) (resp : Reply) (red : Nat) (addr : Bytes)
    (hc : classify resp = .move addr) (hok : ConnsOK s.c) (hb : ¬ (o.maxRedir > 0 ∧ red + 1 > o.maxRedir))
    (hfin : classify (answer (logCall s.w { conn := (redirectOrNew s.c addr cc cmd.slot true).1, kind := .do_, items := [.cmd cmd.id] }) addr cmd).1 = .none) :
    (processLoop o false cmd cc (fuel + 2) s resp red).1 =
        (answer (logCall s.w { conn := (redirectOrNew s.c addr cc cmd.slot true).1, kind := .do_, items := [.cmd cmd.id] }) addr cmd).1 ∧
    (processLoop o false cmd cc (fuel + 2) s resp red).2.2.1.w.log =
        s.w.log ++ [{ conn := (redirectOrNew s.c addr cc cmd.slot true).1, kind := .do_, items := [.cmd cmd.id] }] := by
  obtain ⟨c', h⟩ := moved_follows o cmd cc (fuel + 1) s resp red addr hc hok hb
  rw [h, final_reply_returned o false cmd cc fuel _ _ _ hfin]
  refine ⟨rfl, ?_⟩
  simp only [answer, logCall]
  split <;> rfl

/-- ASK: the named node receives `ASKING` immediately followed by the command, in one `DoMulti` on one
    connection, and the loop continues with the command's reply. -/
theorem ask_prefixed_by_asking (o : Opt) (cmd : Cmd) (cc : Conn) (fuel : Nat) (s : St) (resp : Reply) (red : Nat) (addr : Bytes)
    (hc : classify resp = .ask addr) (hok : ConnsOK s.c)
    (hb : ¬ (o.maxRedir > 0 ∧ red + 1 > o.maxRedir)) :
    ∃ c', processLoop o false cmd cc (fuel + 1) s resp red =
      processLoop o false cmd cc fuel
        { c := c', w := (answer (logCall s.w { conn := (redirectOrNew s.c addr cc cmd.slot false).1, kind := .multi, items := [.asking, .cmd cmd.id] }) addr cmd).2 }
        (answer (logCall s.w { conn := (redirectOrNew s.c addr cc cmd.slot false).1, kind := .multi, items := [.asking, .cmd cmd.id] }) addr cmd).1 (red + 1) := by
  have ha := redirectOrNew_addr s.c addr cc cmd.slot false hok
  refine ⟨(redirectOrNew s.c addr cc cmd.slot false).2, ?_⟩
  conv => lhs; unfold processLoop
  simp only [hc, hb, if_false, sendAsking, ha, Bool.false_eq_true]

/-- ASK does not touch the slot table (only MOVED to an unknown or the same node patches it) -/
theorem ask_leaves_table (c : Client) (addr : Bytes) (prev : Conn) (slot : Nat) :
    (redirectOrNew c addr prev slot false).2.wslots = c.wslots :=
  redirectOrNew_wslots c addr prev slot false fun h => Bool.false_ne_true h.1

/-- ASK is a one-shot redirect: for every client state, target address, previous connection and slot the write
    table after `redirectOrNew(…, RedirectAsk)` is the table before — also when the target is a node the client
    has no connection for yet (a connection is created and filed, the slot keeps pointing at its owner). -/
theorem ask_leaves_slot_table (c : Client) (addr : Bytes) (prev : Conn) (slot : Nat) :
    ∀ s, (redirectOrNew c addr prev slot false).2.wslots s = c.wslots s := by
  intro s; rw [ask_leaves_table]

/-- MOVED teaches the table: when the named node is new to the client (no connection filed under the address)
    or is the very connection that answered (it is re-created), the slot of the command points at the
    connection the command is re-sent on, every other slot is untouched; when the node is already known under
    another connection the table is left to the (lazy) refresh. Key-less commands never patch it. -/
theorem moved_updates_slot_table (c : Client) (addr : Bytes) (prev : Conn) (slot : Nat) (hs : slot ≠ initSlot) :
    ((cget addr c.conns = none ∨ ∃ h, cget addr c.conns = some (prev, h)) →
        (redirectOrNew c addr prev slot true).2.wslots slot = some (redirectOrNew c addr prev slot true).1 ∧
        ∀ s, s ≠ slot → (redirectOrNew c addr prev slot true).2.wslots s = c.wslots s) ∧
    (∀ cc h, cget addr c.conns = some (cc, h) → prev ≠ cc →
        (redirectOrNew c addr prev slot true).1 = cc ∧ (redirectOrNew c addr prev slot true).2.wslots = c.wslots) := by
  constructor
  · intro h
    unfold redirectOrNew
    simp only
    -- either way the fresh connection is returned, with the table patched at `slot`
    rcases h with h | ⟨hid, h⟩
    all_goals
      rw [h]; simp [hs]
      intro s h1 h2; exact absurd h2 h1
  · intro cc h hg hne
    unfold redirectOrNew
    simp only
    rw [hg]
    simp [hne]

theorem moved_keyless_leaves_table (c : Client) (addr : Bytes) (prev : Conn) :
    (redirectOrNew c addr prev initSlot true).2.wslots = c.wslots :=
  redirectOrNew_wslots c addr prev initSlot true fun h => h.2 rfl

theorem send_log (s : St) (cc : Conn) (cmd : Cmd) :
    (∀ cache, (sendOne cache s cc cmd).2.w.log.length = s.w.log.length + 1) ∧
    (sendAsking s cc cmd).2.w.log.length = s.w.log.length + 1 ∧
    (sendAskingCache s cc cmd).2.w.log.length = s.w.log.length + 1 :=
  have h (c : Call) : (answer (logCall s.w c) cc.addr cmd).2.log.length = s.w.log.length + 1 := by
    rw [(ClusterMultiL.answer_log _ _ _).1]; exact List.length_append
  ⟨fun _ => h _, h _, h _⟩

/-- With `MaxMovedRedirections = k > 0` the redirect loop sends the command at most `k − red` more times
    (`red` = redirects already followed), whatever the nodes answer. -/
theorem redirect_bound (o : Opt) (cache : Bool) (cmd : Cmd) (cc : Conn) (k : Nat) (hk : o.maxRedir = k) (hpos : k > 0) :
    ∀ (fuel : Nat) (s : St) (resp : Reply) (red : Nat), red ≤ k →
      (processLoop o cache cmd cc fuel s resp red).2.2.1.w.log.length ≤ s.w.log.length + (k - red) := by
  intro fuel
  induction fuel with
  | zero => intro s resp red _; exact Nat.le_add_right _ _
  | succ fuel ih =>
    intro s resp red hred
    -- a redirect that is followed logs one call and uses up one of the `k - red` remaining sends
    have step : ∀ s' : St, ¬ (o.maxRedir > 0 ∧ red + 1 > o.maxRedir) → s'.w.log.length = s.w.log.length + 1 →
        ∀ r, (processLoop o cache cmd cc fuel s' r (red + 1)).2.2.1.w.log.length ≤ s.w.log.length + (k - red) := by
      intro s' hb hs' r
      refine Nat.le_trans (ih s' r (red + 1) (by omega)) ?_
      omega
    unfold processLoop
    split
    next addr _ =>
      split
      · exact Nat.le_add_right _ _
      · exact step (sendOne cache ⟨(redirectOrNew s.c addr cc cmd.slot true).2, s.w⟩
          (redirectOrNew s.c addr cc cmd.slot true).1 cmd).2 ‹_› ((send_log _ _ _).1 cache) _
    next addr _ =>
      split
      · exact Nat.le_add_right _ _
      · cases cache
        · exact step (sendAsking ⟨(redirectOrNew s.c addr cc cmd.slot false).2, s.w⟩
            (redirectOrNew s.c addr cc cmd.slot false).1 cmd).2 ‹_› (send_log _ _ _).2.1 _
        · exact step (sendAskingCache ⟨(redirectOrNew s.c addr cc cmd.slot false).2, s.w⟩
            (redirectOrNew s.c addr cc cmd.slot false).1 cmd).2 ‹_› (send_log _ _ _).2.2 _
    · exact Nat.le_add_right _ _
    · exact Nat.le_add_right _ _

/-- once `k` redirects were followed, the next MOVED/ASK reply is handed to the caller as it is (an error) -/
theorem redirect_bound_returns_error (o : Opt) (cache : Bool) (cmd : Cmd) (cc : Conn) (fuel : Nat) (s : St)
    (resp : Reply) (red : Nat) (hpos : o.maxRedir > 0) (hred : red ≥ o.maxRedir)
    (hc : (∃ a, classify resp = .move a) ∨ (∃ a, classify resp = .ask a)) :
    processLoop o cache cmd cc (fuel + 1) s resp red = (resp, false, s, red + 1) := by
  have hb : o.maxRedir > 0 ∧ red + 1 > o.maxRedir := ⟨hpos, by omega⟩
  conv => lhs; unfold processLoop
  rcases hc with ⟨a, hc⟩ | ⟨a, hc⟩ <;> simp only [hc, hb, and_self, if_true]

/-- with `MaxMovedRedirections = 0` there is no bound: a redirect is always followed -/
example : ¬ ((0 : Nat) > 0 ∧ 5 + 1 > 0) := by omega

/-! ## redirects inside a batch round (`doretry`) -/
section batch
open Rv.ClusterMulti Rv.ClusterMultiL

/-- Both lists of a per-connection retry entry are sent: a round that starts with the pending map `p` puts on
    the wire, for every entry `(cc, re)` of `p`, one call on `cc` with the plain re-sends `re.cmds` (MOVED /
    retried commands) if there are any **and** one call with the ASK re-sends `re.asks` behind their ASKING if
    there are any — the second is not skipped when the first exists (one command answered MOVED→X and another
    ASK→X in the same round). Every command of `re.cmds ++ re.asks` is an item of a call on `cc`. -/
theorem retry_entry_both_lists_sent (o : Opt) (cache hasInit : Bool) (fuel : Nat) (p : Pending) (a : Acc) (w : World)
    (attempts redirects : Nat) (cc : Conn) (re : Retry) (hx : (cc, re) ∈ p) :
    (re.cmds ≠ [] → cmdsCall cache cc re ∈ (rounds o cache hasInit (fuel + 1) p a w attempts redirects).2.log) ∧
    (re.asks ≠ [] → asksCall cache cc re ∈ (rounds o cache hasInit (fuel + 1) p a w attempts redirects).2.log) ∧
    (∀ e ∈ re.cmds ++ re.asks, ∃ call ∈ (rounds o cache hasInit (fuel + 1) p a w attempts redirects).2.log,
        call.conn = cc ∧ Item.cmd e.2.id ∈ call.items) := by
  -- the log of the whole run extends the log of its first round
  obtain ⟨tail, ht⟩ : ∃ tail, (rounds o cache hasInit (fuel + 1) p a w attempts redirects).2.log =
      (w.log ++ (sortP p).flatMap fun x => sentBy cache x.1 x.2) ++ tail := by
    rw [← round_log o cache hasInit attempts p a w]
    exact rounds_succ o cache hasInit fuel p a w attempts redirects
      (fun out => ∃ tail, out.2.log = (round o cache hasInit attempts p a w).2.log ++ tail)
      ⟨[], (List.append_nil _).symm⟩ fun _ _ => rounds_log_prefix o cache hasInit fuel _ _ _ _ _
  have hin : ∀ call ∈ sentBy cache cc re, call ∈ (rounds o cache hasInit (fuel + 1) p a w attempts redirects).2.log := by
    intro call hc
    rw [ht]
    exact List.mem_append_left _ (List.mem_append_right _
      (List.mem_flatMap.mpr ⟨(cc, re), (mem_sortP p (cc, re)).mpr hx, hc⟩))
  refine ⟨fun h => hin _ (cmdsCall_mem cache cc re h), fun h => hin _ (asksCall_mem cache cc re h), fun e he => ?_⟩
  obtain ⟨call, hc, h1, h2⟩ := sentBy_covers cache cc re e he
  exact ⟨call, hin call hc, h1, h2⟩

/-- the ASK call of an entry is the ASKING-interleaved list: stripping ASKING gives the entry's ASK commands in
    order (so the i-th kept reply is the i-th command's), and a lone command has its ASKING directly in front -/
theorem retry_entry_asks_behind_asking (cc : Conn) (re : Retry) :
    (asksCall false cc re).conn = cc ∧ (asksCall false cc re).kind = .multi ∧
    (asksCall false cc re).items.filter (fun it => !decide (it = Item.asking)) = re.asks.map fun e => Item.cmd e.2.id :=
  ⟨rfl, rfl, askingItems_strip re.asks false⟩

end batch

open SF

def sfInv (s : S) : Prop := s.started = s.finished + (if s.inflight then 1 else 0)

private theorem sfInv_step (s : S) (e : Ev) (h : sfInv s) : sfInv (SF.step s e) := by
  unfold sfInv at h ⊢
  -- each primitive leaves the three fields alone or flips `inflight` together with one counter
  cases hi : s.inflight <;> cases e <;>
    simp only [SF.step, SF.enter, SF.delayEnter, SF.finish, hi, if_true, if_false, Bool.false_eq_true] at h ⊢ <;>
    omega

/-- Among any interleaving of `Do`, `DelayDo` and completions, `fn` is running at most once at any time:
    `started = finished` or `finished + 1`, the latter exactly while a flight is in progress. -/
theorem singleflight_one_leader (es : List Ev) :
    (SF.run {} es).started = (SF.run {} es).finished + (if (SF.run {} es).inflight then 1 else 0) :=
  foldl_inv sfInv es (fun s e _ => sfInv_step s e) {} rfl

/-- a caller arriving during a flight does not run `fn`; it is released by that flight's completion and so
    shares its outcome -/
theorem singleflight_waiters_share (s : S) (c : Nat) (l : Option Nat) (h : s.inflight = true) :
    (SF.enter s c).2 = false ∧ (SF.enter s c).1.started = s.started ∧
      (c, s.started) ∈ (SF.finish (SF.enter s c).1 l).returned := by
  simp [SF.enter, SF.finish, h]

/-- after the completion the next caller is a leader again (a fresh run of `fn`) -/
theorem singleflight_runs_again (s : S) (l : Option Nat) (c : Nat) (h : s.inflight = true) :
    (SF.enter (SF.finish s l) c).2 = true ∧ (SF.enter (SF.finish s l) c).1.started = s.started + 1 := by
  simp [SF.enter, SF.finish, h]

/-- `DelayDo` during a flight is dropped -/
theorem singleflight_delay_dedup (s : S) (h : s.inflight = true) : SF.delayEnter s = (s, false) := by
  simp [SF.delayEnter, h]

end Rv.C19
