/-
C42 — the go-redis adapter sends the same commands as go-redis.  PARTIAL BY CONSTRUCTION:
the reference (Rv.GoRedisArgv.G) is a hand transcription of go-redis v9 for the methods listed in
`Rv.GoRedisArgv.covered`; go-redis itself is not available offline.
-/
import Rv.Spec.GoRedisArgv
namespace Rv.C42
open Rv.GoRedisArgv

theorem normTok_idem (t : Tok) : normTok (normTok t) = normTok t := by cases t <;> rfl

theorem normalize_idem (ts : List Tok) : normalize (normalize ts) = normalize ts := by
  simp [normalize, List.map_map, Function.comp_def, normTok_idem]

theorem norm_idem (o : Out) : o.norm.norm = o.norm := by
  cases o <;> simp [Out.norm, normalize_idem]

theorem normalize_append (a b : List Tok) : normalize (a ++ b) = normalize a ++ normalize b := by
  simp [normalize]

theorem normalize_cons (t : Tok) (ts : List Tok) : normalize (t :: ts) = normTok t :: normalize ts := rfl

theorem normalize_congr {a a' b b' : List Tok} (h1 : normalize a = normalize a') (h2 : normalize b = normalize b') :
    normalize (a ++ b) = normalize (a' ++ b') := by
  rw [normalize_append, normalize_append, h1, h2]

/-- normalisation never touches user data and keeps length and positions -/
theorem normalize_keeps_data (ts : List Tok) :
    (normalize ts).length = ts.length ∧ ∀ s, Tok.str s ∈ normalize ts ↔ Tok.str s ∈ ts := by
  refine ⟨by simp [normalize], fun s => ?_⟩
  simp only [normalize, List.mem_map]
  constructor
  · rintro ⟨t, ht, h⟩; cases t <;> simp_all [normTok]
  · intro h; exact ⟨_, h, rfl⟩

/-- keyword case is the only thing that distinguishes the two libraries' spelling of a keyword -/
theorem kw_case_irrelevant (n : String) (a b : Bool) : normTok (.kw n a) = normTok (.kw n b) := rfl

private theorem ttl_same (d : Int) : normalize (ttlToks U d) = normalize (ttlToks L d) := by
  unfold ttlToks; split <;> rfl

/-! ### Per-method statements: for ALL argument values of the modelled shape -/

/-- all 41 "name + arguments in order" methods of `simpleTable` -/
theorem simple_same (name : String) (vs : List Val) : (A.simple name vs).norm = (G.simple name vs).norm := by
  simp [A.simple, G.simple, Out.norm, normalize, normTok]

theorem set_same (k v : String) (e : Int) : (A.set k v e).norm = (G.set k v e).norm := by
  simp only [A.set, G.set, Out.norm, normalize_append, apply_ite normalize, ttl_same]
  rfl

/-- SetArgs, whenever the adapter accepts the mode ("" / NX / XX in any letter case) -/
theorem setArgs_same (k v mode : String) (ttl : Int) (he : Bool) (ex : Int) (g kp : Bool)
    (hm : (mode.toUpper == "XX" || mode.toUpper == "NX" || mode == "") = true) :
    (A.setArgs k v mode ttl he ex g kp).norm = (G.setArgs k v mode ttl he ex g kp).norm := by
  simp only [A.setArgs, G.setArgs, hm, if_true, Out.norm, normalize_append, apply_ite normalize, ttl_same]
  rfl

/-- an unknown mode: go-redis forwards it (Redis answers with a syntax error), the adapter panics
    and sends nothing -/
theorem setArgs_invalid_mode_sends_nothing (k v mode : String) (ttl : Int) (he : Bool) (ex : Int) (g kp : Bool)
    (hm : (mode.toUpper == "XX" || mode.toUpper == "NX" || mode == "") = false) :
    A.setArgs k v mode ttl he ex g kp = .nothing := by
  simp [A.setArgs, hm]

/-- same tokens and same first three positions (SET key value), options possibly in another order -/
def sameUpToOptionOrder : Out → Out → Prop
  | .argv a, .argv g => a.Perm g ∧ a.take 3 = g.take 3
  | _, _ => False

private theorem option_moved (k v x : String) (t t' : List Tok) (h : normalize t = normalize t') :
    sameUpToOptionOrder (Out.argv ([U "SET", S k, S v, U x] ++ t)).norm
      (Out.argv ([L "SET", S k, S v] ++ t' ++ [L x])).norm := by
  simp only [Out.norm, sameUpToOptionOrder, normalize_append, h]
  exact ⟨List.Perm.append_left [U "SET", S k, S v] (List.perm_append_singleton (U x) _).symm, rfl⟩

/-- SetNX / SetXX with an expiry: same tokens, same first three positions (SET key value), but the
    adapter's builder puts NX/XX BEFORE the expiry while go-redis appends it AFTER — equal only up to
    the order of SET's options.  MISSING: equality under `normalize` alone does not hold. -/
theorem setNX_upto_option_order_partial (k v : String) (e : Int) :
    sameUpToOptionOrder (A.setNX k v e).norm (G.setNX k v e).norm := by
  unfold A.setNX G.setNX
  split
  · exact ⟨List.Perm.refl _, rfl⟩
  · split
    · exact option_moved k v "NX" [U "KEEPTTL"] [L "KEEPTTL"] rfl
    · exact option_moved k v "NX" _ _ (ttl_same e)

theorem setXX_upto_option_order_partial (k v : String) (e : Int) :
    sameUpToOptionOrder (A.setXX k v e).norm (G.setXX k v e).norm := by
  refine option_moved k v "XX" _ _ ?_
  simp only [apply_ite normalize, ttl_same]
  rfl

/-- the option order really differs: witness -/
theorem setNX_order_differs : (A.setNX "k" "v" sec).norm ≠ (G.setNX "k" "v" sec).norm := by decide

/-- GetEx for every expiration: positive (PX/EX), zero (PERSIST), negative (plain) -/
theorem getEx_same (k : String) (e : Int) : (A.getEx k e).norm = (G.getEx k e).norm := by
  simp only [A.getEx, G.getEx, Out.norm, normalize_append, apply_ite normalize, ttl_same]
  rfl

/-- the divergence repaired by `fix: GetEx with a zero expiration sends GETEX key PERSIST` -/
theorem getEx_old_zero_differed (k : String) : (A.getExOld k 0).norm ≠ (G.getEx k 0).norm := by
  simp [A.getExOld, G.getEx, Out.norm, normalize, normTok]

theorem expire_same (k : String) (d : Int) (mode : String) : (A.expire k d mode).norm = (G.expire k d mode).norm := by
  simp only [A.expire, G.expire, Out.norm, normalize_append, apply_ite normalize]
  rfl

theorem pExpire_same (k : String) (d : Int) : (A.pExpire k d).norm = (G.pExpire k d).norm := rfl
theorem expireAt_same (k : String) (u : Int) : (A.expireAt k u).norm = (G.expireAt k u).norm := rfl
theorem pExpireAt_same (k : String) (u n : Int) : (A.pExpireAt k u n).norm = (G.pExpireAt k u n).norm := rfl

/-- BitCount for every argument, including nil, an empty unit and unknown units (both send nothing) -/
theorem bitCount_same (k : String) (bc : Option (Int × Int × String)) : (A.bitCount k bc).norm = (G.bitCount k bc).norm := by
  unfold A.bitCount G.bitCount
  split
  · rfl
  · split
    · rfl
    · split <;> rfl

theorem bitPos_same (k : String) (bit : Int) (pos : List Int) : (A.bitPos k bit pos).norm = (G.bitPos k bit pos).norm := by
  unfold A.bitPos G.bitPos
  split
  · simp [Out.norm, normalize, normTok]
  · rfl

/-- BitPosSpan for the spans Redis knows (bit / byte in either letter case) -/
theorem bitPosSpan_same_partial (k : String) (bit st en : Int) (span : String)
    (h : (span.toLower = "bit" ∧ span.toUpper = "BIT") ∨ (span.toLower ≠ "bit" ∧ span.toUpper = "BYTE")) :
    (A.bitPosSpan k bit st en span).norm = (G.bitPosSpan k bit st en span).norm := by
  rcases h with ⟨h1, h2⟩ | ⟨h1, h2⟩ <;> simp [A.bitPosSpan, G.bitPosSpan, Out.norm, normalize, normTok, h1, h2]

private theorem scanTail_same (m : String) (c : Int) : normalize (A.scanTail m c) = normalize (G.scanTail m c) := by
  simp only [A.scanTail, G.scanTail, normalize_append, apply_ite normalize]
  rfl

theorem scan_same (c : Int) (m : String) (n : Int) : (A.scan c m n).norm = (G.scan c m n).norm := by
  simp only [A.scan, G.scan, Out.norm, normalize_append, scanTail_same]
  rfl

theorem keyScan_same (name k : String) (c : Int) (m : String) (n : Int) :
    (A.keyScan name k c m n).norm = (G.keyScan name k c m n).norm := by
  simp only [A.keyScan, G.keyScan, Out.norm, normalize_append, scanTail_same]
  rfl

/-- ScanType for every argument, including an empty type (TYPE omitted by both) -/
theorem scanType_same (c : Int) (m : String) (n : Int) (ty : String) :
    (A.scanType c m n ty).norm = (G.scanType c m n ty).norm := by
  simp only [A.scanType, G.scanType, Out.norm, normalize_append, apply_ite normalize, scanTail_same]
  rfl

/-- the divergence repaired by `fix: ScanType omits TYPE when keyType is empty` -/
theorem scanType_old_empty_differed (c : Int) (m : String) (n : Int) :
    (A.scanTypeOld c m n "").norm ≠ (G.scanType c m n "").norm := by
  simp [A.scanTypeOld, G.scanType, Out.norm, normalize_append, scanTail_same, normalize_cons,
    show normalize [] = [] from rfl]

theorem lInsert_same_partial (k op p v : String)
    (h : op.toUpper = "BEFORE" ∨ op.toUpper = "AFTER") :
    (A.lInsert k op p v).norm = (G.lInsert k op p v).norm := by
  rcases h with h | h <;> simp [A.lInsert, G.lInsert, Out.norm, normalize, normTok, h]

theorem lInsertBefore_same (k p v : String) : (A.lInsertBefore k p v).norm = (G.lInsertBefore k p v).norm := rfl
theorem lInsertAfter_same (k p v : String) : (A.lInsertAfter k p v).norm = (G.lInsertAfter k p v).norm := rfl

theorem copy_same (a b : String) (db : Int) (r : Bool) : (A.copy a b db r).norm = (G.copy a b db r).norm := by
  cases r <;> rfl

/-- any argv written once in the piece language and sent with upper-case keywords by the adapter and
    lower-case keywords by go-redis is the same command after normalisation — for every argument -/
theorem build_norm (ps : List Piece) : normalize (build true ps) = normalize (build false ps) := by
  induction ps with
  | nil => rfl
  | cons p t ih =>
    simp only [build, normalize, List.map_cons, List.cons.injEq] at *
    exact ⟨by cases p <;> rfl, ih⟩

/-- ZAdd, ZAddNX/XX/LT/GT, ZAddArgs, ZAddArgsIncr: every flag combination, any members -/
theorem zAdd_same (k : String) (incr nx xx lt gt ch : Bool) (sc : List Int) (ms : List String) :
    normalize (build true (P.zAdd k incr nx xx lt gt ch sc ms)) = normalize (build false (P.zAdd k incr nx xx lt gt ch sc ms)) :=
  build_norm _

/-- what the flags mean (both libraries): NX alone; otherwise XX and one of GT/LT may be combined —
    in particular XX together with GT sends both (the seeded "switch" refactoring loses GT) -/
theorem zAdd_flag_semantics (k : String) (incr lt ch : Bool) (sc : List Int) (ms : List String) :
    P.zAdd k incr false true lt true ch sc ms =
      [.kw "ZADD", .str k, .kw "XX", .kw "GT"] ++ P.opt ch [.kw "CH"] ++ P.opt incr [.kw "INCR"] ++ P.pairs sc ms ∧
    P.zAdd k incr false true true false ch sc ms =
      [.kw "ZADD", .str k, .kw "XX", .kw "LT"] ++ P.opt ch [.kw "CH"] ++ P.opt incr [.kw "INCR"] ++ P.pairs sc ms ∧
    P.zAdd k incr true true true true ch sc ms =
      [.kw "ZADD", .str k, .kw "NX"] ++ P.opt ch [.kw "CH"] ++ P.opt incr [.kw "INCR"] ++ P.pairs sc ms := by
  simp [P.zAdd, P.opt]

/-- ZRangeArgs / ZRangeArgsWithScores / ZRangeStore whenever REV is not combined with BYSCORE/BYLEX
    (or start = stop) -/
theorem zRange_same_partial (cmd : String) (keys : List String) (a b : String) (bs bl rv : Bool) (o c : Int) (ws : Bool)
    (h : (rv && (bs || bl)) = false ∨ a = b) :
    normalize (build true (P.zRangeA cmd keys a b bs bl rv o c ws)) =
      normalize (build false (P.zRangeG cmd keys a b bs bl rv o c ws)) := by
  have : P.zRangeG cmd keys a b bs bl rv o c ws = P.zRangeA cmd keys a b bs bl rv o c ws := by
    unfold P.zRangeG P.zRangeA
    rcases h with h | h
    · simp [h]
    · subst h; simp
  rw [this]; exact build_norm _

/-- DIVERGENCE (pinned by the adapter's own tests, which pass max first): with REV+BYSCORE/BYLEX go-redis
    swaps <start> and <stop>, the adapter sends them as given -/
theorem zRange_rev_by_differs :
    normalize (build true (P.zRangeA "ZRANGE" ["k"] "1" "4" true false true 0 0 false)) ≠
      normalize (build false (P.zRangeG "ZRANGE" ["k"] "1" "4" true false true 0 0 false)) := by
  decide

theorem zRangeBy_same (cmd k a b : String) (ws : Bool) (o c : Int) :
    normalize (build true (P.zRangeBy cmd k a b ws o c)) = normalize (build false (P.zRangeBy cmd k a b ws o c)) :=
  build_norm _

theorem zStore_same (cmd : String) (d ks : List String) (w : List Int) (ag : String) (ws : Bool) :
    normalize (build true (P.zStore cmd d ks w ag ws)) = normalize (build false (P.zStore cmd d ks w ag ws)) :=
  build_norm _

private theorem filter_strs (xs : List String) :
    (P.strs xs).filter (fun p => p != Piece.kw "=") = P.strs xs := by
  induction xs with
  | nil => rfl
  | cons x t ih => simp only [P.strs, List.map_cons] at *; simp [ih]

/-- XAdd: the adapter writes the exact-trim operator `=` explicitly, go-redis leaves it out; apart from
    that token the argv is the same.  MISSING: equality under `normalize` alone (the extra `=` token). -/
theorem xAdd_same_upto_explicit_eq_partial (st : String) (nm : Bool) (ml : Int) (mi : String) (ap : Bool) (li : Int)
    (id : String) (vals : List String) :
    (P.xAdd true st nm ml mi ap li id vals).filter (fun p => p != Piece.kw "=") = P.xAdd false st nm ml mi ap li id vals := by
  simp [P.xAdd, P.opt, filter_strs, apply_ite (List.filter _), apply_ite (fun x : Piece => [x])]

theorem xTrim_same_upto_explicit_eq_partial (k strat : String) (ap : Bool) (n li : Int) (hs : strat ≠ "=") :
    (P.xTrim true k strat ap (.num n) li).filter (fun p => p != Piece.kw "=") = P.xTrim false k strat ap (.num n) li := by
  simp [P.xTrim, P.opt, apply_ite (List.filter _), hs]

private theorem formatMs_plain (d : Int) (h : ¬ (0 < d ∧ d < ms)) : formatMs d = plainMs d := by
  simp [formatMs, plainMs, h]

/-- XRead / XReadGroup / XPendingExt for durations that are not strictly between 0 and 1 ms
    (there the adapter rounds up to 1 ms, go-redis truncates to 0) -/
theorem xRead_same_partial (ss : List String) (c b : Int) (h : ¬ (0 < b ∧ b < ms)) :
    normalize (build true (P.xRead ss c b (formatMs b))) = normalize (build false (P.xRead ss c b (plainMs b))) := by
  rw [formatMs_plain b h]; exact build_norm _

theorem xReadGroup_same_partial (g cn : String) (ss : List String) (c b : Int) (na : Bool) (h : ¬ (0 < b ∧ b < ms)) :
    normalize (build true (P.xReadGroup g cn ss c b (formatMs b) na)) =
      normalize (build false (P.xReadGroup g cn ss c b (plainMs b) na)) := by
  rw [formatMs_plain b h]; exact build_norm _

theorem xPendingExt_same_partial (st g a e cn : String) (idle c : Int) (h : ¬ (0 < idle ∧ idle < ms)) :
    normalize (build true (P.xPendingExt st g a e cn idle (formatMs idle) c)) =
      normalize (build false (P.xPendingExt st g a e cn idle (plainMs idle) c)) := by
  rw [formatMs_plain idle h]; exact build_norm _

theorem xAutoClaim_same (st g a cn : String) (mi c : Int) (j : Bool) :
    normalize (build true (P.xAutoClaim st g a cn mi c j)) = normalize (build false (P.xAutoClaim st g a cn mi c j)) :=
  build_norm _

private theorem build_append (up : Bool) (a b : List Piece) : build up (a ++ b) = build up a ++ build up b :=
  List.map_append

private theorem sortOrder_same (up : Bool) (ord : String) :
    normalize (build up (sortOrderA ord)) = normalize (build false (sortOrderG ord)) := by
  unfold sortOrderA sortOrderG P.opt
  split <;> rfl

/-- Sort / SortRO / SortStore: the adapter upper-cases the order, go-redis forwards it as given —
    the same keyword after normalisation (for the orders the adapter accepts; others it refuses) -/
theorem sort_same (cmd k by_ ord : String) (gets : List String) (o c : Int) (al : Bool) (store : List String) :
    normalize (build true (P.sort cmd k by_ (sortOrderA ord) gets o c al store)) =
      normalize (build false (P.sort cmd k by_ (sortOrderG ord) gets o c al store)) := by
  simp only [P.sort, build_append, normalize_append, build_norm, sortOrder_same]

theorem geoQuery_same (mb ru bu so : String) (lon lat r bw bh c : Int) (any : Bool) (pre post : List Piece) :
    normalize (build true (pre ++ P.geoQuery mb ru bu so lon lat r bw bh c any ++ post)) =
      normalize (build false (pre ++ P.geoQuery mb ru bu so lon lat r bw bh c any ++ post)) :=
  build_norm _

/-- for every value of the modelled sum type on which the libraries are
    expected to agree — nil, string, []byte, every integer kind, float64 (any bit pattern, incl. ±Inf, NaN,
    -0, 1e21, denormals), bool, time.Time, time.Duration, a BinaryMarshaler that succeeds — the adapter's
    `str` sends the token go-redis' `WriteArg` sends, modulo numeric spelling (fmt %v vs 'f' -1 64 of the
    same double) -/
theorem str_matches_goredis (v : AnyVal) (h : v.common = true) :
    some (normTok (A.str v)) = (G.appendArg v).map normTok := by
  cases v <;> simp_all [AnyVal.common, A.str, G.appendArg, normTok]

/-- time.Time is sent as its RFC3339Nano text by both, never as MarshalBinary bytes, although
    time.Time implements encoding.BinaryMarshaler (the order of the type switch matters) -/
theorem str_time_is_text (rfc bin : String) : A.str (.time rfc bin) = S rfc ∧ G.appendArg (.time rfc bin) = some (S rfc) :=
  ⟨rfl, rfl⟩

/-- the whole argv of every `any`-taking method agrees when the value does -/
theorem any_method_same (m : String) (v : AnyVal) (h : v.common = true) (a g : Out) (hb : bothAny m v = some (a, g)) :
    a.norm = g.norm := by
  unfold bothAny at hb
  have hv := str_matches_goredis v h
  split at hb
  · cases hb
  · cases hg : G.appendArg v with
    | none => simp [hg] at hv
    | some gt =>
      simp only [hg, Option.map_some, Option.some.injEq, Prod.mk.injEq] at hv hb
      obtain ⟨rfl, rfl⟩ := hb
      simp only [Out.norm, Out.argv.injEq, normalize_append, build_norm]
      simp [normalize, List.map_replicate, hv]

/-- OBSERVATIONS (not failures: outside "same value modulo numeric spelling" only at float32 precision,
    or types go-redis rejects): float32 — the adapter sends the shortest float32 spelling, go-redis the
    float64 expansion; net.IP — text vs raw bytes; other types — fmt.Sprint vs "can't marshal" -/
theorem str_observed_differences :
    A.str (.f32 0x3dcccccd "0.10000000149011612" "0.1") = S "0.1" ∧
    G.appendArg (.f32 0x3dcccccd "0.10000000149011612" "0.1") = some (S "0.10000000149011612") ∧
    A.str (.ip "\x7f\x00\x00\x01" "127.0.0.1") = S "127.0.0.1" ∧
    G.appendArg (.ip "\x7f\x00\x00\x01" "127.0.0.1") = some (S "\x7f\x00\x00\x01") ∧
    G.appendArg (.stringer "x") = none ∧ G.appendArg (.marshaler "" "x" false) = none :=
  ⟨rfl, rfl, rfl, rfl, rfl, rfl⟩

/-- coverage: number of adapter methods with a transcribed reference -/
theorem coverage_count : covered.length = 104 := by decide

/-! ### Non-vacuity -/
example : (A.set "k" "v" (1500 * ms)).norm = .argv [U "SET", S "k", S "v", U "PX", N 1500] := by decide
example : G.set "k" "v" (2 * sec) = .argv [L "SET", S "k", S "v", L "EX", N 2] := by decide
example : G.getEx "k" 0 = .argv [L "GETEX", S "k", L "PERSIST"] := by decide

end Rv.C42
